/-
  What YkProps/C06.lean and YkProps/C10.lean state beyond preservation.  Step-level theorems about single operations of
  the stepped Core model: for C06 the placeholder timeout (`phTimeout` / `phTimeoutOf`), for C10 an accepted `ask`.
  Two histories from the empty partition in which a node removal rolls back an in-flight swap of an application that
  has just become Completing (`exOpsC10`, `exOpsC10b`: the application runs again with the ask outstanding).  The side
  conditions of `reachable_life` on the example histories.
-/
import YkProofs.Core2LifeRun
import YkProofs.Core2LinkExample
namespace Yk
open Res Core

namespace LifeE

/-! ### facts about the application state machine -/

/-- the entries of the generated table for FailApplication and ResumeApplication that the theorems below name, evaluated
    together (RunApplication and CompleteApplication in general: `Life.fireState_run`, `Life.fireState_complete`) -/
theorem fire_table :
    fireState "Accepted" .fail = "Failing" ∧ fireState "New" .fail = "Failing" ∧
    fireState "Accepted" .resume = "Resuming" ∧ fireState "New" .resume = "Resuming" := by decide +kernel

theorem fire_accepted_fail : fireState "Accepted" .fail = "Failing" := fire_table.1
theorem fire_new_fail : fireState "New" .fail = "Failing" := fire_table.2.1
theorem fire_accepted_resume : fireState "Accepted" .resume = "Resuming" := fire_table.2.2.1
theorem fire_new_resume : fireState "New" .resume = "Resuming" := fire_table.2.2.2
theorem fire_completing_complete : fireState "Completing" .complete = "Completed" := fire_completing

/-! ### `dropAsksApp`: the state check at the end of removeAsksInternal -/

theorem dropAsksApp_state (b : CApp) :
    (dropAsksApp b).state =
      if (b.items.any (·.inReq) && isZero (some b.allocated) && b.state != "Failing" && b.state != "Completing" &&
          !((Timer.boundOnly b.items).any (fun y => y.ph))) = true
      then fireState b.state .complete else b.state :=
  Yk.dropAsksApp_state b

theorem dropAsksApp_state_keep (b : CApp) (h : b.state = "Failing" ∨ b.state = "Resuming" ∨ b.state = "Completing") :
    (dropAsksApp b).state = b.state := by
  rw [dropAsksApp_state]
  split
  · rename_i hc
    simp only [Bool.and_eq_true, bne_iff_ne, ne_eq] at hc
    rcases h with h | h | h
    · exact absurd h hc.1.1.2
    · rw [h, Life.fireState_complete]; simp
    · exact absurd h hc.1.2
  · rfl

/-! ### `phTimeout` (timeoutPlaceholderProcessing): the two cases and the application afterwards -/

/-- case 1 of timeoutPlaceholderProcessing: a Running / Completing application that still holds placeholders -/
def phCase1 (a : CApp) : Bool := (a.state == "Running" || a.state == "Completing") && !(isZero (some a.allocatedPh))

def phAppOf (a : CApp) (ev : Option String) : CApp :=
  if phCase1 a = true then { a with items := a.items.map relPh } else phApp2 a ev

theorem phTimeout_findApp (s : Core) (app : String) (ev : Option String) (a : CApp) (hfind : s.findApp app = some a) :
    (s.phTimeout app ev).findApp app = some (phAppOf a ev) := by
  obtain ⟨_, hl, hid⟩ := findApp_some hfind
  unfold phAppOf phCase1
  rw [phTimeout_eq s app ev a hfind]
  split
  · exact findApp_updApps (f := fun a => { a with items := a.items.map relPh }) rfl hfind hl hid
  · refine findApp_updApps (f := fun _ => phApp2 a ev) ((unreserveIf_maps _ _ a).1.trans ?_) hfind
      ((phApp2_live a ev).trans hl) ((phApp2_id a ev).trans hid)
    unfold phCore2
    cases a.items.any (·.inReq) <;> rfl

/-- case 2 marks every bound allocation that is not preempted as released -/
def relFlag2 (x : CItem) : CItem := if (x.bound && !x.preempted) = true then { x with released := true } else x

theorem phApp2_items (a : CApp) (ev : Option String) :
    (phApp2 a ev).items =
      if a.items.any (·.inReq) = true then Timer.boundOnly (a.items.map relFlag2) else a.items.map relFlag2 := by
  unfold phApp2
  rw [dropAsksApp_items, phApp1_anyReq, phApp1_items]
  rfl

theorem relFlag2_released (x : CItem) (hb : (relFlag2 x).bound = true) (hp : (relFlag2 x).preempted = false) :
    (relFlag2 x).released = true := by
  unfold relFlag2 at hb hp ⊢
  by_cases h : (x.bound && !x.preempted) = true
  · rw [if_pos h]
  · rw [if_neg h] at hb hp
    exact absurd (by simp [hb, hp]) h

theorem relPh_released (x : CItem) (hb : (relPh x).bound = true) (hph : (relPh x).ph = true)
    (hp : (relPh x).preempted = false) : (relPh x).released = true := by
  unfold relPh at hb hph hp ⊢
  by_cases h : (x.bound && x.ph && !x.released && !x.preempted) = true
  · rw [if_pos h]
  · rw [if_neg h] at hb hph hp ⊢
    cases hr : x.released with
    | true => rfl
    | false => exact absurd (by simp [hb, hph, hp, hr]) h

/-- the event the application announces: FailApplication (Hard) / ResumeApplication (Soft); an event that is not valid in
    the current state changes nothing -/
def phEv (hard : Bool) (a : CApp) : Option String :=
  let st := fireState a.state (if hard then .fail else .resume)
  if st == a.state then none else some st

/-- the state check at the end of removeAsksInternal does not touch an announced Failing / Resuming -/
theorem phAppOf_state2 (a : CApp) (st : String) (hc : phCase1 a = false) (hst : st = "Failing" ∨ st = "Resuming") :
    (phAppOf a (some st)).state = st := by
  unfold phAppOf phApp2
  rw [if_neg (by rw [hc]; exact Bool.false_ne_true)]
  have h1 : (phApp1 a (some st)).state = st := LifeC.phApp1_state a (some st)
  rw [dropAsksApp_state_keep _ (by rw [h1]; rcases hst with h | h <;> simp [h]), h1]

theorem isZero_false_of_sgtz {r : Res} (h : strictlyGreaterThanZero (some r) = true) : isZero (some r) = false := by
  unfold strictlyGreaterThanZero at h
  simp only at h
  split at h
  · cases h
  · obtain ⟨p, hp, hpos⟩ := List.any_eq_true.mp h
    cases hz : isZero (some r) with
    | false => rfl
    | true =>
      unfold isZero at hz
      simp only at hz
      have := List.all_eq_true.mp hz p hp
      simp only [beq_iff_eq] at this
      simp only [decide_eq_true_eq] at hpos
      omega

end LifeE

/-! ## C06 — timeoutPlaceholderProcessing -/

/-- timeoutPlaceholderProcessing of a Hard (`hard = true`: FailApplication) or Soft (ResumeApplication) gang application:
    the gang style is not part of the model state; an event that is not valid in the current state changes nothing. -/
def phTimeoutOf (hard : Bool) (s : Core) (app : String) : Core :=
  match s.findApp app with
  | none => s
  | some a =>
    let st := fireState a.state (if hard then .fail else .resume)
    s.phTimeout app (if st == a.state then none else some st)

theorem phTimeoutOf_eq (hard : Bool) (s : Core) (app : String) (a : CApp) (hfind : s.findApp app = some a) :
    phTimeoutOf hard s app = s.phTimeout app (LifeE.phEv hard a) := by
  unfold phTimeoutOf LifeE.phEv
  simp only [hfind]

/-- the application stays live in `phTimeout` -/
theorem phTimeoutOf_live (hard : Bool) (s : Core) (app : String) (a : CApp) (hfind : s.findApp app = some a) :
    ∃ a', (phTimeoutOf hard s app).findApp app = some a' ∧ a'.id = a.id ∧ a'.queue = a.queue ∧ a'.allocated = a.allocated ∧
      a'.allocatedPh = a.allocatedPh := by
  rw [phTimeoutOf_eq hard s app a hfind]
  refine ⟨_, LifeE.phTimeout_findApp s app _ a hfind, ?_⟩
  unfold LifeE.phAppOf
  split
  · exact ⟨rfl, rfl, rfl, rfl⟩
  · exact ⟨phApp2_id a _, phApp2_queue a _, phApp2_allocated a _, phApp2_allocatedPh a _⟩

/-- (i) an Accepted / New application is Failing (Hard gang style) or Resuming (Soft) afterwards -/
theorem phTimeoutOf_gang (hard : Bool) (s : Core) (app : String) (a : CApp) (hfind : s.findApp app = some a)
    (hst : a.state = "Accepted" ∨ a.state = "New") :
    ∃ a', (phTimeoutOf hard s app).findApp app = some a' ∧ a'.state = if hard = true then "Failing" else "Resuming" := by
  rw [phTimeoutOf_eq hard s app a hfind, LifeE.phTimeout_findApp s app _ a hfind]
  refine ⟨_, rfl, ?_⟩
  have hev : LifeE.phEv hard a = some (if hard = true then "Failing" else "Resuming") := by
    unfold LifeE.phEv
    rcases hst with h | h <;> cases hard <;>
      simp [h, LifeE.fire_accepted_fail, LifeE.fire_new_fail, LifeE.fire_accepted_resume, LifeE.fire_new_resume]
  have hc : LifeE.phCase1 a = false := by
    unfold LifeE.phCase1
    rcases hst with h | h <;> simp [h]
  rw [hev]
  exact LifeE.phAppOf_state2 a _ hc (by cases hard <;> simp)

/-- (ii) after case 2 every bound item that is not marked preempted is marked released -/
theorem LifeE.phApp2_released (a : CApp) (ev : Option String) :
    ∀ i ∈ (phApp2 a ev).items, i.bound = true → i.preempted = false → i.released = true := by
  intro i hi
  rw [LifeE.phApp2_items] at hi
  split at hi
  · obtain ⟨x, hx, _, rfl⟩ := mem_boundOnly hi
    obtain ⟨y, _, rfl⟩ := List.mem_map.mp hx
    exact LifeE.relFlag2_released y
  · obtain ⟨y, _, rfl⟩ := List.mem_map.mp hi
    exact LifeE.relFlag2_released y

/-- (ii) case 2 for an application with at least one request: the application's pending total leaves every queue of its
    chain (decPendingResource down the chain); the other queues and the allocated totals are untouched -/
theorem phTimeout_case2_queues (s : Core) (app : String) (ev : Option String) (a : CApp) (hw : CoreWF s) (hb : Books s)
    (hfind : s.findApp app = some a) (hc : LifeE.phCase1 a = false) (hreq : a.items.any (·.inReq) = true) :
    ∃ F : CQueue → CQueue, (s.phTimeout app ev).queues = s.queues.map F ∧ ∀ q ∈ s.queues,
      (F q).path = q.path ∧ (F q).allocated = q.allocated ∧
      (under a.queue q.path = true → ∀ k, (F q).pending.getD k = q.pending.getD k - a.pending.getD k) ∧
      (under a.queue q.path = false → (F q).pending = q.pending) := by
  obtain ⟨ham, hl, _⟩ := findApp_some hfind
  have sh := shape_phTimeout2 s app ev a hw hfind hc
  refine ⟨_, sh.queues, fun q hq => ?_⟩
  obtain ⟨u1, u2, u3⟩ := unresQ_irrel (a.items.any (·.inReq)) a (onChain (pathChain s a.queue) (rmQ0 a) q)
  rw [u1, u2, u3]
  by_cases hun : under a.queue q.path = true
  · have m := rmQ0_move a (hw.queue hq) (hw.app ham hl).appRes.1 (hb.pending_le hw ham hl hq hun)
    rw [onChain, if_pos ((chain_iff s a.queue q hq).mpr hun)]
    exact ⟨m.path, by unfold rmQ0; split <;> rfl, fun _ k => by rw [m.pending k, if_pos hreq], fun h => by rw [hun] at h; cases h⟩
  · rw [onChain, if_neg (fun h => hun ((chain_iff s a.queue q hq).mp h))]
    exact ⟨rfl, rfl, fun h => absurd h hun, fun _ => rfl⟩

/-! ## C10 — an ask that is accepted -/

/-- runApplication is fired for a New or Completing application; nothing else changes the state -/
theorem ask_accepted_state (s : Core) (app key : String) (res : Res) (ph : Bool) (tg reqNode : String) (a : CApp)
    (hfind : s.findApp app = some a) (hres : strictlyGreaterThanZero (some res) = true)
    (hnew : a.items.any (fun i => i.key == key && i.inReq) = false) :
    (s.ask app key res ph tg reqNode).2 = true ∧
    ∃ a', (s.ask app key res ph tg reqNode).1.findApp app = some a' ∧
      a'.state = if (a.state == "New" || a.state == "Completing") = true then fireState a.state .run else a.state := by
  obtain ⟨_, hl, hid⟩ := findApp_some hfind
  have hz := LifeE.isZero_false_of_sgtz hres
  unfold ask
  simp only [hfind, hz, hres, hnew, Bool.not_true, Bool.or_self, Bool.false_eq_true, if_false]
  exact ⟨trivial, _, findApp_updApps (s := s) (by rfl) hfind hl hid, rfl⟩

theorem ask_new_accepted (s : Core) (app key : String) (res : Res) (ph : Bool) (tg reqNode : String) (a : CApp)
    (hfind : s.findApp app = some a) (hst : a.state = "New")
    (hres : strictlyGreaterThanZero (some res) = true) (hnew : a.items.any (fun i => i.key == key && i.inReq) = false) :
    (s.ask app key res ph tg reqNode).2 = true ∧
    ∃ a', (s.ask app key res ph tg reqNode).1.findApp app = some a' ∧ a'.state = "Accepted" := by
  obtain ⟨h1, a', h2, h3⟩ := ask_accepted_state s app key res ph tg reqNode a hfind hres hnew
  exact ⟨h1, a', h2, by rw [h3, hst, Life.fireState_run]; decide⟩

/-! ## histories in which a node removal rolls back an in-flight swap (`LifeD.appCore_deallocAppRun`) -/

namespace Example
open Yk.Res

/-- A gang application with one bound placeholder `p1` (cpu 4) and one bound real allocation `rA` (cpu 1) on node `n1`
    asks for the real allocation `r1` (cpu 2); the scheduler starts the swap `r1` for `p1` on the same node (in flight:
    `r1` counts as allocated, the pending total is empty).  Then the node is removed: the real allocation `rA` goes first —
    nothing is pending, the real total is zero: the application becomes Completing —, then the swap is rolled back:
    `r1` is outstanding again and the application runs again.  The state timer then finds nothing to do. -/
def exOpsC10 : List Op :=
  [op1, op2, op3, op4,
   .ask "app" "rA" [("cpu", 1)] false "" "", .schedAlloc "app" "rA" "n1",
   op5, op6,
   .nodeRemove "n1" [("app", "rA"), ("app", "p1")],
   .stateTimeout "app"]

/-- the side conditions of `reachable_linked` (`runOKb2`), that no scheduling decision is refused (`run?`), and the
    snapshots before and after the node removal and at the end: evaluated together, since the runs share their prefixes -/
theorem exC10_checked :
    runOKb2 ex0 exOpsC10 = true ∧ (run? ex0 exOpsC10).isSome = true ∧
    (∃ a, (run ex0 (exOpsC10.take 8)).findApp "app" = some a ∧ a.state = "Running" ∧ a.pending = [] ∧
      ∃ i ∈ a.items, i.release ≠ none) ∧
    (∃ a, (run ex0 (exOpsC10.take 9)).findApp "app" = some a ∧ a.state = "Running" ∧
      a.log = ["Accepted", "Running", "Completing", "Running"] ∧ a.pending = [("cpu", 2)] ∧
      ∃ i ∈ a.items, i.key = "r1" ∧ i.outstanding = true) ∧
    (∃ a, (run ex0 exOpsC10).findApp "app" = some a ∧ a.state = "Running" ∧ a.pending = [("cpu", 2)] ∧
      ∃ i ∈ a.items, i.key = "r1" ∧ i.outstanding = true) := by decide +kernel

theorem exOpsC10_ok2 : RunOK2 ex0 exOpsC10 := runOKb2_sound _ _ exC10_checked.1

theorem exC10_reachable_linked :
    Books (run ex0 exOpsC10) ∧ CoreWF (run ex0 exOpsC10) ∧ Linked (run ex0 exOpsC10) :=
  reachable_linked ex0 exOpsC10 wf_ex0 books_ex0 linked_ex0 exOpsC10_ok2

theorem exOpsC10_run : (run? ex0 exOpsC10).isSome = true := exC10_checked.2.1

theorem lifeInv_ex0 : LifeInv ex0 :=
  { pos := fun _ ha => by cases ha
    posNode := fun _ hn => by cases hn
    completingNoReal := fun _ ha => by cases ha
    noPhOrphan := fun _ ha => by cases ha
    completedNoReal := fun _ ha => by cases ha
    termGone := fun _ ha => by cases ha }

theorem noPendInv_ex0 : NoPendInv ex0 := ⟨fun _ ha => (by cases ha), fun _ ha => (by cases ha)⟩

theorem coreInv_ex0 : CoreInv ex0 := ⟨wf_ex0, books_ex0, linked_ex0, lifeInv_ex0⟩

theorem exC10_before : ∃ a, (run ex0 (exOpsC10.take 8)).findApp "app" = some a ∧ a.state = "Running" ∧ a.pending = [] ∧
    ∃ i ∈ a.items, i.release ≠ none := exC10_checked.2.2.1

/-- the state log shows the Completing the application passed through inside the removal -/
theorem exC10_after_removal : ∃ a, (run ex0 (exOpsC10.take 9)).findApp "app" = some a ∧ a.state = "Running" ∧
    a.log = ["Accepted", "Running", "Completing", "Running"] ∧ a.pending = [("cpu", 2)] ∧
    ∃ i ∈ a.items, i.key = "r1" ∧ i.outstanding = true := exC10_checked.2.2.2.1

/-- the state timer, armed on the way and cleared by leaving Completing, changes nothing -/
theorem exC10_end : ∃ a, (run ex0 exOpsC10).findApp "app" = some a ∧ a.state = "Running" ∧ a.pending = [("cpu", 2)] ∧
    ∃ i ∈ a.items, i.key = "r1" ∧ i.outstanding = true := exC10_checked.2.2.2.2

/-- A variant with a second placeholder `p2` on another node `n2`: the application is Running after the node removal, the
    state timer does nothing, and the release of `p2` (TIMEOUT, the last placeholder) leaves it Running: pending is not
    zero. -/
def exOpsC10b : List Op :=
  [op1, .nodeCreate "n2" [("cpu", 10)] true, op2,
   .ask "app" "p1" [("cpu", 2)] true "tg" "", .ask "app" "p2" [("cpu", 2)] true "tg" "",
   .schedAlloc "app" "p1" "n1", .schedAlloc "app" "p2" "n2",
   .ask "app" "rA" [("cpu", 1)] false "" "", .schedAlloc "app" "rA" "n1",
   op5, op6,
   .nodeRemove "n1" [("app", "rA"), ("app", "p1")],
   .stateTimeout "app",
   .release .timeout "app" "p2"]

theorem exC10b_checked :
    runOKb2 ex0 exOpsC10b = true ∧ (run? ex0 exOpsC10b).isSome = true ∧
    (∃ a, (run ex0 (exOpsC10b.take 11)).findApp "app" = some a ∧ a.state = "Running" ∧ a.pending = [] ∧
      ∃ i ∈ a.items, i.release ≠ none) ∧
    (∃ a, (run ex0 (exOpsC10b.take 12)).findApp "app" = some a ∧ a.state = "Running" ∧
      a.log = ["Accepted", "Running", "Completing", "Running"] ∧ a.pending = [("cpu", 2)] ∧ a.allocatedPh = [("cpu", 2)] ∧
      ∃ i ∈ a.items, i.key = "r1" ∧ i.outstanding = true) ∧
    (∃ a, (run ex0 exOpsC10b).findApp "app" = some a ∧ a.state = "Running" ∧ a.pending = [("cpu", 2)] ∧
      a.allocatedPh = [] ∧ ∃ i ∈ a.items, i.key = "r1" ∧ i.outstanding = true) := by decide +kernel

theorem exOpsC10b_ok2 : RunOK2 ex0 exOpsC10b := runOKb2_sound _ _ exC10b_checked.1

theorem exC10b_reachable_linked :
    Books (run ex0 exOpsC10b) ∧ CoreWF (run ex0 exOpsC10b) ∧ Linked (run ex0 exOpsC10b) :=
  reachable_linked ex0 exOpsC10b wf_ex0 books_ex0 linked_ex0 exOpsC10b_ok2

theorem exOpsC10b_run : (run? ex0 exOpsC10b).isSome = true := exC10b_checked.2.1

theorem exC10b_before : ∃ a, (run ex0 (exOpsC10b.take 11)).findApp "app" = some a ∧ a.state = "Running" ∧ a.pending = [] ∧
    ∃ i ∈ a.items, i.release ≠ none := exC10b_checked.2.2.1

theorem exC10b_after_removal : ∃ a, (run ex0 (exOpsC10b.take 12)).findApp "app" = some a ∧ a.state = "Running" ∧
    a.log = ["Accepted", "Running", "Completing", "Running"] ∧ a.pending = [("cpu", 2)] ∧ a.allocatedPh = [("cpu", 2)] ∧
    ∃ i ∈ a.items, i.key = "r1" ∧ i.outstanding = true := exC10b_checked.2.2.2.1

theorem exC10b_end : ∃ a, (run ex0 exOpsC10b).findApp "app" = some a ∧ a.state = "Running" ∧ a.pending = [("cpu", 2)] ∧
    a.allocatedPh = [] ∧ ∃ i ∈ a.items, i.key = "r1" ∧ i.outstanding = true := exC10b_checked.2.2.2.2

theorem exOps_life : RunLifeOK ex0 exOps := runLifeOK_of _ _ exOps_ok2 (by decide)
theorem exOps2_life : RunLifeOK ex0 exOps2 := runLifeOK_of _ _ exOps2_ok2 (by decide)
theorem exOps3_life : RunLifeOK ex0 exOps3 := runLifeOK_of _ _ exOps3_ok2 (by decide)
theorem exOpsC10b_life : RunLifeOK ex0 exOpsC10b := runLifeOK_of _ _ exOpsC10b_ok2 (by decide)

/-- no node removal of `exOps` rolls back a swap (its only removal hits an empty node) -/
theorem exOps_noRollback : RunNoRollback ex0 exOps := by
  -- cut before the removal, so that the state it starts from is `run ex0 (exOps.take 8)` as written
  refine RunNoRollback.append ex0 (exOps.take 8) (exOps.drop 8)
    ⟨True.intro, True.intro, True.intro, True.intro, True.intro, True.intro, True.intro, True.intro, True.intro⟩
    ⟨?_, True.intro⟩
  intro n hn p hp
  have e : ((run ex0 (exOps.take 8)).findNode "n1").map (fun n => (n.allocs, n.reservations)) = some ([], []) := by
    decide +kernel
  rw [hn] at e
  simp only [Option.map_some, Option.some.injEq, Prod.mk.injEq] at e
  simp only [nodeRest, e.1, List.filter_nil, List.map_nil, List.nil_append, List.not_mem_nil] at hp

end Example
end Yk
