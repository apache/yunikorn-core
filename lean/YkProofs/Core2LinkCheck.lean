/-
  Executable checkers for the reduced side conditions of the stepped model (`Op.ok2`, YkProofs/Core2LinkRun.lean) and for
  the linkage invariant `Linked`, SUFFICIENT as in YkProofs/Core2Check.lean: `runOKb2_sound` makes `reachable_linked`
  applicable to concrete histories by evaluation, `linked_of_b` gives `Linked` of a concrete state.
-/
import YkProofs.Core2LinkRun
import YkProofs.Core2Check
namespace Yk
open Res Core

/-! ### `OnNode`, `Linked` -/

def onNodeAppb (s : Core) (app : String) (i : CItem) : Bool :=
  match s.findNode i.node with
  | none => false
  | some n => n.allocs.any (fun x => x.key == i.key && x.app == app && !x.foreign && sparseEq x.res i.res)

theorem onNodeApp_of_b {s : Core} {app : String} {i : CItem} (h : onNodeAppb s app i = true) : OnNode s app i := by
  unfold onNodeAppb at h
  split at h
  · cases h
  · rename_i n hn
    obtain ⟨x, hx, hc⟩ := List.any_eq_true.mp h
    simp only [Bool.and_eq_true, beq_iff_eq, Bool.not_eq_true'] at hc
    exact ⟨n, hn, x, hx, hc.1.1.1, hc.1.1.2, hc.1.2, sparseEq_getD hc.2⟩

def linkedb (s : Core) : Bool :=
  s.apps.all (fun a => !a.live || a.items.all (fun i => !i.bound || onNodeAppb s a.id i))

theorem linked_of_b {s : Core} (h : linkedb s = true) : Linked s := by
  intro a ha hl i hi hbd
  have h1 := List.all_eq_true.mp h a ha
  simp only [hl, Bool.not_true, Bool.false_or] at h1
  have h2 := List.all_eq_true.mp h1 i hi
  simp only [hbd, Bool.not_true, Bool.false_or] at h2
  exact onNodeApp_of_b h2

/-! ### `SwapLinkOK` -/

/-- what `SwapLinkOK` asks of the main path: what `SwapOK` asks (`swapCaseOKb`), and in the cross-node case the real half
    is parked on its node -/
def swapLinkCaseOKb (s : Core) (app : String) (a : CApp) (p r : CItem) : Bool :=
  swapCaseOKb s a p r && (decide (r.node = p.node) || onNodeAppb s app r)

def swapLinkOKb (s : Core) (app phKey : String) : Bool :=
  match s.findApp app with
  | none => true
  | some a =>
    match a.items.find? (·.key == phKey) with
    | none => true
    | some p =>
      !(p.bound && p.ph) ||
      match p.release.bind (findReal s a) with
      | none => true
      | some r => swapLinkCaseOKb s app a p r

theorem swapLinkCaseOK_of_b {s : Core} {app phKey : String} (hb : swapLinkOKb s app phKey = true) {a : CApp} {p r : CItem}
    (hc : SwapCase s app phKey a p r) : swapLinkCaseOKb s app a p r = true := by
  unfold swapLinkOKb at hb
  simp only [hc.app, hc.item, hc.isPh, hc.real, Bool.not_true, Bool.false_or] at hb
  exact hb

theorem swapLinkOK_of_b {s : Core} {app phKey : String} (hb : swapLinkOKb s app phKey = true) : SwapLinkOK s app phKey := by
  have h : ∀ a p r, SwapCase s app phKey a p r →
      swapCaseOKb s a p r = true ∧ (r.node = p.node ∨ onNodeAppb s app r = true) := by
    intro a p r hc
    simpa only [swapLinkCaseOKb, Bool.and_eq_true, Bool.or_eq_true, decide_eq_true_eq] using swapLinkCaseOK_of_b hb hc
  refine ⟨fun a p r hc => (swapCaseOK_sound (h a p r hc).1).1, fun a p r hc => (swapCaseOK_sound (h a p r hc).1).2.1,
    fun a p r hc => (swapCaseOK_sound (h a p r hc).1).2.2, fun a p r hc hnode => ?_⟩
  rcases (h a p r hc).2 with h' | h'
  · exact absurd h' hnode
  · exact onNodeApp_of_b h'

/-! ### `NodeLinkOK`, `NodeLinkLoopOK`, `NodeRemoveLinkOK` -/

/-- a bound placeholder on the node whose real half is an item of the application that waits on another node: the real
    half is parked there -/
def nodeLinkOKb (c : Core) (nodeId app key : String) : Bool :=
  match c.findApp app with
  | none => true
  | some a =>
    match a.items.find? (·.key == key) with
    | none => true
    | some i =>
      match i.release with
      | none => true
      | some rk =>
        !(i.ph && i.bound) ||
        match a.items.find? (·.key == rk) with
        | none => true
        | some r => decide (r.node = nodeId) || onNodeAppb c app r

theorem nodeLinkOK_of_b {c : Core} {nodeId app key : String} (hb : nodeLinkOKb c nodeId app key = true) :
    NodeLinkOK c nodeId app key := by
  refine ⟨?_⟩
  intro a i rk r ha hi hrel hph hreal hnode hbd
  simp only [nodeLinkOKb, ha, hi, hrel, hph, hbd, hreal, Bool.and_self, Bool.not_true, Bool.false_or, Bool.or_eq_true,
    decide_eq_true_eq] at hb
  rcases hb with h | h
  · exact absurd h hnode
  · exact onNodeApp_of_b h

def nodeLinkLoopOKb (nodeId : String) : Core → List (String × String) → Bool
  | _, [] => true
  | c, p :: t => nodeLinkOKb c nodeId p.1 p.2 && nodeLinkLoopOKb nodeId (nodeRmAlloc c nodeId p.1 p.2) t

theorem nodeLinkLoopOK_of_b {nodeId : String} {c : Core} {l : List (String × String)}
    (hb : nodeLinkLoopOKb nodeId c l = true) : NodeLinkLoopOK nodeId c l := by
  induction l generalizing c with
  | nil => trivial
  | cons p t ih =>
    simp only [nodeLinkLoopOKb, Bool.and_eq_true] at hb
    exact ⟨nodeLinkOK_of_b hb.1, ih hb.2⟩

def nodeRemoveLinkOKb (s : Core) (id : String) (order : List (String × String)) : Bool :=
  match s.findNode id with
  | none => true
  | some n => nodeLinkLoopOKb id (n.reservations.foldl (fun c k => unreserveOn c id k) s) (order ++ nodeRest n order)

theorem nodeRemoveLinkOK_of_b {s : Core} {id : String} {order : List (String × String)}
    (hb : nodeRemoveLinkOKb s id order = true) : NodeRemoveLinkOK s id order := by
  intro n hn
  simp only [nodeRemoveLinkOKb, hn] at hb
  exact nodeLinkLoopOK_of_b hb

/-! ### one step, a history -/

/-- the executable reduced side condition of one step (same cases as `Op.ok2`) -/
def Op.okb2 (s : Core) : Op → Bool
  | .nodeCreate _ cap _ => wf cap
  | .nodeUpdate _ cap => wf cap
  | .nodeSchedulable _ _ => true
  | .nodeRemove id order => nodeRemoveOKb s id order && nodeRemoveLinkOKb s id order
  | .foreignAdd key node res => wf res && freshOnNodeb s node key
  | .foreignRemove _ => true
  | .appAdd _ nq => freshQueuesOKb s nq
  | .appRemove _ => true
  | .ask app key res _ _ _ => askOKb s app key res
  | .schedAlloc _ key node => freshOnNodeb s node key
  | .swapStart _ realKey _ node => freshOnNodeb s node realKey
  | .swapConfirm app phKey => swapLinkOKb s app phKey
  | .releaseKey _ _ => true
  | .release _ _ _ => true
  | .releaseApp _ _ => true
  | .markReleased _ _ _ => true
  | .phTimeout _ _ => true
  | .stateTimeout _ => true
  | .cleanup => true
  | .reserve _ _ _ => true
  | .unreserve _ _ _ => true

theorem okb2_sound {s : Core} {op : Op} (h : op.okb2 s = true) : op.ok2 s := by
  cases op with
  | nodeCreate id cap b => exact h
  | nodeUpdate id cap => exact h
  | nodeRemove id order =>
    have h' : (nodeRemoveOKb s id order && nodeRemoveLinkOKb s id order) = true := h
    rw [Bool.and_eq_true] at h'
    exact ⟨nodeRemoveOK_of_b h'.1, nodeRemoveLinkOK_of_b h'.2⟩
  | foreignAdd key node res =>
    have h' : (wf res && freshOnNodeb s node key) = true := h
    rw [Bool.and_eq_true] at h'
    exact ⟨h'.1, freshOnNode_of_b h'.2⟩
  | appAdd a nq => exact freshQueuesOK_of_b h
  | ask app key res ph tg reqNode => exact askOK_of_b h
  | schedAlloc app key node => exact freshOnNode_of_b h
  | swapStart app realKey phKey node => exact freshOnNode_of_b h
  | swapConfirm app phKey => exact swapLinkOK_of_b h
  | _ => trivial

def runOKb2 : Core → List Op → Bool
  | _, [] => true
  | s, op :: t => op.okb2 s && runOKb2 (op.apply s) t

theorem runOKb2_sound (s : Core) (ops : List Op) (h : runOKb2 s ops = true) : RunOK2 s ops := by
  induction ops generalizing s with
  | nil => trivial
  | cons op t ih =>
    simp only [runOKb2, Bool.and_eq_true] at h
    exact ⟨okb2_sound h.1, ih _ h.2⟩

theorem reachable_linked_b (s : Core) (ops : List Op) (hw : CoreWF s) (hb : Books s) (hl : linkedb s = true)
    (h : runOKb2 s ops = true) : Books (run s ops) ∧ CoreWF (run s ops) ∧ Linked (run s ops) :=
  reachable_linked s ops hw hb (linked_of_b hl) (runOKb2_sound s ops h)

end Yk
