/- Manager level accounting for GROUP trackers, histories without configuration reloads: the usage a group tracker holds
   is the sum of the live allocations of the applications linked to the group (YkProps/C05 group_usage_is_sum_partial). -/
import YkProofs.UgmUserAcct
import YkProofs.UgmAnchor
namespace Yk.Ugm
open Yk Yk.Res

/-! ### links, resolution and configuration maps -/

theorem groupAllocs_congr {m m' : Mgr} {L : List (String × Alloc)} (h : ∀ e ∈ L, linkOf m' e.1 e.2.app = linkOf m e.1 e.2.app)
    (g : String) : groupAllocs m' L g = groupAllocs m L g := by
  unfold groupAllocs
  congr 1
  apply List.filter_congr
  intro e he
  rw [groupForApp_congr (h e he)]

theorem ensureGroupAux_congr {m m' : Mgr} (h1 : m'.confGroups = m.confGroups) (h2 : m'.groupWild = m.groupWild) (ugs : List String) :
    ∀ (n : Nat) (p : Path), ensureGroupAux m' ugs n p = ensureGroupAux m ugs n p := by
  intro n
  induction n with
  | zero => intro p; rfl
  | succ n ih => intro p; simp only [ensureGroupAux, h1, h2, ih]

theorem ensureGroup_congr {m m' : Mgr} (h1 : m'.confGroups = m.confGroups) (h2 : m'.groupWild = m.groupWild) (ugs : List String)
    (q : Path) : ensureGroup m' ugs q = ensureGroup m ugs q := by
  unfold ensureGroup; rw [ensureGroupAux_congr h1 h2]

/-! ### the invariant -/

/-- Manager.groupTrackers against the ledger `L`.  `resolv` (every group some (ugs, q) resolves to has its tracker already)
    makes ensureGroupTrackerForApp create nothing (`eGTFA_groups_eq`) and is what a configuration reload would break.
    `trees` leaves out `g = ""`: `groupAllocs m L ""` collects the allocations of the applications WITHOUT a group. -/
structure GInv (m : Mgr) (L : List (String × Alloc)) : Prop where
  u : UInv m.users L
  uniq : ∀ e1 ∈ L, ∀ e2 ∈ L, e1.2.app = e2.2.app → e1.1 = e2.1
  haslink : ∀ e ∈ L, (linkOf m e.1 e.2.app).isSome = true
  linked : ∀ u app g, linkOf m u app = some (some g) → ahas m.groups g = true
  resolv : ∀ ugs q, ensureGroup m ugs q ≠ "" → ahas m.groups (ensureGroup m ugs q) = true
  anch : ∀ g gt, aget m.groups g = some gt → Anchored gt.qt
  trees : ∀ g gt, g ≠ "" → aget m.groups g = some gt → Inv gt.qt (groupAllocs m L g)

/-- every operation below preserves `GInv` through this one step -/
theorem ginv_step {m m' : Mgr} {L L' : List (String × Alloc)} (h : GInv m L) (hu : UInv m'.users L')
    (huniq : ∀ e1 ∈ L', ∀ e2 ∈ L', e1.2.app = e2.2.app → e1.1 = e2.1)
    (hkeep : ∀ e ∈ L', linkOf m' e.1 e.2.app = linkOf m e.1 e.2.app ∧ (linkOf m e.1 e.2.app).isSome = true)
    (hlinked : ∀ u app g, linkOf m' u app = some (some g) → ahas m.groups g = true)
    (hc1 : m'.confGroups = m.confGroups) (hc2 : m'.groupWild = m.groupWild)
    (hhas : ∀ g, ahas m.groups g = true → ahas m'.groups g = true)
    (hgr : ∀ g gt', aget m'.groups g = some gt' → ∃ gt, aget m.groups g = some gt ∧ (Anchored gt.qt → Anchored gt'.qt) ∧
      (g ≠ "" → Inv gt.qt (groupAllocs m L g) → Inv gt'.qt (groupAllocs m L' g))) : GInv m' L' := by
  refine ⟨hu, huniq, ?_, ?_, ?_, ?_, ?_⟩
  · intro e he; rw [(hkeep e he).1]; exact (hkeep e he).2
  · intro u app g hlk; exact hhas g (hlinked u app g hlk)
  · intro ugs q hne
    rw [ensureGroup_congr hc1 hc2] at hne ⊢
    exact hhas _ (h.resolv ugs q hne)
  · intro g gt' hgt'
    obtain ⟨gt, hgt, ha, _⟩ := hgr g gt' hgt'
    exact ha (h.anch g gt hgt)
  · intro g gt' hne hgt'
    obtain ⟨gt, hgt, _, hi⟩ := hgr g gt' hgt'
    rw [groupAllocs_congr (fun e he => (hkeep e he).1)]
    exact hi hne (h.trees g gt hne hgt)

theorem ginv_same_groups {m m' : Mgr} {L : List (String × Alloc)} (h : GInv m L)
    (hl : ∀ u app, linkOf m' u app = linkOf m u app) (hc1 : m'.confGroups = m.confGroups) (hc2 : m'.groupWild = m.groupWild)
    (hu : UInv m'.users L) (hg : m'.groups = m.groups) : GInv m' L :=
  ginv_step h hu h.uniq (fun e he => ⟨hl _ _, h.haslink e he⟩)
    (fun u app g hlk => h.linked u app g (by rw [← hl]; exact hlk)) hc1 hc2 (fun g hh => by rw [hg]; exact hh)
    (fun g gt' hgt' => ⟨gt', by rw [← hg]; exact hgt', id, fun _ => id⟩)

theorem ginv_ensureUser {m : Mgr} {L : List (String × Alloc)} (h : GInv m L) (u : String) : GInv (ensureUser m u) L := by
  have hf := ensureUser_frame m u
  exact ginv_same_groups h (linkOf_ensureUser m u) hf.2.2.1 hf.2.2.2 (uinv_ensureUser h.u u) hf.1

theorem ginv_updUser {m : Mgr} {L : List (String × Alloc)} (h : GInv m L) (u : String) (f : UT → UT)
    (hf : ∀ ut, (f ut).appGroups = ut.appGroups) (hn : ∀ ut, aget m.users u = some ut → Neutral ut.qt (f ut).qt) :
    GInv (updUser m u f) L :=
  ginv_same_groups h (fun u' app => linkOf_updUser_qt m u f hf u' app) rfl rfl (uinv_amod h.u u f hn) rfl

theorem ginv_updGroup {m : Mgr} {L : List (String × Alloc)} (h : GInv m L) (g : String) (f : GT → GT)
    (hn : ∀ gt, aget m.groups g = some gt → Neutral gt.qt (f gt).qt ∧ (Anchored gt.qt → Anchored (f gt).qt)) :
    GInv (updGroup m g f) L := by
  refine ginv_step (m' := updGroup m g f) h h.u h.uniq (fun e he => ⟨rfl, h.haslink e he⟩) h.linked rfl rfl
    (fun g' hh => (ahas_amod _ _ _ _).trans hh) ?_
  intro g' gt' hgt'
  rw [aget_updGroup] at hgt'
  by_cases e : g = g'
  · subst e
    cases hgt : aget m.groups g with
    | none => rw [hgt] at hgt'; simp at hgt'
    | some gt =>
      rw [hgt] at hgt'; simp only [if_true, Option.map_some, Option.some.injEq] at hgt'; subst hgt'
      exact ⟨gt, rfl, (hn gt hgt).2, fun _ => (hn gt hgt).1 _⟩
  · rw [if_neg e] at hgt'; exact ⟨gt', hgt', id, fun _ => id⟩

/-! ### ensureGroupTrackerForApp -/

theorem eGTFA_groups_eq {m : Mgr} {q : Path} {ugs : List String}
    (hres : ensureGroup m ugs q ≠ "" → ahas m.groups (ensureGroup m ugs q) = true) (app u : String) :
    (ensureGroupTrackerForApp m q app u ugs).groups = m.groups := by
  rcases eGTFA_groups_cases m q app u ugs with e | ⟨h1, h2, _⟩
  · exact e
  · rw [hres h1] at h2; cases h2

theorem ginv_eGTFA {m : Mgr} {L : List (String × Alloc)} (h : GInv m L) (q : Path) (app u : String) (ugs : List String) :
    GInv (ensureGroupTrackerForApp m q app u ugs) L := by
  have hg := eGTFA_groups_eq (h.resolv ugs q) app u
  refine ginv_step h (uinv_eGTFA h.u q app u ugs) h.uniq ?_ ?_ (eGTFA_frame m q app u ugs).1 (eGTFA_frame m q app u ugs).2.1
    (fun g hh => by rw [hg]; exact hh) (fun g gt' hgt' => ⟨gt', by rw [← hg]; exact hgt', id, fun _ => id⟩)
  · intro e he
    refine ⟨?_, h.haslink e he⟩
    rw [linkOf_eGTFA, if_neg]
    rintro ⟨rfl, rfl, _, hn⟩
    have := h.haslink e he
    rw [hn] at this; cases this
  · intro u' app' g hlk
    rw [linkOf_eGTFA] at hlk
    split at hlk
    · -- the link just written: the group resolved
      by_cases eg : ensureGroup m ugs q = ""
      · simp [eg] at hlk
      · have : g = ensureGroup m ugs q := by simpa [eg] using hlk.symm
        rw [this]; exact h.resolv ugs q eg
    · exact h.linked u' app' g hlk

/-! ### Headroom, CanRunApp -/

theorem ginv_touchM {m : Mgr} {L : List (String × Alloc)} (h : GInv m L) (q : Path) (app u : String) (ugs : List String) :
    GInv (touchM m q app u ugs) L := by
  have h3 : GInv (touchUser m q app u ugs) L := by
    unfold touchUser
    refine ginv_eGTFA (ginv_updUser (ginv_ensureUser h u) u _ ?_ ?_) _ _ _ _
    · intro ut; rfl
    · intro ut _; exact neutral_ensurePath _ _ _ _
  simp only [touchM]
  split
  · exact h3
  · exact ginv_updGroup h3 _ _ (fun gt _ => ⟨neutral_ensurePath _ _ _ _, fun ha => ensurePath_anchored ha _ _ _⟩)

/-! ### IncreaseTrackedResource -/

/-- `ginv_step` for the two operations that change the ledger: only the tracker of the application's group `G` changes, by
    `F` -/
theorem ginv_ledger {m m' : Mgr} {L L' : List (String × Alloc)} (h : GInv m L) (hu : UInv m'.users L')
    (huniq : ∀ e1 ∈ L', ∀ e2 ∈ L', e1.2.app = e2.2.app → e1.1 = e2.1)
    (hkeep : ∀ e ∈ L', linkOf m' e.1 e.2.app = linkOf m e.1 e.2.app ∧ (linkOf m e.1 e.2.app).isSome = true)
    (hlinked : ∀ u app g, linkOf m' u app = some (some g) → ahas m.groups g = true)
    (hc1 : m'.confGroups = m.confGroups) (hc2 : m'.groupWild = m.groupWild) (G : String) (F : GT → GT)
    (hg : ∀ g, aget m'.groups g = if G ≠ "" ∧ G = g then (aget m.groups g).map F else aget m.groups g)
    (ha : ∀ gt, Anchored gt.qt → Anchored (F gt).qt)
    (hs : ∀ g gt, aget m.groups g = some gt → Inv gt.qt (groupAllocs m L g) →
      Inv (if G = g then (F gt).qt else gt.qt) (groupAllocs m L' g)) :
    GInv m' L' := by
  refine ginv_step h hu huniq hkeep hlinked hc1 hc2 (fun g hh => ?_) (fun g gt' hgt' => ?_)
  · rw [ahas_eq, hg]; rw [ahas_eq] at hh
    split
    · rw [Option.isSome_map]; exact hh
    · exact hh
  · rw [hg] at hgt'
    by_cases c : G ≠ "" ∧ G = g
    · rw [if_pos c] at hgt'
      obtain ⟨gt, hgt, rfl⟩ := Option.map_eq_some_iff.mp hgt'
      exact ⟨gt, hgt, ha gt, fun _ hi => by have := hs g gt hgt hi; rwa [if_pos c.2] at this⟩
    · rw [if_neg c] at hgt'
      refine ⟨gt', hgt', id, fun hne hi => ?_⟩
      have := hs g gt' hgt' hi
      rwa [if_neg (fun e : G = g => c ⟨by rw [e]; exact hne, e⟩)] at this

/-- `m3` is `m2` after the user's tracker took the booking; the tracker of the application's group takes it next -/
theorem ginv_book {m2 m3 : Mgr} {L : List (String × Alloc)} (h : GInv m2 L) (q : Path) (app : String) (r : Res) (u : String)
    (hhas : hasGroupForApp m2 u app = true) (hr : wf r = true) (huniq : ∀ e ∈ L, e.2.app = app → e.1 = u)
    (hl3 : ∀ u' app', linkOf m3 u' app' = linkOf m2 u' app') (hgr3 : m3.groups = m2.groups)
    (hc1 : m3.confGroups = m2.confGroups) (hc2 : m3.groupWild = m2.groupWild)
    (hU : UInv m3.users (L ++ [(u, ⟨app, q, r⟩)])) :
    GInv (if groupForApp m3 u app == "" then m3
          else updGroup m3 (groupForApp m3 u app) (fun gt => { qt := increase [] false gt.qt q app r, apps := aset gt.apps app u }))
      (L ++ [(u, ⟨app, q, r⟩)]) := by
  rw [groupForApp_congr (hl3 u app)]
  generalize hGdef : groupForApp m2 u app = G
  have hm' : ∀ F, (if G == "" then m3 else updGroup m3 G F).users = m3.users ∧
      (if G == "" then m3 else updGroup m3 G F).confGroups = m3.confGroups ∧
      (if G == "" then m3 else updGroup m3 G F).groupWild = m3.groupWild := by
    intro F; split <;> exact ⟨rfl, rfl, rfl⟩
  refine ginv_ledger h (by rw [(hm' _).1]; exact hU) ?_ ?_ ?_ ((hm' _).2.1.trans hc1) ((hm' _).2.2.trans hc2) G
    (fun gt => { qt := increase [] false gt.qt q app r, apps := aset gt.apps app u }) ?_
    (fun gt ha => increase_anchored ha _ _ _ _ _) ?_
  · intro e1 h1 e2 h2 he
    rcases List.mem_append.mp h1 with h1 | h1 <;> rcases List.mem_append.mp h2 with h2 | h2
    · exact h.uniq e1 h1 e2 h2 he
    · simp at h2; subst h2; exact huniq e1 h1 he
    · simp at h1; subst h1; exact (huniq e2 h2 he.symm).symm
    · simp at h1 h2; subst h1; subst h2; rfl
  · intro e he
    rw [linkOf_users_eq (congrArg (aget · e.1) (hm' _).1), hl3]
    exact ⟨rfl, forall_mem_snoc (P := fun e => (linkOf m2 e.1 e.2.app).isSome = true) h.haslink
      (by rw [← hasGroup_linkOf]; exact hhas) e he⟩
  · intro u' app' g hlk
    rw [linkOf_users_eq (congrArg (aget · u') (hm' _).1), hl3] at hlk
    exact h.linked u' app' g hlk
  · intro g
    by_cases c : G = ""
    · simp [c, hgr3]
    · simp only [beq_iff_eq, c, if_false, aget_updGroup, hgr3, ne_eq, not_false_eq_true, true_and]
  · intro g gt _ hi
    split
    · exact Acc.book_hit (f := fun e => groupForApp m2 e.1 e.2.app == g) (e := (u, ⟨app, q, r⟩)) hi (by simpa [hGdef]) hr [] false
    · exact Acc.book_miss (f := fun e => groupForApp m2 e.1 e.2.app == g) (o := some gt.qt) (e := (u, ⟨app, q, r⟩)) hi (by simpa [hGdef])

theorem ginv_increaseM {m : Mgr} {L : List (String × Alloc)} (h : GInv m L) (q : Path) (app : String) (r : Res) (u : String)
    (ugs : List String) (hq : q.take 1 = rootPath) (happ : app ≠ "") (hu : u ≠ "") (hr : wf r = true)
    (huniq : ∀ e ∈ L, e.2.app = app → e.1 = u) :
    GInv (increaseM m q app r u ugs) (L ++ [(u, ⟨app, q, r⟩)]) := by
  have hg := guard_false (q := q) (by intro e; subst e; cases hq) happ hu
  have hU := uinv_increaseM h.u q app r u ugs hq happ hu hr
  rw [increaseM_users hg] at hU
  rw [increaseM_eq hg]
  have h2 : GInv (ensureGroupTrackerForApp (ensureUser m u) q app u ugs) L := ginv_eGTFA (ginv_ensureUser h u) q app u ugs
  refine ginv_book h2 q app r u (hasGroup_eGTFA (has_user_after_ensureUser m u) q app ugs) hr huniq ?_ rfl rfl rfl hU
  intro u' app'
  unfold bookUser
  refine linkOf_updUser_qt _ _ _ ?_ u' app'
  intro ut; rfl

/-! ### DecreaseTrackedResource -/

theorem aget_decGroupM {m : Mgr} {g : String} {gt : GT} (hgt : aget m.groups g = some gt) (ha : Anchored gt.qt) {q : Path}
    (hq : q.take 1 = rootPath) (app : String) (r : Res) (rm : Bool) (g' : String) :
    aget (decGroupM m g q app r rm).groups g' =
      if g = g' then some ⟨(decrease gt.qt q app r rm).1, if rm then adel gt.apps app else gt.apps⟩ else aget m.groups g' := by
  unfold decGroupM
  rw [hgt]
  simp only [(decrease_anchored ha q hq app r rm).2, Bool.false_eq_true, if_false]
  exact aget_aset _ _ _ _

theorem ginv_decreaseM {m : Mgr} {L : List (String × Alloc)} (h : GInv m L) (q : Path) (app : String) (r : Res) (u : String)
    (rm : Bool) (hin : (u, (⟨app, q, r⟩ : Alloc)) ∈ L)
    (hrm : rm = true → ∀ b ∈ userAllocs (L.erase (u, ⟨app, q, r⟩)) u, b.app ≠ app) :
    GInv (decreaseM m q app r u rm) (L.erase (u, ⟨app, q, r⟩)) := by
  have hU := uinv_decreaseM h.u q app r u rm hin hrm
  obtain ⟨hq, happ, hu⟩ := h.u.entries _ hin
  simp only at hq happ hu
  have hkeep : ∀ e ∈ L.erase (u, (⟨app, q, r⟩ : Alloc)), linkOf (decreaseM m q app r u rm) e.1 e.2.app = linkOf m e.1 e.2.app ∧
      (linkOf m e.1 e.2.app).isSome = true := by
    intro e he
    have heL := List.mem_of_mem_erase he
    have hs := h.haslink e heL
    refine ⟨?_, hs⟩
    obtain ⟨x, hl⟩ := Option.isSome_iff_exists.mp hs
    rw [hl]
    apply linkOf_decreaseM m q app r u rm e.1 e.2.app x hl (tracked_of_live h.u heL) (by rw [hq]; simp)
    cases hrmv : rm with
    | false => rfl
    | true =>
      by_cases e1 : u = e.1
      · by_cases e2 : app = e.2.app
        · exfalso
          obtain ⟨ea, eb⟩ := e
          simp only at e1 e2
          subst e1
          exact hrm hrmv eb (mem_userAllocs.mpr he) e2.symm
        · simp [e2]
      · simp [e1]
  have hmemU : (⟨app, q, r⟩ : Alloc) ∈ userAllocs L u := mem_userAllocs.mpr hin
  cases hut : aget m.users u with
  | none => rw [h.u.missing u hut] at hmemU; cases hmemU
  | some ut =>
  have hE := decreaseM_eq (guard_false (q := q) (by intro e; subst e; cases hq) happ hu) hut r rm
  obtain ⟨d1, d2, d3⟩ := decUserM_frame m u ut q app r rm
  generalize hGdef : groupForApp m u app = G at hE
  refine ginv_ledger h hU (fun e1 h1 e2 h2 => h.uniq e1 (List.mem_of_mem_erase h1) e2 (List.mem_of_mem_erase h2)) hkeep
    (fun u' app' g hlk => h.linked u' app' g (linkOf_back_decreaseM m q app r u rm u' app' _ hlk)) ?_ ?_ G
    (fun gt => ⟨(decrease gt.qt q app r rm).1, if rm then adel gt.apps app else gt.apps⟩) ?_
    (fun gt ha => (decrease_anchored ha q hq app r rm).1) ?_
  · rw [hE]; split
    · exact d2
    · exact (decGroupM_frame _ _ _ _ _ _).1.trans d2
  · rw [hE]; split
    · exact d3
    · exact (decGroupM_frame _ _ _ _ _ _).2.trans d3
  · intro g
    rw [hE]
    by_cases c : G = ""
    · simp [c, d1]
    · obtain ⟨gt, hgt⟩ := Option.isSome_iff_exists.mp (h.linked u app G (linkOf_of_groupForApp hGdef c))
      rw [if_neg (by simpa using c), aget_decGroupM (d1 ▸ hgt) (h.anch G gt hgt) hq, d1]
      by_cases e : G = g
      · subst e; simp [c, hgt]
      · simp [e]
  · intro g gt hgt hi
    split
    · rename_i e; subst e
      have hf : (groupForApp m u app == G) = true := by simpa using hGdef
      have := Acc.release_hit (f := fun e => groupForApp m e.1 e.2.app == G) hi hin hf rm
        (fun a ha => by obtain ⟨u', hu', _⟩ := mem_slice.mp ha; exact (h.u.entries _ hu').1)
        (fun hrmv b hb happeq => by
          obtain ⟨u', hu', _⟩ := mem_slice.mp hb
          have : u' = u := h.uniq (u', b) (List.mem_of_mem_erase hu') _ hin happeq
          subst this
          exact hrm hrmv b (mem_userAllocs.mpr hu') happeq)
      simp only [(decrease_anchored (h.anch G gt hgt) q hq app r rm).2] at this
      exact this
    · rename_i e
      exact Acc.release_miss (f := fun e => groupForApp m e.1 e.2.app == g) (o := some gt.qt) hi hin (by simpa [hGdef] using e)

/-! ### histories without reloads -/

theorem ginv_mStep {s : Mgr × List (String × Alloc)} (h : GInv s.1 s.2) (op : Op) (hok : gOpOk s.2 op) :
    GInv (mStep s op).1 (mStep s op).2 := by
  cases op with
  | conf c => exact absurd hok (by simp [gOpOk])
  | headroom q app u ugs => simp only [mStep_headroom]; exact ginv_touchM h q app u ugs
  | canRun q app u ugs => simp only [mStep_canRun]; exact ginv_touchM h q app u ugs
  | inc q app r u ugs => exact ginv_increaseM h q app r u ugs hok.1.1 hok.1.2.1 hok.1.2.2.1 hok.1.2.2.2 hok.2
  | dec q app r u rm => exact ginv_decreaseM h q app r u rm hok.1 hok.2

theorem ginv_run : ∀ (ops : List Op) (s : Mgr × List (String × Alloc)), GInv s.1 s.2 → gHistOk s ops →
    GInv (ops.foldl mStep s).1 (ops.foldl mStep s).2 :=
  foldl_hist (fun _ _ _ h => h) (fun _ op h hok => ginv_mStep h op hok)

end Yk.Ugm
