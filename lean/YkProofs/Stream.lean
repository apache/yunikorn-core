/-
  The stream set-up model (YkModel/Stream.lean).  `streamOK_of_inv` with `sinv_run`: on every reachable state, if no event
  in the local channel is older than the oldest history event that was read (or no history is requested), the consumer
  receives the history followed by every later event once and in order.
-/
import YkModel.Stream
namespace Yk

open List

/-! ### strictlyIncreasing as Pairwise -/

theorem strictlyIncreasing_of_pairwise : ∀ (l : List Ev), l.Pairwise (· < ·) → strictlyIncreasing l = true
  | [], _ => rfl
  | [_], _ => rfl
  | a :: b :: t, h => by
    have h1 : a < b := (List.pairwise_cons.1 h).1 b (by simp)
    have h2 : (b :: t).Pairwise (· < ·) := (List.pairwise_cons.1 h).2
    simp [strictlyIncreasing, h1, strictlyIncreasing_of_pairwise (b :: t) h2]

theorem strictlyIncreasing_range'_append (lo m k j : Nat) (hk : lo + m ≤ k) :
    strictlyIncreasing (range' lo m ++ range' k j) = true := by
  apply strictlyIncreasing_of_pairwise
  rw [List.pairwise_append]
  refine ⟨pairwise_lt_range', pairwise_lt_range', ?_⟩
  intro x hx y hy
  rw [mem_range'_1] at hx hy
  exact Nat.lt_of_lt_of_le hx.2 (Nat.le_trans hk hy.1)

/-! ### the bridge and `lastN` on contiguous runs -/

theorem bridge_nil_seen (q : List Ev) : bridge [] q = q := by
  cases q with
  | nil => rfl
  | cons e t => simp [bridge]

theorem bridge_range' (lo m : Nat) : ∀ (len a : Nat), lo ≤ a →
    bridge (range' lo m) (range' a len) = range' (max a (lo + m)) (a + len - max a (lo + m))
  | 0, a, _ => by
    have : a - max a (lo + m) = 0 := by omega
    simp [bridge, this]
  | len + 1, a, ha => by
    rw [range'_succ]
    by_cases hlt : a < lo + m
    · have hin : (range' lo m).contains a = true := by
        simp only [List.contains_eq_mem, decide_eq_true_eq, mem_range'_1]
        omega
      have ih := bridge_range' lo m len (a + 1) (by omega)
      have e1 : max (a + 1) (lo + m) = max a (lo + m) := by omega
      have e2 : a + 1 + len = a + (len + 1) := by omega
      simp only [bridge, hin, if_true]
      rw [ih, e1, e2]
    · have hin : (range' lo m).contains a = false := by
        simp only [List.contains_eq_mem, decide_eq_false_iff_not, mem_range'_1]
        omega
      have e1 : max a (lo + m) = a := by omega
      have e2 : a + (len + 1) - a = len + 1 := by omega
      simp only [bridge, hin]
      rw [e1, e2, range'_succ]
      simp

theorem lastN_range' (k H : Nat) : lastN k (range' 1 H) = range' (1 + (H - k)) (H - (H - k)) := by
  simp [lastN, drop_range']

/-! ### invariant of reachable states -/

/-- tag of the next event to be published -/
def pubNext (s : SState) : Nat :=
  match s.pending with
  | some e => e
  | none => s.next

structure SInv (count cap : Nat) (s : SState) : Prop where
  next_pos : 1 ≤ s.next
  added_eq : s.added = range' 1 (s.next - 1)
  pend : ∀ e : Nat, s.pending = some e → e + 1 = s.next
  lq : ∃ len, s.localQ = range' (pubNext s - len) len ∧ len < pubNext s ∧ (0 < len → s.registered = true)
  hist : ∀ h, s.history = some h → h = lastN (min count cap) (range' 1 s.histLen)

theorem sinv_init (count cap : Nat) : SInv count cap {} where
  next_pos := by decide
  added_eq := by rfl
  pend := by intro e h; cases h
  lq := ⟨0, by rfl, by decide, by omega⟩
  hist := by intro h hh; cases hh

theorem sinv_step (count cap : Nat) (s s' : SState) (st : SStep)
    (inv : SInv count cap s) (h : sstep count cap s st = some s') : SInv count cap s' := by
  obtain ⟨np, ae, pe, ⟨len, hq, hlen, hl⟩, hi⟩ := inv
  cases st with
  | add =>
    cases hp : s.pending with
    | some e => simp [sstep, hp] at h
    | none =>
      simp only [sstep, hp, Option.some.injEq] at h
      subst h
      simp only [pubNext, hp] at hq hlen
      refine ⟨by simp, ?_, ?_, ⟨len, hq, hlen, hl⟩, hi⟩
      · show s.added ++ [s.next] = range' 1 (s.next + 1 - 1)
        have e1 : s.next + 1 - 1 = (s.next - 1) + 1 := by omega
        have e2 : 1 + (s.next - 1) = s.next := by omega
        rw [ae, e1, range'_1_concat, e2]
      · intro e he
        simp only [Option.some.injEq] at he
        subst he
        rfl
  | pub =>
    cases hp : s.pending with
    | none => simp [sstep, hp] at h
    | some e =>
      simp only [sstep, hp, Option.some.injEq] at h
      subst h
      have hpe := pe e hp
      simp only [pubNext, hp] at hq hlen
      refine ⟨np, ae, (by intro e' he'; cases he'), ?_, hi⟩
      cases hr : s.registered with
      | false =>
        -- nothing is forwarded yet, and nothing was: the channel is empty
        have h0 : len = 0 := by
          cases len with
          | zero => rfl
          | succ n => have := hl (by omega); rw [hr] at this; cases this
        subst h0
        exact ⟨0, by simp [hq], by simp only [pubNext]; omega, by omega⟩
      | true =>
        refine ⟨len + 1, ?_, by simp only [pubNext]; omega, fun _ => rfl⟩
        have e1 : s.next - (len + 1) = e - len := by rw [← hpe]; exact Nat.add_sub_add_right e 1 len
        have e2 : e - len + len = e := Nat.sub_add_cancel (Nat.le_of_lt hlen)
        simp only [pubNext, if_true, hq, e1]
        rw [range'_1_concat, e2]
  | reg =>
    cases hr : s.registered with
    | true => simp [sstep, hr] at h
    | false =>
      simp only [sstep, hr, Bool.false_eq_true, if_false, Option.some.injEq] at h
      subst h
      exact ⟨np, ae, pe, ⟨len, hq, hlen, fun _ => rfl⟩, hi⟩
  | hist =>
    by_cases hc : (s.registered && s.history.isNone) = true
    · simp only [sstep, hc, if_true, Option.some.injEq] at h
      subst h
      refine ⟨np, ae, pe, ⟨len, hq, hlen, hl⟩, ?_⟩
      intro h' hh'
      simp only [Option.some.injEq] at hh'
      subst hh'
      show lastN (min count cap) s.added = lastN (min count cap) (range' 1 s.added.length)
      rw [ae, length_range']
    · simp [sstep, hc] at h

theorem sinv_run (count cap : Nat) : ∀ (sch : List SStep) (s0 s : SState),
    SInv count cap s0 → srun count cap s0 sch = some s → SInv count cap s
  | [], s0, s, inv, h => by
    simp only [srun, Option.some.injEq] at h
    subst h; exact inv
  | st :: rest, s0, s, inv, h => by
    simp only [srun] at h
    cases hs : sstep count cap s0 st with
    | none => simp [hs] at h
    | some s1 =>
      simp only [hs] at h
      exact sinv_run count cap rest s1 s (sinv_step count cap s0 s1 st inv hs) h

/-! ### the final check on a state satisfying the invariant -/

theorem isPrefixOf_append_self (h t : List Ev) : h.isPrefixOf (h ++ t) = true := by
  rw [List.isPrefixOf_iff_prefix]; exact List.prefix_append h t

theorem streamOK_of_range' (s : SState) (lo m a len : Nat) (hh : s.history = some (range' lo m))
    (hq : s.localQ = range' a len) (hlo : lo ≤ a) : streamOK s = true := by
  have hb := bridge_range' lo m len a hlo
  have hmax : lo + m ≤ max a (lo + m) := by omega
  simp only [streamOK, consumerOut, hh, hq, hb, isPrefixOf_append_self,
    strictlyIncreasing_range'_append lo m _ _ hmax, Bool.true_and, List.all_eq_true,
    List.contains_eq_mem, decide_eq_true_eq, List.mem_append, mem_range'_1]
  intro e he
  omega

theorem streamOK_of_inv (count cap : Nat) (s : SState) (inv : SInv count cap s)
    (hc : min count cap = 0 ∨ ∀ e ∈ s.localQ, s.histLen < e + min count cap) :
    streamOK s = true := by
  obtain ⟨_, _, _, ⟨len, hq, hlen, _⟩, hi⟩ := inv
  have ha : 1 ≤ pubNext s - len := by omega
  generalize pubNext s - len = a at hq ha
  cases hh : s.history with
  | none => simp [streamOK, hh]
  | some h =>
    have hhe := hi h hh
    rw [lastN_range'] at hhe
    generalize hk : min count cap = k at hc hhe
    generalize hH : s.histLen = H at hc hhe
    subst hhe
    cases len with
    | zero =>
      exact streamOK_of_range' s _ _ (1 + (H - k)) 0 hh (by simp [hq]) (Nat.le_refl _)
    | succ n =>
      rcases hc with hc | hc
      · subst hc
        have e0 : H - (H - 0) = 0 := by omega
        rw [e0] at hh
        exact streamOK_of_range' s a 0 a (n + 1) (by simpa using hh) hq (Nat.le_refl _)
      · have := hc a (by rw [hq, mem_range'_1]; omega)
        exact streamOK_of_range' s _ _ a (n + 1) hh hq (by omega)

end Yk
