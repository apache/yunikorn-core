/-
  The reservation invariant `ResInv` (Core2Res.lean): the relation between the state before and after a step, as far as
  the invariant reads it.  `ResStep app gone s t`: the reservations `gone` (all of the live application `app`) leave the
  three views (application, node, queue); every record that still holds / lists a reservation has a counterpart that
  keeps what `ResInv` reads of it; records without reservations may come and go.  "Nothing leaves" is `gone = nogone`.
  `ResStep.res` goes through the twelve clauses of `ResInv` once for all these steps; the rest of the file is ways to show
  that a step is an instance, ending with the case that one application gets a new record: `Shape.res` / `Shape.resStep`
  for a step described by a `Shape` (Core2Shape.lean), `res_upd1` for lists given up to what the invariant reads.
  `ResStep` only lets reservations leave.  An operation that ADDS a reservation is not an instance: it goes through
  `ResA.res_add` (Core2ResOps.lean; `reserve` is the only one), the second proof that goes through the twelve clauses.

  Namespaces of the reservation files (a letter says no more than where the name stands): `ResC` holds what the invariant
  reads of a node / queue and the states without reservations (`nsig`, `qsig`, `quietSt`: here) and the lemmas for an
  application that loses all its reservations (Core2ResApp.lean); `ResS` is this file; `ResA` the lemmas of
  Core2ResOps.lean (a reservation made / cancelled), `ResB` of Core2ResRel.lean (release of one allocation, swap), `ResD` of
  Core2ResNode.lean (node removal), `ResE` of Core2ResCheck.lean (monitor, checkers) and Core2ResGone.lean (the
  "reservations disappear" steps).  The `res_<operation>` theorems themselves stand in `Yk`.
-/
import YkProofs.Core2Res
namespace Yk
open Res Core

namespace ResC

/-- what `ResInv` reads of a node -/
def nsig (n : CNode) : String × List String := (n.id, n.reservations)

/-- what `ResInv` reads of a queue -/
def qsig (q : CQueue) : String × List (String × Nat) := (q.path, q.reserved)

/-- the states in which an application holds no reservation (`ResInv.quiet`) -/
def quietSt (st : String) : Prop := st = "Failing" ∨ st = "Completing" ∨ terminated st = true

end ResC

namespace ResS
open ResC (nsig qsig quietSt)

theorem nsig_eq_iff {m n : CNode} : nsig m = nsig n ↔ m.id = n.id ∧ m.reservations = n.reservations := Prod.ext_iff

theorem qsig_eq_iff {q' q : CQueue} : qsig q' = qsig q ↔ q'.path = q.path ∧ q'.reserved = q.reserved := Prod.ext_iff

/-- From the `…_path_reserved` fact stated next to a queue function.  Not to be inlined: where the queue function is still
    a metavariable when the argument is elaborated (`hfq` of `Shape.res`, under `qsig_onChain`),
    `fun q => qsig_eq_iff.mpr (relAllQ_path_reserved … q)` costs 45 k heartbeats, `qsig_of (relAllQ_path_reserved …)` 0.1 k. -/
theorem qsig_of {g : CQueue → CQueue} (h : ∀ q, (g q).path = q.path ∧ (g q).reserved = q.reserved) (q : CQueue) :
    qsig (g q) = qsig q :=
  qsig_eq_iff.mpr (h q)

theorem quiet_of_moves {st st' : String} (h : Life.Moves st st') (hq : quietSt st') : quietSt st ∨ st' = "Completing" := by
  rcases hq with e | e | e
  · exact Or.inl (Or.inl (h.into_failing e))
  · exact Or.inr e
  · rcases h.into_terminated e with e' | e' | e'
    · exact Or.inl (Or.inr (Or.inr e'))
    · exact Or.inl (Or.inr (Or.inl e'))
    · exact Or.inl (Or.inl e')

theorem find?_sig {α β : Type} (sig : α → β) (p : α → Bool) (q : β → Bool) (hp : ∀ x, p x = q (sig x)) :
    ∀ (l1 l2 : List α), l1.map sig = l2.map sig → ∀ n, l1.find? p = some n →
      ∃ m, l2.find? p = some m ∧ sig m = sig n := by
  intro l1
  induction l1 with
  | nil => intro l2 _ n h; cases h
  | cons x t ih =>
    intro l2 hm n hf
    cases l2 with
    | nil => cases hm
    | cons y t' =>
      rw [List.map_cons, List.map_cons, List.cons.injEq] at hm
      rw [List.find?_cons] at hf ⊢
      have hxy : p y = p x := by rw [hp, hp, hm.1]
      cases hpx : p x with
      | true =>
        rw [hpx] at hf hxy
        rw [hxy]
        simp only at hf ⊢
        cases hf
        exact ⟨y, rfl, hm.1.symm⟩
      | false =>
        rw [hpx] at hf hxy
        rw [hxy]
        simp only at hf ⊢
        exact ih t' hm.2 n hf

theorem mem_sig {α β : Type} (sig : α → β) {l1 l2 : List α} (h : l1.map sig = l2.map sig) {x : α} (hx : x ∈ l1) :
    ∃ y ∈ l2, sig y = sig x := by
  have : sig x ∈ l2.map sig := h ▸ List.mem_map.mpr ⟨x, hx, rfl⟩
  obtain ⟨y, hy, e⟩ := List.mem_map.mp this
  exact ⟨y, hy, e⟩

/-! ### the queue view (`reserved`: application id ↦ count) as an association list -/

theorem lookup_cons_ne {k k' : String} (hk : k ≠ k') (v : Nat) (l : List (String × Nat)) :
    List.lookup k ((k', v) :: l) = l.lookup k := by
  rw [List.lookup_cons, show (k == k') = false by simpa using hk]

theorem lookup_none_of_not_mem (l : List (String × Nat)) (k : String) (h : k ∉ l.map (·.1)) : l.lookup k = none := by
  induction l with
  | nil => rfl
  | cons e t ih =>
    obtain ⟨e1, e2⟩ := e
    rw [List.map_cons, List.mem_cons, not_or] at h
    rw [lookup_cons_ne h.1]
    exact ih h.2

theorem lookup_zero (l : List (String × Nat)) (k : String) (h : ∀ r ∈ l, r.1 = k → r.2 = 0) :
    (l.lookup k).getD 0 = 0 := by
  induction l with
  | nil => rfl
  | cons e t ih =>
    obtain ⟨e1, e2⟩ := e
    by_cases hk : k = e1
    · subst hk
      rw [List.lookup_cons_self]
      exact h (k, e2) List.mem_cons_self rfl
    · rw [lookup_cons_ne hk]
      exact ih (fun r hr => h r (List.mem_cons_of_mem _ hr))

/-! ### the `queueCount` clause without `findQueue`, in two halves -/

theorem findQueue_none {s : Core} {p : String} (h : s.findQueue p = none) : ∀ q ∈ s.queues, q.path ≠ p := by
  intro q hq
  unfold findQueue at h
  simpa using List.find?_eq_none.mp h q hq

theorem findQueue_some_mem {s : Core} {p : String} {q : CQueue} (h : s.findQueue p = some q) : q ∈ s.queues ∧ q.path = p := by
  unfold findQueue at h
  exact ⟨List.mem_of_find?_eq_some h, by simpa using List.find?_some h⟩

theorem queueCount_iff (s : Core) (a : CApp) :
    (match s.findQueue a.queue with
      | none => a.reservations = []
      | some _ => ∀ q ∈ s.queues, q.path = a.queue → (q.reserved.lookup a.id).getD 0 = a.reservations.length) ↔
    (((∀ q ∈ s.queues, q.path ≠ a.queue) → a.reservations = []) ∧
     ∀ q ∈ s.queues, q.path = a.queue → (q.reserved.lookup a.id).getD 0 = a.reservations.length) := by
  cases hf : s.findQueue a.queue with
  | none =>
    have hno := findQueue_none hf
    exact ⟨fun h => ⟨fun _ => h, fun q hq hp => absurd hp (hno q hq)⟩, fun h => h.1 hno⟩
  | some q0 =>
    obtain ⟨hm, hp⟩ := findQueue_some_mem hf
    exact ⟨fun h => ⟨fun hno => absurd hp (hno q0 hm), h⟩, fun h => h.2⟩

theorem qc_none {s : Core} (h : ResInv s) {a : CApp} (ha : a ∈ s.apps) (hl : a.live = true)
    (hq : ∀ q ∈ s.queues, q.path ≠ a.queue) : a.reservations = [] :=
  ((queueCount_iff s a).mp (h.queueCount a ha hl)).1 hq

theorem qc_some {s : Core} (h : ResInv s) {a : CApp} (ha : a ∈ s.apps) (hl : a.live = true) {q : CQueue}
    (hq : q ∈ s.queues) (hp : q.path = a.queue) : (q.reserved.lookup a.id).getD 0 = a.reservations.length :=
  ((queueCount_iff s a).mp (h.queueCount a ha hl)).2 q hq hp

/-! ### the relation -/

abbrev stay (gone : String × String → Bool) (l : List (String × String)) : List (String × String) :=
  l.filter (fun r => !gone r)

abbrev stayN (gone : String × String → Bool) (id : String) (l : List String) : List String :=
  l.filter (fun k => !gone (k, id))

abbrev nogone : String × String → Bool := fun _ => false

theorem stay_none (l : List (String × String)) : stay nogone l = l := List.filter_eq_self.mpr (fun _ _ => rfl)
theorem stayN_none (id : String) (l : List String) : stayN nogone id l = l := List.filter_eq_self.mpr (fun _ _ => rfl)

theorem stay_all (l : List (String × String)) : stay (l.contains ·) l = [] :=
  List.filter_eq_nil_iff.mpr (fun r hr => by simpa using hr)

/-- `b` is `a` after the reservations `gone` left, as far as `ResInv` reads an application.  Whether `b` stays in the
    partition (`live`) is not said here. -/
structure AppStep (gone : String × String → Bool) (a b : CApp) : Prop where
  id : b.id = a.id
  queue : b.queue = a.queue
  resv : b.reservations = stay gone a.reservations
  items : ∀ r ∈ b.reservations, ∀ i ∈ a.items, i.key = r.1 →
    ∃ j ∈ b.items, j.key = i.key ∧ j.reqNode = i.reqNode ∧ (i.outstanding = true → j.outstanding = true)
  quiet : quietSt b.state → quietSt a.state ∨ b.reservations = []

/-- the counts `l'` of a queue `path` after the step, `l` before -/
structure QStep (s : Core) (app : String) (gone : String × String → Bool) (path : String) (l l' : List (String × Nat)) : Prop where
  keys : (l.map (·.1)).Nodup → (l'.map (·.1)).Nodup
  other : ∀ k, k ≠ app → l'.lookup k = l.lookup k
  self : ∀ a ∈ s.apps, a.live = true → a.id = app → path = a.queue → (l.lookup app).getD 0 = a.reservations.length →
    (l'.lookup app).getD 0 = (stay gone a.reservations).length
  old : ∀ r ∈ l', ∃ e ∈ l, r.1 = e.1 ∧ (e.2 = 0 → r.2 = 0)

structure AppsStep (app : String) (gone : String × String → Bool) (s t : Core) : Prop where
  owner : ∀ r, gone r = true → ∃ a ∈ s.apps, a.live = true ∧ a.id = app ∧ r ∈ a.reservations
  fwd : ∀ a ∈ s.apps, a.live = true → stay gone a.reservations ≠ [] → ∃ b ∈ t.apps, b.live = true ∧ AppStep gone a b
  bwd : ∀ b ∈ t.apps, b.live = true →
    (∃ a ∈ s.apps, a.live = true ∧ AppStep gone a b) ∨ (b.reservations = [] ∧ s.findApp b.id = none)

structure NodesStep (gone : String × String → Bool) (s t : Core) : Prop where
  fwd : ∀ id n, s.findNode id = some n → stayN gone id n.reservations ≠ [] →
    ∃ m, t.findNode id = some m ∧ m.reservations = stayN gone id n.reservations
  bwd : ∀ m ∈ t.nodes, (∃ n ∈ s.nodes, n.id = m.id ∧ m.reservations = stayN gone n.id n.reservations) ∨ m.reservations = []

structure QueuesStep (app : String) (gone : String × String → Bool) (s t : Core) : Prop where
  fwd : ∀ q ∈ s.queues, ∃ q' ∈ t.queues, q'.path = q.path
  bwd : ∀ q' ∈ t.queues, (∃ q ∈ s.queues, q'.path = q.path ∧ QStep s app gone q.path q.reserved q'.reserved) ∨
    (q'.reserved = [] ∧ ∀ q ∈ s.queues, q.path ≠ q'.path)

structure ResStep (app : String) (gone : String × String → Bool) (s t : Core) : Prop where
  apps : AppsStep app gone s t
  nodes : NodesStep gone s t
  queues : QueuesStep app gone s t
  counter : resvTotal t ≤ t.reservations

/-- `ResInv` only looks at the live applications' `id`, `queue`, `reservations`, `state`, the items of reserved asks, the
    nodes' `id` and `reservations`, the queues' `path` and `reserved`, and the counter.  No uniqueness of ids is needed:
    that only the application `app` loses reservations follows from `ResInv.owner`. -/
theorem ResStep.res {app : String} {gone : String × String → Bool} {s t : Core} (k : ResStep app gone s t) (h : ResInv s) :
    ResInv t := by
  obtain ⟨⟨hown, hfw, hbw⟩, ⟨hnf, hnb⟩, ⟨hqf, hqb⟩, hc⟩ := k
  have hsub : ∀ l : List (String × String), (stay gone l).Sublist l := fun _ => List.filter_sublist
  have hmem : ∀ {l : List (String × String)} {r}, r ∈ stay gone l ↔ r ∈ l ∧ gone r = false := by
    intro l r; rw [List.mem_filter, Bool.not_eq_true']
  have hmemN : ∀ {id} {l : List String} {k}, k ∈ stayN gone id l ↔ k ∈ l ∧ gone (k, id) = false := by
    intro id l k; rw [List.mem_filter, Bool.not_eq_true']
  have hother : ∀ a ∈ s.apps, a.live = true → a.id ≠ app → stay gone a.reservations = a.reservations := by
    intro a ha hl hne
    refine List.filter_eq_self.mpr fun r hr => ?_
    cases hg : gone r with
    | false => rfl
    | true =>
      obtain ⟨a', ha', hl', hid', hr'⟩ := hown r hg
      exact absurd ((h.owner a ha a' ha' hl hl' r hr hr').trans hid') hne
  have hcount : ∀ a ∈ s.apps, a.live = true → ∀ q ∈ s.queues, q.path = a.queue → ∀ l', QStep s app gone q.path q.reserved l' →
      (l'.lookup a.id).getD 0 = (stay gone a.reservations).length := by
    intro a ha hl q hq hp l' hk
    have hold := qc_some h ha hl hq hp
    by_cases hid : a.id = app
    · rw [hid] at hold ⊢; exact hk.self a ha hl hid hp hold
    · rw [hk.other _ hid, hother a ha hl hid]; exact hold
  refine { appNode := ?_, outstanding := ?_, onePerAsk := ?_, nodeApp := ?_, nodeKeys := ?_, owner := ?_,
           queueCount := ?_, queueKeys := ?_, queueApp := ?_, counter := hc, nodeExcl := ?_, quiet := ?_ }
  · intro b hb hl r hrm
    rcases hbw b hb hl with ⟨a, ha, hal, hk⟩ | ⟨he, _⟩
    · rw [hk.resv] at hrm
      obtain ⟨hra, hg⟩ := hmem.mp hrm
      obtain ⟨n, hn, hrn⟩ := h.appNode a ha hal r hra
      have hin : r.1 ∈ stayN gone r.2 n.reservations := hmemN.mpr ⟨hrn, hg⟩
      obtain ⟨m, hm, hmr⟩ := hnf _ _ hn (List.ne_nil_of_mem hin)
      exact ⟨m, hm, hmr ▸ hin⟩
    · rw [he] at hrm; cases hrm
  · intro b hb hl r hrm
    rcases hbw b hb hl with ⟨a, ha, hal, hk⟩ | ⟨he, _⟩
    · obtain ⟨i, hi, hik, hio⟩ := h.outstanding a ha hal r ((hsub _).subset (hk.resv ▸ hrm))
      obtain ⟨j, hj, hjk, _, hjo⟩ := hk.items r hrm i hi hik
      exact ⟨j, hj, hjk.trans hik, hjo hio⟩
    · rw [he] at hrm; cases hrm
  · intro b hb hl
    rcases hbw b hb hl with ⟨a, ha, hal, hk⟩ | ⟨he, _⟩
    · rw [hk.resv]; exact List.Nodup.sublist ((hsub _).map _) (h.onePerAsk a ha hal)
    · rw [he]; exact List.nodup_nil
  · intro m hm k hkm
    rcases hnb m hm with ⟨n, hn, hid, hres⟩ | he
    · rw [hres] at hkm
      obtain ⟨hkn, hg⟩ := hmemN.mp hkm
      obtain ⟨a, ha, hal, har⟩ := h.nodeApp n hn k hkn
      have hin : (k, n.id) ∈ stay gone a.reservations := hmem.mpr ⟨har, hg⟩
      obtain ⟨b, hb, hbl, hk⟩ := hfw a ha hal (List.ne_nil_of_mem hin)
      exact ⟨b, hb, hbl, by rw [hk.resv, ← hid]; exact hin⟩
    · rw [he] at hkm; cases hkm
  · intro m hm
    rcases hnb m hm with ⟨n, hn, _, hres⟩ | he
    · rw [hres]; exact List.Nodup.sublist List.filter_sublist (h.nodeKeys n hn)
    · rw [he]; exact List.nodup_nil
  · intro b1 hb1 b2 hb2 hl1 hl2 r hr1 hr2
    rcases hbw b1 hb1 hl1 with ⟨a1, ha1, hal1, hk1⟩ | ⟨he, _⟩
    · rcases hbw b2 hb2 hl2 with ⟨a2, ha2, hal2, hk2⟩ | ⟨he, _⟩
      · rw [hk1.resv] at hr1; rw [hk2.resv] at hr2
        rw [hk1.id, hk2.id]
        exact h.owner a1 ha1 a2 ha2 hal1 hal2 r ((hsub _).subset hr1) ((hsub _).subset hr2)
      · rw [he] at hr2; cases hr2
    · rw [he] at hr1; cases hr1
  · intro b hb hl
    refine (queueCount_iff t b).mpr ?_
    rcases hbw b hb hl with ⟨a, ha, hal, hk⟩ | ⟨he, hnone⟩
    · refine ⟨?_, ?_⟩
      · intro hno
        rw [hk.resv, qc_none h ha hal (fun q hq hp =>
          let ⟨q', hq', e⟩ := hqf q hq; hno q' hq' (e.trans (hp.trans hk.queue.symm)))]
        rfl
      · intro q' hq' hp
        rw [hk.resv, hk.id]
        rcases hqb q' hq' with ⟨q, hq, hqp, hqk⟩ | ⟨hqe, hqn⟩
        · exact hcount a ha hal q hq (hqp.symm.trans (hp.trans hk.queue)) _ hqk
        · rw [hqe, qc_none h ha hal (fun q hq hp' => hqn q hq (hp'.trans (hk.queue.symm.trans hp.symm)))]; rfl
    · refine ⟨fun _ => he, ?_⟩
      intro q' hq' _
      rw [he]
      rcases hqb q' hq' with ⟨q, hq, _, hqk⟩ | ⟨hqe, _⟩
      · refine lookup_zero _ _ ?_
        intro r hrm hrk
        obtain ⟨e, he', h1, h2⟩ := hqk.old r hrm
        rcases h.queueApp q hq e he' with h0 | ⟨a, ha, hal, hid, _⟩
        · exact h2 h0
        · exact absurd (hid.trans (h1.symm.trans hrk)) (findApp_none hnone a ha hal)
      · rw [hqe]; rfl
  · intro q' hq'
    rcases hqb q' hq' with ⟨q, hq, _, hqk⟩ | ⟨hqe, _⟩
    · exact hqk.keys (h.queueKeys q hq)
    · rw [hqe]; exact List.nodup_nil
  · intro q' hq' r hrm
    rcases hqb q' hq' with ⟨q, hq, hqp, hqk⟩ | ⟨hqe, _⟩
    · obtain ⟨e, he', h1, h2⟩ := hqk.old r hrm
      rcases h.queueApp q hq e he' with h0 | ⟨a, ha, hal, hid, haq⟩
      · exact Or.inl (h2 h0)
      · by_cases hne : stay gone a.reservations = []
        · -- the queue counts what `a` still holds: nothing
          left
          have := hcount a ha hal q hq haq.symm _ hqk
          rw [hid, ← h1, (lookup_iff_mem (hqk.keys (h.queueKeys q hq)) r.1 r.2).mpr hrm, hne] at this
          exact this
        · obtain ⟨b, hb, hbl, hk⟩ := hfw a ha hal hne
          exact Or.inr ⟨b, hb, hbl, hk.id.trans (hid.trans h1.symm), hk.queue.trans (haq.trans hqp.symm)⟩
    · rw [hqe] at hrm; cases hrm
  · intro m hm
    rcases hnb m hm with ⟨n, hn, hid, hres⟩ | he
    · rw [hres]
      rcases h.nodeExcl n hn with h1 | h2
      · exact Or.inl (Nat.le_trans (List.length_filter_le _ _) h1)
      · right
        intro k hkm
        obtain ⟨hkn, hg⟩ := hmemN.mp hkm
        obtain ⟨a, ha, hal, har, i, hi, hik, hin⟩ := h2 k hkn
        have hin' : (k, n.id) ∈ stay gone a.reservations := hmem.mpr ⟨har, hg⟩
        obtain ⟨b, hb, hbl, hk⟩ := hfw a ha hal (List.ne_nil_of_mem hin')
        have hbr : (k, n.id) ∈ b.reservations := hk.resv ▸ hin'
        obtain ⟨j, hj, hjk, hjn, _⟩ := hk.items (k, n.id) hbr i hi hik
        exact ⟨b, hb, hbl, hid ▸ hbr, j, hj, hjk.trans hik, by rw [hjn, hin, hid]⟩
    · rw [he]; exact Or.inl (Nat.zero_le _)
  · intro b hb hl hst
    rcases hbw b hb hl with ⟨a, ha, hal, hk⟩ | ⟨he, _⟩
    · rcases hk.quiet hst with hq | hq
      · rw [hk.resv, h.quiet a ha hal hq]; rfl
      · exact hq
    · exact he

/-! ### one application record -/

theorem AppStep.same {gone : String × String → Bool} {a : CApp} (h : stay gone a.reservations = a.reservations) : AppStep gone a a :=
  ⟨rfl, rfl, h.symm, fun _ _ i hi _ => ⟨i, hi, rfl, rfl, fun h => h⟩, fun h => Or.inl h⟩

theorem outstanding_inReq {i : CItem} (h : i.outstanding = true) : i.inReq = true ∧ i.allocated = false := by
  unfold CItem.outstanding at h
  simp only [Bool.and_eq_true, Bool.not_eq_true'] at h
  exact h

/-- The item clause of `AppStep`, as it is shown for a record function from the equation for its items.
    (`Life.Loses` reads an item list the other way round: every item of `m` comes from one of `l`.) -/
def KeepsAsks (rs : List (String × String)) (l m : List CItem) : Prop :=
  ∀ r ∈ rs, ∀ x ∈ l, x.key = r.1 → x.outstanding = true →
    ∃ y ∈ m, y.key = x.key ∧ y.reqNode = x.reqNode ∧ y.outstanding = true

def ItemKeeps (g : CItem → CItem) : Prop :=
  ∀ z, (g z).key = z.key ∧ (g z).reqNode = z.reqNode ∧ (z.outstanding = true → (g z).outstanding = true)

namespace KeepsAsks
variable {rs : List (String × String)} {l m : List CItem}

theorem refl (l : List CItem) : KeepsAsks rs l l := fun _ _ x hx _ ho => ⟨x, hx, rfl, rfl, ho⟩

theorem map (h : KeepsAsks rs l m) {g : CItem → CItem} (hg : ItemKeeps g) : KeepsAsks rs l (m.map g) := fun r hr x hx hk ho =>
  let ⟨y, hy, h1, h2, h3⟩ := h r hr x hx hk ho
  ⟨g y, List.mem_map.mpr ⟨y, hy, rfl⟩, (hg y).1.trans h1, (hg y).2.1.trans h2, (hg y).2.2 h3⟩

/-- An anonymous `fun _ => ⟨rfl, rfl, id⟩` for `hg` does not determine `g`: pass a named `ItemKeeps` fact
    (`itemKeeps_unbind`) or give `(g := …)`. -/
theorem updItem (h : KeepsAsks rs l m) (k : String) {g : CItem → CItem} (hg : ItemKeeps g) :
    KeepsAsks rs l (Core.updItem k g m) := by
  refine h.map (g := fun x => if x.key == k then g x else x) (fun z => ?_)
  dsimp only
  split
  · exact hg z
  · exact ⟨rfl, rfl, id⟩

theorem updItem_ne (h : KeepsAsks rs l m) {k : String} (hk : ∀ r ∈ rs, r.1 ≠ k) (g : CItem → CItem) :
    KeepsAsks rs l (Core.updItem k g m) := fun r hr x hx hxk ho =>
  let ⟨y, hy, h1, h2, h3⟩ := h r hr x hx hxk ho
  ⟨y, mem_updItem_of_ne hy (by rw [h1, hxk]; exact hk r hr), h1, h2, h3⟩

theorem filter (h : KeepsAsks rs l m) {p : CItem → Bool} (hp : ∀ r ∈ rs, ∀ y, y.key = r.1 → y.inReq = true → p y = true) :
    KeepsAsks rs l (m.filter p) := fun r hr x hx hk ho =>
  let ⟨y, hy, h1, h2, h3⟩ := h r hr x hx hk ho
  ⟨y, List.mem_filter.mpr ⟨hy, hp r hr y (h1.trans hk) (outstanding_inReq h3).1⟩, h1, h2, h3⟩

theorem append (h : KeepsAsks rs l m) (t : List CItem) : KeepsAsks rs l (m ++ t) := fun r hr x hx hk ho =>
  let ⟨y, hy, e⟩ := h r hr x hx hk ho
  ⟨y, List.mem_append_left _ hy, e⟩

end KeepsAsks

theorem itemKeeps_unbind : ItemKeeps (fun z => { z with bound := false }) := fun _ => ⟨rfl, rfl, id⟩

/-- In a well-formed application the item of a reserved ask is the outstanding one (`ResInv.outstanding`), so it is enough
    that the outstanding items of the asks that keep their reservation survive. -/
theorem AppStep.of_outstanding {gone : String × String → Bool} {s : Core} (h : ResInv s) {a b : CApp} (ham : a ∈ s.apps)
    (hl : a.live = true) (hwa : AppWF a) (id : b.id = a.id) (queue : b.queue = a.queue)
    (resv : b.reservations = stay gone a.reservations) (items : KeepsAsks b.reservations a.items b.items)
    (quiet : quietSt b.state → quietSt a.state ∨ b.reservations = []) : AppStep gone a b := by
  refine ⟨id, queue, resv, ?_, quiet⟩
  intro r hr i hi hik
  obtain ⟨i', hi', hik', hio'⟩ := h.outstanding a ham hl r (List.filter_sublist.subset (resv ▸ hr))
  have : i' = i := itemKeys_eq hwa.itemKeys hi' hi (hik'.trans hik.symm)
  subst this
  obtain ⟨j, hj, h1, h2, h3⟩ := items r hr i' hi' hik hio'
  exact ⟨j, hj, h1, h2, fun _ => h3⟩

theorem AppStep.all_gone {a b : CApp} (h1 : b.id = a.id) (h2 : b.queue = a.queue) (h3 : b.reservations = []) :
    AppStep (a.reservations.contains ·) a b :=
  ⟨h1, h2, h3.trans (stay_all _).symm, fun _ hr => absurd hr (h3 ▸ List.not_mem_nil), fun _ => Or.inr h3⟩

/-- The quiet clause from the life-cycle description of a record function: Failing and the terminal states are reached
    from quiet states only (`Moves`), Completing from Completing or with nothing outstanding (`Step.cingAsk`). -/
theorem quiet_of_step {a b : CApp} (hm : Life.Moves a.state b.state) (hs : Life.Step a b)
    (hout : ∀ r ∈ b.reservations, ∃ j ∈ b.items, j.outstanding = true) (hq : quietSt b.state) :
    quietSt a.state ∨ b.reservations = [] := by
  rcases quiet_of_moves hm hq with h | hc
  · exact Or.inl h
  · by_cases ha : a.state = "Completing"
    · exact Or.inl (Or.inr (Or.inl ha))
    · right
      have hno := hs.cingAsk (fun e => absurd e ha) hc
      rw [List.eq_nil_iff_forall_not_mem]
      intro r hr
      obtain ⟨j, hj, ho⟩ := hout r hr
      rw [hno j hj] at ho; cases ho

theorem AppStep.of_step {gone : String × String → Bool} {s : Core} (h : ResInv s) {a b : CApp} (ham : a ∈ s.apps)
    (hl : a.live = true) (hwa : AppWF a) (id : b.id = a.id) (queue : b.queue = a.queue)
    (resv : b.reservations = stay gone a.reservations) (items : KeepsAsks b.reservations a.items b.items)
    (hm : Life.Moves a.state b.state) (hs : Life.Step a b) : AppStep gone a b :=
  AppStep.of_outstanding h ham hl hwa id queue resv items (quiet_of_step hm hs (fun r hr => by
    obtain ⟨i, hi, hik, hio⟩ := h.outstanding a ham hl r (List.filter_sublist.subset (resv ▸ hr))
    obtain ⟨j, hj, _, _, hjo⟩ := items r hr i hi hik hio
    exact ⟨j, hj, hjo⟩))

theorem AppStep.of_nil {a b : CApp} (h1 : b.id = a.id) (h2 : b.queue = a.queue) (h3 : a.reservations = [])
    (h4 : b.reservations = []) : AppStep nogone a b :=
  ⟨h1, h2, by rw [h3, h4]; rfl, fun _ hr => absurd hr (h4 ▸ List.not_mem_nil), fun _ => Or.inr h4⟩

theorem AppStep.live_or {gone : String × String → Bool} {s : Core} (h : ResInv s) {a b : CApp} (ham : a ∈ s.apps)
    (hl : a.live = true) (hk : AppStep gone a b) (hlive : b.live = !(terminated b.state)) :
    b.live = true ∨ b.reservations = [] := by
  cases ht : terminated b.state with
  | false => rw [hlive, ht]; exact Or.inl rfl
  | true =>
    right
    rcases hk.quiet (Or.inr (Or.inr ht)) with hq | hq
    · rw [hk.resv, h.quiet a ham hl hq]; rfl
    · exact hq

theorem AppStep.setLive {gone : String × String → Bool} {a b : CApp} (hk : AppStep gone a b) (v : Bool) :
    AppStep gone a { b with live := v } :=
  ⟨hk.id, hk.queue, hk.resv, hk.items, hk.quiet⟩

/-! ### the application lists -/

theorem AppsStep.of_same {app : String} {s t : Core}
    (hfw : ∀ a ∈ s.apps, a.live = true → a.reservations ≠ [] → a ∈ t.apps)
    (hbw : ∀ b ∈ t.apps, b.live = true → b ∈ s.apps ∨ (b.reservations = [] ∧ s.findApp b.id = none)) :
    AppsStep app nogone s t :=
  ⟨fun _ hr => Bool.noConfusion hr,
    fun a ha hl hne => ⟨a, hfw a ha hl (by rw [stay_none] at hne; exact hne), hl, AppStep.same (stay_none _)⟩,
    fun b hb hl => (hbw b hb hl).imp (fun hb' => ⟨b, hb', hl, AppStep.same (stay_none _)⟩) id⟩

theorem AppsStep.of_eq {app : String} {s t : Core} (ht : t.apps = s.apps) : AppsStep app nogone s t :=
  AppsStep.of_same (fun _ ha _ _ => ht ▸ ha) (fun _ hb _ => Or.inl (ht ▸ hb))

theorem AppsStep.of_upd {app : String} {gone : String × String → Bool} {s t : Core}
    (hu : s.apps.Pairwise (fun a b => a.live = true → b.live = true → a.id ≠ b.id)) (h : ResInv s)
    {a : CApp} {f : CApp → CApp} (ham : a ∈ s.apps) (hl : a.live = true) (hid : a.id = app)
    (hgone : ∀ r, gone r = true → r ∈ a.reservations) (hta : t.apps = updApps s.apps app f)
    (hk : AppStep gone a (f a)) (hfl : (f a).live = true ∨ (f a).reservations = []) : AppsStep app gone s t := by
  have hca : (a.live && a.id == app) = true := by rw [hl, hid, beq_self_eq_true]; rfl
  have hsame : ∀ x ∈ s.apps, x.live = true → ¬ (x.live && x.id == app) = true → AppStep gone x x := by
    intro x hx hxl hd
    refine AppStep.same (List.filter_eq_self.mpr fun r hr => ?_)
    cases hg : gone r with
    | false => rfl
    | true =>
      refine absurd ?_ hd
      rw [hxl, h.owner x hx a ham hxl hl r hr (hgone r hg), hid, beq_self_eq_true]; rfl
  refine ⟨fun r hr => ⟨a, ham, hl, hid, hgone r hr⟩, ?_, ?_⟩
  · intro x hx hxl hne
    by_cases hd : (x.live && x.id == app) = true
    · obtain rfl : x = a := (appIds_atMostOne app hu).eq hx ham hd hca
      refine ⟨f x, ?_, hfl.resolve_right (hk.resv ▸ hne), hk⟩
      rw [hta]; exact List.mem_map.mpr ⟨x, hx, if_pos hd⟩
    · refine ⟨x, ?_, hxl, hsame x hx hxl hd⟩
      rw [hta]; exact List.mem_map.mpr ⟨x, hx, if_neg hd⟩
  · intro y hy hyl
    rw [hta] at hy
    rcases mem_updApps hu ham hl hid hy with h1 | ⟨h1, hd⟩
    · subst h1; exact Or.inl ⟨a, ham, hl, hk⟩
    · exact Or.inl ⟨y, h1, hyl, hsame y h1 hyl hd⟩

theorem AppsStep.of_rm {app : String} {s t : Core}
    (hu : s.apps.Pairwise (fun a b => a.live = true → b.live = true → a.id ≠ b.id)) (h : ResInv s)
    {a : CApp} (ham : a ∈ s.apps) (hl : a.live = true) (hid : a.id = app)
    (hta : t.apps = s.apps.filter (fun x => !(x.live && x.id == app))) : AppsStep app (a.reservations.contains ·) s t := by
  have hsame : ∀ x ∈ s.apps, x.live = true → x.id ≠ app → AppStep (a.reservations.contains ·) x x := by
    intro x hx hxl hne
    refine AppStep.same (List.filter_eq_self.mpr fun r hr => ?_)
    cases hg : a.reservations.contains r with
    | false => show (!a.reservations.contains r) = true; rw [hg]; rfl
    | true => exact absurd ((h.owner x hx a ham hxl hl r hr (by simpa using hg)).trans hid) hne
  refine ⟨fun r hr => ⟨a, ham, hl, hid, by simpa using hr⟩, ?_, ?_⟩
  · intro x hx hxl hne
    by_cases hd : x.id = app
    · obtain rfl : x = a := (appIds_atMostOne app hu).eq hx ham (by simp [hxl, hd]) (by simp [hl, hid])
      exact absurd (stay_all _) hne
    · refine ⟨x, ?_, hxl, hsame x hx hxl hd⟩
      rw [hta]; exact List.mem_filter.mpr ⟨hx, by simp [hxl, hd]⟩
  · intro y hy hyl
    rw [hta] at hy
    obtain ⟨hys, hd⟩ := List.mem_filter.mp hy
    exact Or.inl ⟨y, hys, hyl, hsame y hys hyl (by simpa [hyl] using hd)⟩

/-! ### the node and queue lists, given up to `nsig` / `qsig` (every other field is free) -/

def cutN (gone : String × String → Bool) (n : CNode) : CNode := { n with reservations := stayN gone n.id n.reservations }

theorem NodesStep.of_sig {gone : String × String → Bool} {s t : Core}
    (h : t.nodes.map nsig = (s.nodes.map nsig).map (fun p => (p.1, stayN gone p.1 p.2))) : NodesStep gone s t := by
  have h' : t.nodes.map nsig = (s.nodes.map (cutN gone)).map nsig := by rw [h, List.map_map, List.map_map]; rfl
  refine ⟨fun id n hf _ => ?_, fun m hm => ?_⟩
  · have hf' : (s.nodes.map (cutN gone)).find? (·.id == id) = some (cutN gone n) :=
      (find?_map_id s.nodes (cutN gone) (fun _ => rfl) id).trans (congrArg (Option.map _) hf)
    obtain ⟨m, hm, e⟩ := find?_sig nsig (fun n => n.id == id) (fun p => p.1 == id) (fun _ => rfl) _ t.nodes h'.symm _ hf'
    exact ⟨m, hm, (nsig_eq_iff.mp e).2.trans (by unfold cutN; rw [(findNode_some hf).2])⟩
  · obtain ⟨n', hn', e⟩ := mem_sig nsig h' hm
    obtain ⟨n, hn, rfl⟩ := List.mem_map.mp hn'
    exact Or.inl ⟨n, hn, (nsig_eq_iff.mp e).1, (nsig_eq_iff.mp e).2.symm⟩

theorem NodesStep.of_same {s t : Core}
    (hfw : ∀ id n, s.findNode id = some n → n.reservations ≠ [] → t.findNode id = some n)
    (hbw : ∀ m ∈ t.nodes, m ∈ s.nodes ∨ m.reservations = []) : NodesStep nogone s t :=
  ⟨fun id n hf hne => ⟨n, hfw id n hf (by rw [stayN_none] at hne; exact hne), (stayN_none _ _).symm⟩,
    fun m hm => (hbw m hm).imp (fun hm' => ⟨m, hm', rfl, (stayN_none _ _).symm⟩) id⟩

theorem NodesStep.keep {s t : Core} (h : t.nodes.map nsig = s.nodes.map nsig) : NodesStep nogone s t :=
  NodesStep.of_sig (h.trans ((List.map_id' _).symm.trans (List.map_congr_left fun p _ => by rw [stayN_none])))

theorem NodesStep.of_map {gone : String × String → Bool} {s t : Core} {fn : CNode → CNode} (ht : t.nodes = s.nodes.map fn)
    (hfn : ∀ n, nsig (fn n) = (n.id, stayN gone n.id n.reservations)) : NodesStep gone s t :=
  NodesStep.of_sig (by rw [ht, List.map_map, List.map_map]; exact List.map_congr_left fun n _ => hfn n)

/-- the queue views of `t` are `G` of those of `s` -/
theorem QueuesStep.of_sig {app : String} {gone : String × String → Bool} {s t : Core}
    (G : String → List (String × Nat) → List (String × Nat))
    (h : t.queues.map qsig = (s.queues.map qsig).map (fun p => (p.1, G p.1 p.2)))
    (hG : ∀ q ∈ s.queues, QStep s app gone q.path q.reserved (G q.path q.reserved)) : QueuesStep app gone s t := by
  rw [List.map_map] at h
  refine ⟨fun q hq => ?_, fun q' hq' => ?_⟩
  · have : (q.path, G q.path q.reserved) ∈ t.queues.map qsig := h ▸ List.mem_map.mpr ⟨q, hq, rfl⟩
    obtain ⟨q', hq', e⟩ := List.mem_map.mp this
    exact ⟨q', hq', congrArg Prod.fst e⟩
  · have : qsig q' ∈ s.queues.map _ := h ▸ List.mem_map.mpr ⟨q', hq', rfl⟩
    obtain ⟨q, hq, e⟩ := List.mem_map.mp this
    exact Or.inl ⟨q, hq, (congrArg Prod.fst e).symm,
      (show q'.reserved = G q.path q.reserved from (congrArg Prod.snd e).symm) ▸ hG q hq⟩

theorem QueuesStep.of_map {app : String} {gone : String × String → Bool} {s t : Core} {fq : CQueue → CQueue}
    (G : String → List (String × Nat) → List (String × Nat)) (ht : t.queues = s.queues.map fq)
    (hfq : ∀ q, qsig (fq q) = (q.path, G q.path q.reserved))
    (hG : ∀ q ∈ s.queues, QStep s app gone q.path q.reserved (G q.path q.reserved)) : QueuesStep app gone s t :=
  QueuesStep.of_sig G (by rw [ht, List.map_map, List.map_map]; exact List.map_congr_left fun q _ => hfq q) hG

theorem QStep.same {s : Core} {app : String} {gone : String × String → Bool} {path : String} (l : List (String × Nat))
    (h : ∀ a ∈ s.apps, a.live = true → a.id = app → path = a.queue → stay gone a.reservations = a.reservations) :
    QStep s app gone path l l :=
  ⟨id, fun _ _ => rfl, fun a ha hl hid hp e => by rw [h a ha hl hid hp]; exact e, fun r hr => ⟨r, hr, rfl, id⟩⟩

theorem QueuesStep.keep {app : String} {s t : Core} (h : t.queues.map qsig = s.queues.map qsig) : QueuesStep app nogone s t :=
  QueuesStep.of_sig (fun _ l => l) (h.trans (List.map_id' _).symm) (fun _ _ => QStep.same _ (fun _ _ _ _ _ => stay_none _))

theorem QStep.unres {s : Core} {app : String} {gone : String × String → Bool} {path : String} {l : List (String × Nat)}
    (h : ∀ a ∈ s.apps, a.live = true → a.id = app → stay gone a.reservations = []) :
    QStep s app gone path l (l.filter (·.1 != app)) :=
  ⟨fun hn => List.Nodup.sublist (List.Sublist.map _ List.filter_sublist) hn, fun k hk => lookup_filter_ne l app k hk,
   fun a ha hl hid _ _ => by rw [lookup_filter_self, h a ha hl hid]; rfl,
   fun r hr => ⟨r, (List.mem_filter.mp hr).1, rfl, id⟩⟩

/-! ### the maps of `updNode` / `updQueues`, and maps one after the other -/

theorem nsig_updNs (nodes : List CNode) (id : String) (fn : CNode → CNode) (h : ∀ n, nsig (fn n) = nsig n) :
    (updNs nodes id fn).map nsig = nodes.map nsig := by
  unfold updNs
  rw [List.map_map]
  apply List.map_congr_left
  intro n _
  simp only [Function.comp]
  split
  · exact h n
  · rfl

theorem nsig_onNodeId (id : String) {h : CNode → CNode} (hh : ∀ n, nsig (h n) = nsig n) (n : CNode) :
    nsig (onNodeId id h n) = nsig n :=
  onNodeId_keeps (P := fun m => nsig m = nsig n) (fun _ => hh n) rfl

theorem qsig_onChain (chain : List String) {fq : CQueue → CQueue} (h : ∀ q, qsig (fq q) = qsig q) (q : CQueue) :
    qsig (onChain chain fq q) = qsig q :=
  onChain_keeps (P := fun q' => qsig q' = qsig q) (h q) rfl

/-- a map that rewrites the view after a map that keeps it -/
theorem nsig_after {F : String → List String → List String} {outer : CNode → CNode} {m n : CNode}
    (ho : ∀ m, nsig (outer m) = (m.id, F m.id m.reservations)) (hi : nsig m = nsig n) :
    nsig (outer m) = (n.id, F n.id n.reservations) := by
  rw [ho, (nsig_eq_iff.mp hi).1, (nsig_eq_iff.mp hi).2]

theorem qsig_after {G : String → List (String × Nat) → List (String × Nat)} {outer : CQueue → CQueue} {p q : CQueue}
    (ho : ∀ p, qsig (outer p) = (p.path, G p.path p.reserved)) (hi : qsig p = qsig q) :
    qsig (outer p) = (q.path, G q.path q.reserved) := by
  rw [ho, (qsig_eq_iff.mp hi).1, (qsig_eq_iff.mp hi).2]

theorem qsig_updQs (queues : List CQueue) (chain : List String) (fq : CQueue → CQueue) (h : ∀ q, qsig (fq q) = qsig q) :
    (updQs queues chain fq).map qsig = queues.map qsig := by
  unfold updQs
  rw [List.map_map]
  exact List.map_congr_left (fun q _ => qsig_onChain chain h q)

/-! ### the number of reservations -/

def rcount (a : CApp) : Nat := if a.live = true then a.reservations.length else 0

theorem resvTotal_eq (s : Core) : resvTotal s = (s.apps.map rcount).sum := by
  unfold resvTotal liveApps
  induction s.apps with
  | nil => rfl
  | cons a t ih =>
    rw [List.filter_cons, List.map_cons, List.sum_cons]
    unfold rcount
    cases hl : a.live with
    | true => simp only [if_true, List.map_cons, List.sum_cons]; rw [ih]; rfl
    | false => simp only [Bool.false_eq_true, if_false]; rw [ih]; simp; rfl

theorem resvTotal_of_apps {s t : Core} (ht : t.apps = s.apps) : resvTotal t = resvTotal s := by
  unfold resvTotal liveApps; rw [ht]

theorem resvTotal_upd {s t : Core}
    (hu : s.apps.Pairwise (fun a b => a.live = true → b.live = true → a.id ≠ b.id))
    {app : String} {a : CApp} (f : CApp → CApp)
    (ham : a ∈ s.apps) (hl : a.live = true) (hid : a.id = app) (ht : t.apps = updApps s.apps app f) :
    resvTotal t + rcount a = resvTotal s + rcount (f a) := by
  have hc : (a.live && a.id == app) = true := by rw [hl, hid, beq_self_eq_true]; rfl
  rw [resvTotal_eq, resvTotal_eq, ht]
  exact sum_map_upd_nat s.apps (fun x => x.live && x.id == app) f rcount a (appIds_atMostOne app hu) ham hc

theorem counter_upd {s t : Core} (hu : s.apps.Pairwise (fun a b => a.live = true → b.live = true → a.id ≠ b.id)) (h : ResInv s)
    {app : String} {a : CApp} {f : CApp → CApp} (ham : a ∈ s.apps) (hl : a.live = true) (hid : a.id = app)
    (hta : t.apps = updApps s.apps app f) (d : Nat) (hle : (f a).reservations.length + d ≤ a.reservations.length)
    (hr : s.reservations ≤ t.reservations + d) : resvTotal t ≤ t.reservations := by
  have hc := resvTotal_upd hu f ham hl hid hta
  have : rcount (f a) + d ≤ rcount a := by
    unfold rcount
    rw [if_pos hl]
    split
    · exact hle
    · omega
  have := h.counter
  omega

/-! ### the common cases -/

theorem res_apps_eq {s t : Core} (h : ResInv s) (ha : t.apps = s.apps) (hn : NodesStep nogone s t)
    (hq : QueuesStep "" nogone s t) (hr : s.reservations ≤ t.reservations) : ResInv t :=
  ResStep.res ⟨AppsStep.of_eq ha, hn, hq, resvTotal_of_apps ha ▸ Nat.le_trans h.counter hr⟩ h

theorem res_upd1 {s t : Core} {app : String} {a : CApp} {f : CApp → CApp}
    (hu : s.apps.Pairwise (fun a b => a.live = true → b.live = true → a.id ≠ b.id)) (h : ResInv s)
    (hfind : s.findApp app = some a) (hta : t.apps = updApps s.apps app f)
    (hn : t.nodes.map nsig = s.nodes.map nsig) (hq : t.queues.map qsig = s.queues.map qsig)
    (hc : s.reservations ≤ t.reservations) (hk : AppStep nogone a (f a))
    (hfl : (f a).live = true ∨ (f a).reservations = []) : ResInv t :=
  let ⟨ham, hl, hid⟩ := findApp_some hfind
  ResStep.res ⟨AppsStep.of_upd hu h ham hl hid (fun _ hr => Bool.noConfusion hr) hta hk hfl, NodesStep.keep hn,
    QueuesStep.keep hq, counter_upd hu h ham hl hid hta 0 (by rw [hk.resv, stay_none]; exact Nat.le_refl _) hc⟩ h

/-- the queue and node maps of the `Shape` take the reservations `gone` out of the views (`G`: what the queue map does to
    the counts) -/
theorem _root_.Yk.Shape.resStep {s t : Core} {app : String} {a a' : CApp} {fq : CQueue → CQueue} {fn : CNode → CNode}
    (sh : Shape s t app a a' fq fn) (hu : s.apps.Pairwise (fun a b => a.live = true → b.live = true → a.id ≠ b.id))
    (h : ResInv s) {gone : String × String → Bool} (hgone : ∀ r, gone r = true → r ∈ a.reservations)
    (hk : AppStep gone a a') (hfl : a'.live = true ∨ a'.reservations = [])
    (hfn : ∀ n, nsig (fn n) = (n.id, stayN gone n.id n.reservations))
    (G : String → List (String × Nat) → List (String × Nat)) (hfq : ∀ q, qsig (fq q) = (q.path, G q.path q.reserved))
    (hG : ∀ q ∈ s.queues, QStep s app gone q.path q.reserved (G q.path q.reserved)) : ResStep app gone s t :=
  let ⟨ham, hl, hid⟩ := sh.mem
  ⟨AppsStep.of_upd (f := fun _ => a') hu h ham hl hid hgone sh.apps hk hfl, NodesStep.of_map sh.nodes hfn,
    QueuesStep.of_map G sh.queues hfq hG,
    counter_upd (f := fun _ => a') hu h ham hl hid sh.apps 0 (by rw [hk.resv]; exact List.length_filter_le _ _)
      (Nat.le_of_eq sh.resv.symm)⟩

theorem _root_.Yk.Shape.res {s t : Core} {app : String} {a a' : CApp} {fq : CQueue → CQueue} {fn : CNode → CNode}
    (sh : Shape s t app a a' fq fn) (hu : s.apps.Pairwise (fun a b => a.live = true → b.live = true → a.id ≠ b.id))
    (h : ResInv s) (hfq : ∀ q, qsig (fq q) = qsig q) (hfn : ∀ n, nsig (fn n) = nsig n)
    (hk : AppStep nogone a a') (hfl : a'.live = true ∨ a'.reservations = []) : ResInv t :=
  res_upd1 (f := fun _ => a') hu h sh.find sh.apps
    (by rw [sh.nodes, List.map_map]; exact List.map_congr_left fun n _ => hfn n)
    (by rw [sh.queues, List.map_map]; exact List.map_congr_left fun q _ => hfq q) (Nat.le_of_eq sh.resv.symm) hk hfl

end ResS
end Yk
