/- A second configuration: under hypotheses that exclude the mechanisms of the known findings, the limits in force after
   the reload are those of the new configuration (YkProps/C05 limits_follow_config_reload_partial).
   This file: what the operations of a reload do to ONE tracker tree; `TreeInv` is what all of them keep. -/
import YkProofs.UgmSteps
import YkProofs.UgmParse
import YkProofs.UgmAnchor
namespace Yk.Ugm
open Yk Yk.Res

/-! ### queue paths -/

theorem mem_prefixes_trans {p p1 p' : Path} (h1 : p1 ∈ prefixes p) (h2 : p' ∈ prefixes p1) : p' ∈ prefixes p := by
  rw [mem_prefixes_iff] at *
  exact ⟨h2.1, h2.2.trans h1.2⟩

theorem nil_not_mem_prefixes (q : Path) : ([] : Path) ∉ prefixes q := fun h => (mem_prefixes_iff.mp h).1 rfl

theorem not_below_of_prefix {pd p p' : Path} (h : pd.isPrefixOf p = false) (hp : p' ∈ prefixes p) : pd.isPrefixOf p' = false := by
  cases hh : pd.isPrefixOf p' with
  | false => rfl
  | true =>
    rw [List.isPrefixOf_iff_prefix.mpr ((List.isPrefixOf_iff_prefix.mp hh).trans (mem_prefixes_iff.mp hp).2)] at h
    cases h

theorem prefixes_rootPath : prefixes rootPath = [rootPath] := rfl

/-! ### allowed limits -/

def QA (t : Tree) (sv : Path → Triple → Prop) : Prop := ∀ p n, aget t p = some n → sv p (triple n)

def WildT (w : List (Path × Limit)) (p : Path) (τ : Triple) : Prop := ∃ lw, aget w p = some lw ∧ τ = t3w lw
def NamedT (L : List (Path × List (String × Limit))) (p : Path) (x : String) (τ : Triple) : Prop := ∃ lc, aget2 L p x = some lc ∧ τ = t3 lc
/-- a limit the OLD configuration explains -/
def OldT (w : List (Path × Limit)) (Lold : List (Path × List (String × Limit))) (x : String) (p : Path) (τ : Triple) : Prop :=
  τ = dflt ∨ WildT w p τ ∨ NamedT Lold p x τ

theorem newNode_triple (w : List (Path × Limit)) (b : Bool) (p : Path) (X : Prop) :
    triple (newNode w b p) = dflt ∨ WildT w p (triple (newNode w b p)) ∨ X := by
  unfold newNode
  cases b with
  | false => exact Or.inl rfl
  | true =>
    simp only [if_true]
    cases h : aget w p with
    | none => exact Or.inl rfl
    | some l => exact Or.inr (Or.inl ⟨l, h, rfl⟩)

theorem wild_false_of_t3 {nd : Node} {lc : Limit} (h : triple nd = t3 lc) : nd.wild = false := by
  simp only [triple, t3, Prod.mk.injEq] at h; exact h.2.2

/-! ### setLimit -/

section
variable {w : List (Path × Limit)} {b : Bool} {t : Tree} {q p : Path} {mr : ORes} {ma : Nat} {uw ck : Bool} {n : Node}

theorem keysNodup_setLimit (h : KeysNodup t) :
    KeysNodup (setLimit w b t q mr ma uw ck) := by
  unfold setLimit KeysNodup; rw [keys_amod]; exact keysNodup_ensurePath w b t q h

theorem aget_setLimit_cases (h : aget (setLimit w b t q mr ma uw ck) p = some n) :
    (q = p ∧ triple n = (mr, ma, uw)) ∨
    ((ck = true ∨ q ≠ p) ∧ (aget t p = some n ∨ (p ∈ prefixes q ∧ n = newNode w b p))) := by
  have hens : ∀ n0, aget (ensurePath w b t q) p = some n0 → aget t p = some n0 ∨ (p ∈ prefixes q ∧ n0 = newNode w b p) :=
    fun n0 h0 => (aget_ensurePath_cases h0).imp_right And.right
  unfold setLimit at h
  rw [aget_amod] at h
  by_cases e : q = p
  · subst e
    rw [if_pos rfl] at h
    cases h0 : aget (ensurePath w b t q) q with
    | none => rw [h0] at h; cases h
    | some n0 =>
      rw [h0] at h
      simp only [Option.map_some, Option.some.injEq] at h
      by_cases hc : (ck && !n0.wild) = true
      · rw [if_pos hc] at h; subst h
        exact Or.inr ⟨Or.inl (Bool.and_eq_true_iff.mp hc).1, hens n0 h0⟩
      · rw [if_neg hc] at h; subst h
        exact Or.inl ⟨rfl, rfl⟩
  · rw [if_neg e] at h
    exact Or.inr ⟨Or.inr e, hens n h⟩

/-- a limit change keeps the trackers allowed; an unconditional one forgets what was allowed on its queue -/
theorem QA_setLimit {sv sv' : Path → Triple → Prop} (h : QA t sv) (hi : ∀ p τ, (ck = true ∨ q ≠ p) → sv p τ → sv' p τ)
    (hn : ∀ p ∈ prefixes q, sv' p (triple (newNode w b p))) (hs : sv' q (mr, ma, uw)) :
    QA (setLimit w b t q mr ma uw ck) sv' := by
  intro p n hpn
  rcases aget_setLimit_cases hpn with ⟨e, ht⟩ | ⟨hc, hold | ⟨hm, e⟩⟩
  · rw [← e, ht]; exact hs
  · exact hi p _ hc (h p n hold)
  · rw [e]; exact hn p hm

theorem aget_setLimit_other (hne : q ≠ p) (hex : aget t p = some n) : aget (setLimit w b t q mr ma uw ck) p = some n := by
  unfold setLimit
  rw [aget_amod, aget_ensurePath, hex]; simp [hne]

theorem aget_setLimit_check_keep (h : aget t p = some n) (hw : n.wild = false) : aget (setLimit w b t q mr ma uw true) p = some n := by
  unfold setLimit
  rw [aget_amod, aget_ensurePath, h]
  by_cases e : q = p <;> simp [e, hw]

theorem ahas_setLimit_mono (h : ahas t p = true) : ahas (setLimit w b t q mr ma uw ck) p = true := by
  rw [setLimit_ahas]; exact ensurePath_ahas_mono w b t q p h

theorem ahas_setLimit_prefix (hp : p ∈ prefixes q) : ahas (setLimit w b t q mr ma uw ck) p = true := by
  obtain ⟨n, hn⟩ := ensurePath_has w b t q p hp
  rw [setLimit_ahas, ahas_eq, hn]; rfl

theorem ahas_ne_setLimit (h : ahas t [] = false) : ahas (setLimit w b t q mr ma uw ck) [] = false := by
  rw [setLimit_ahas, ahas_eq, aget_ensurePath]
  rw [ahas_eq] at h
  cases hh : aget t [] with
  | some n => rw [hh] at h; cases h
  | none => simp [nil_not_mem_prefixes q]

theorem ahas_setLimit_closed (hcl : ahas t p = true → ∀ p' ∈ prefixes p, ahas t p' = true) (ha : ahas (setLimit w b t q mr ma uw ck) p = true) :
    ∀ p' ∈ prefixes p, ahas (setLimit w b t q mr ma uw ck) p' = true := by
  intro p' hp'
  rw [setLimit_ahas, ahas_eq, aget_ensurePath] at ha
  cases hh : aget t p with
  | some n0 => exact ahas_setLimit_mono (hcl (by rw [ahas_eq, hh]; rfl) p' hp')
  | none =>
    rw [hh] at ha
    by_cases hm : p ∈ prefixes q
    · exact ahas_setLimit_prefix (mem_prefixes_trans hm hp')
    · simp [hm] at ha

theorem aget_setLimit_self (t : Tree) (w : List (Path × Limit)) (b : Bool) (hq : q ≠ []) (mr : ORes) (ma : Nat) (uw ck : Bool) :
    ∃ n, aget (setLimit w b t q mr ma uw ck) q = some n ∧ (triple n = (mr, ma, uw) ∨ (ck = true ∧ n.wild = false)) := by
  obtain ⟨n0, hn0⟩ := ensurePath_has w b t q q (mem_prefixes_self hq)
  unfold setLimit
  rw [aget_amod, hn0]
  simp only [if_true, Option.map_some]
  by_cases hc : (ck && !n0.wild) = true
  · rw [if_pos hc]; exact ⟨_, rfl, Or.inr (by simpa using hc)⟩
  · rw [if_neg hc]; exact ⟨_, rfl, Or.inl rfl⟩

end


/-! ### changes that keep queues and limits -/

/-- a change of the tree that keeps queues and limits: decreaseTrackedResourceUsageDownwards, or `id` -/
structure KeepsLimits (pre : Tree → Tree) : Prop where
  nd : ∀ t, KeysNodup t → KeysNodup (pre t)
  get : ∀ t p, (aget (pre t) p).map triple = (aget t p).map triple

theorem KeepsLimits_id : KeepsLimits id := ⟨fun _ h => h, fun _ _ => rfl⟩

theorem map_eq_some {α β : Type} {f : α → β} {a b : Option α} (h : a.map f = b.map f) {x : α} (hx : a = some x) :
    ∃ y, b = some y ∧ f y = f x := by
  subst hx
  cases b with
  | none => cases h
  | some y => exact ⟨y, rfl, (Option.some.inj h).symm⟩

theorem KeepsLimits.ahas {pre : Tree → Tree} (h : KeepsLimits pre) (t : Tree) (p : Path) : ahas (pre t) p = ahas t p := by
  rw [ahas_eq, ahas_eq, ← Option.isSome_map (f := triple), h.get, Option.isSome_map]

theorem KeepsLimits.QA {pre : Tree → Tree} (h : KeepsLimits pre) {t : Tree} {sv : Path → Triple → Prop} (hq : QA t sv) : QA (pre t) sv := by
  intro p n' hn'
  obtain ⟨n, hn, e⟩ := map_eq_some (h.get t p) hn'
  rw [← e]; exact hq p n hn

theorem triple_resetNode (n : Node) : triple (resetNode n) = triple n := by
  unfold resetNode; split <;> rfl

theorem aget_map_snd (f : Path × Node → Node) (l : Tree) (p : Path) :
    aget (l.map (fun e => (e.1, f e))) p = (aget l p).map (fun n => f (p, n)) :=
  aget_map_vals l (fun p n => f (p, n)) p

/-- decreaseTrackedResourceUsageDownwards resets some trackers (`resetNode` keeps the limit) and leaves the others -/
theorem KeepsLimits_decreaseDownwards (h : Path) : KeepsLimits (fun t => (decreaseDownwards t h).1) := by
  have e : ∀ t, (decreaseDownwards t h).1 = t.map (fun e => (e.1,
      if (e.1.isPrefixOf h || (h.isPrefixOf e.1 && activeChain t h e.1)) = true then resetNode e.2 else e.2)) := by
    intro t
    unfold decreaseDownwards
    refine List.map_congr_left (fun e _ => ?_)
    cases e.1.isPrefixOf h <;> cases (h.isPrefixOf e.1 && activeChain t h e.1) <;> rfl
  refine ⟨fun t hk => ?_, fun t p => ?_⟩
  · unfold KeysNodup keys at hk ⊢
    rw [e, List.map_map]; exact hk
  · rw [e, aget_map_snd]
    cases aget t p with
    | none => rfl
    | some n =>
      simp only [Option.map_some]
      split
      · rw [triple_resetNode]
      · rfl

/-! ### what every phase of the reload keeps of one tracker tree -/

/-- `N`: the limits the new configuration names the owner of the tree with (parsed so far); `sv`: the other limits a
    tracker may hold at this point of the reload.  Named queues hold their limit and are reachable from the root. -/
structure TreeInv (sv : Path → Triple → Prop) (N : Path → Option Limit) (t : Tree) : Prop where
  nd : KeysNodup t
  ne : ahas t [] = false     -- no tracker for the empty path: a tracker that exists has a proper path (`Side2_step`)
  allow : QA t (fun p τ => (N p).isSome = true ∨ sv p τ)
  exact : ∀ p lc, N p = some lc → ∃ n, aget t p = some n ∧ triple n = t3 lc ∧ ∀ p' ∈ prefixes p, ahas t p' = true

namespace TreeInv
variable {sv sv' : Path → Triple → Prop} {N N' : Path → Option Limit} {t : Tree}

theorem triple_of_named (h : TreeInv sv N t) {p : Path} {lc : Limit} {n : Node} (hl : N p = some lc) (hn : aget t p = some n) :
    triple n = t3 lc := by
  obtain ⟨n', hn', htn, _⟩ := h.exact p lc hl
  rw [hn] at hn'; cases hn'; exact htn

theorem mono_on (h : TreeInv sv N t) (hi : ∀ p n, aget t p = some n → sv p (triple n) → (N p).isSome = true ∨ sv' p (triple n)) :
    TreeInv sv' N t :=
  ⟨h.nd, h.ne, fun p n hn => (h.allow p n hn).elim Or.inl (hi p n hn), h.exact⟩

theorem mono (h : TreeInv sv N t) (hi : ∀ p τ, sv p τ → (N p).isSome = true ∨ sv' p τ) : TreeInv sv' N t :=
  h.mono_on (fun p n _ => hi p (triple n))

theorem setLimit (h : TreeInv sv N t) (w : List (Path × Limit)) (b : Bool) {q : Path} (mr : ORes) (ma : Nat) (uw : Bool) {ck : Bool}
    (hN : ck = true ∨ N q = none) (hi : ∀ p τ, (ck = true ∨ q ≠ p) → sv p τ → sv' p τ)
    (hn : ∀ p ∈ prefixes q, sv' p (triple (newNode w b p))) (hs : sv' q (mr, ma, uw)) :
    TreeInv sv' N (Ugm.setLimit w b t q mr ma uw ck) := by
  refine ⟨keysNodup_setLimit h.nd, ahas_ne_setLimit h.ne, ?_, ?_⟩
  · exact QA_setLimit h.allow (fun p τ hc hs => hs.imp_right (hi p τ hc)) (fun p hp => Or.inr (hn p hp)) (Or.inr hs)
  · intro p lc hl
    obtain ⟨n, hn, htn, hpp⟩ := h.exact p lc hl
    refine ⟨n, ?_, htn, fun p' hp' => ahas_setLimit_mono (hpp p' hp')⟩
    rcases hN with hN | hN
    · subst hN; exact aget_setLimit_check_keep hn (wild_false_of_t3 htn)
    · exact aget_setLimit_other (fun e => by rw [e, hl] at hN; cases hN) hn

/-- setUserLimits / setGroupLimits: the new configuration names the owner on `q` with `lc` -/
theorem setNamed (h : TreeInv sv N t) (w : List (Path × Limit)) (b : Bool) {q : Path} (hq : q ≠ []) (lc : Limit)
    (hq' : N' q = some lc) (ho : ∀ p, q ≠ p → N' p = N p) (hn : ∀ p, sv p (triple (newNode w b p))) :
    TreeInv sv N' (Ugm.setLimit w b t q lc.maxRes lc.maxApps false false) := by
  refine ⟨keysNodup_setLimit h.nd, ahas_ne_setLimit h.ne, ?_, ?_⟩
  · refine QA_setLimit h.allow ?_ (fun p _ => Or.inr (hn p)) (Or.inl (by rw [hq']; rfl))
    intro p τ hc hs
    rcases hc with hc | hc
    · cases hc
    · rw [ho p hc]; exact hs
  · intro p lc' hl
    by_cases e : q = p
    · subst e
      rw [hq'] at hl; cases hl
      obtain ⟨n, hn, ht⟩ := aget_setLimit_self t w b hq lc.maxRes lc.maxApps false false
      exact ⟨n, hn, ht.resolve_right (fun h => nomatch h.1), fun p' hp' => ahas_setLimit_prefix hp'⟩
    · rw [ho p e] at hl
      obtain ⟨n, hn, htn, hpp⟩ := h.exact p lc' hl
      exact ⟨n, aget_setLimit_other e hn, htn, fun p' hp' => ahas_setLimit_mono (hpp p' hp')⟩

theorem unlink (h : TreeInv sv N t) {pd : Path} (hk : ∀ p lc, N p = some lc → pd.isPrefixOf p = false) :
    TreeInv sv N (Ugm.unlink t pd) := by
  have hsub : ∀ {p n}, aget (Ugm.unlink t pd) p = some n → aget t p = some n := fun {p n} hn =>
    (aget_unlink h.nd pd p).elim (fun e => e ▸ hn) (fun e => by rw [e.2.1] at hn; cases hn)
  have hkeep : ∀ {p}, pd.isPrefixOf p = false → aget (Ugm.unlink t pd) p = aget t p := fun {p} hp =>
    (aget_unlink h.nd pd p).elim id (fun e => by rw [e.1] at hp; cases hp)
  refine ⟨keysNodup_unlink h.nd pd, ?_, fun p n hn => h.allow p n (hsub hn), ?_⟩
  · rw [ahas_eq]
    cases hx : aget (Ugm.unlink t pd) [] with
    | none => rfl
    | some nx => have := h.ne; rw [ahas_eq, hsub hx] at this; cases this
  · intro p lc hl
    obtain ⟨n, hn, htn, hpp⟩ := h.exact p lc hl
    refine ⟨n, (hkeep (hk p lc hl)).trans hn, htn, fun p' hp' => ?_⟩
    rw [ahas_eq, hkeep (not_below_of_prefix (hk p lc hl) hp'), ← ahas_eq]
    exact hpp p' hp'

theorem pre (h : TreeInv sv N t) {f : Tree → Tree} (hf : KeepsLimits f) : TreeInv sv N (f t) := by
  refine ⟨hf.nd t h.nd, by rw [hf.ahas]; exact h.ne, hf.QA h.allow, ?_⟩
  intro p lc hl
  obtain ⟨n, hn, htn, hpp⟩ := h.exact p lc hl
  obtain ⟨n', hn', htn'⟩ := map_eq_some (hf.get t p).symm hn
  exact ⟨n', hn', htn'.trans htn, fun p' hp' => by rw [hf.ahas]; exact hpp p' hp'⟩

end TreeInv

theorem limitedL_limited {lc : Limit} (h : (lc.maxApps == 0 && isZero lc.maxRes) = false) {n : Node} (ht : triple n = t3 lc) :
    limited n = true := by
  simp only [triple, t3, Prod.mk.injEq] at ht
  unfold limited; rw [ht.1, ht.2.1, h]; rfl

theorem not_canBeRemoved {t : Tree} {p : Path} {n : Node} (hn : aget t p = some n) (hl : limited n = true) (hr : p.take 1 = rootPath)
    (hp : ∀ p' ∈ prefixes p, ahas t p' = true) : canBeRemoved t = false := by
  unfold canBeRemoved
  have hroot := hp rootPath (rootPath_mem_prefixes hr)
  rw [ahas_eq] at hroot
  cases hh : aget t rootPath with
  | none => rw [hh] at hroot; cases hroot
  | some nr => exact not_removable_of_prot ⟨⟨n, hn, hl⟩, hp⟩ (rootPath_mem_prefixes hr) hh

theorem tracked_of_prefixes {t : Tree} {pd : Path} (h0 : pd ≠ []) (h : ∀ p' ∈ prefixes pd, ahas t p' = true) : tracked t pd = true := by
  unfold tracked
  have : pd.isEmpty = false := by cases pd with | nil => exact absurd rfl h0 | cons a b => rfl
  rw [this]
  simp only [Bool.not_false, Bool.true_and, List.all_eq_true]
  exact h

theorem TreeInv.resetT2 {sv sv' : Path → Triple → Prop} {N : Path → Option Limit} {t : Tree} (h : TreeInv sv N t)
    {pre : Tree → Tree} (hpre : KeepsLimits pre) (w : List (Path × Limit)) (b : Bool) {pd : Path}
    (hN : ∀ p lc, N p = some lc → pd.isPrefixOf p = false) (hi : ∀ p τ, pd ≠ p → sv p τ → sv' p τ)
    (hn : ∀ p, sv' p (triple (newNode w b p))) (hd : sv' pd dflt) : TreeInv sv' N (Ugm.resetT2 w b (pre t) pd) := by
  have hpd : N pd = none := by
    cases hl : N pd with
    | none => rfl
    | some lc => have := hN pd lc hl; rw [isPrefixOf_self] at this; cases this
  have h1 := (h.pre hpre).setLimit w b none 0 false (ck := false) (Or.inr hpd)
    (fun p τ hc => hc.elim (fun hc => by cases hc) (hi p τ)) (fun p _ => hn p) hd
  unfold Ugm.resetT2
  split
  · exact h1.unlink hN
  · exact h1

theorem TreeInv.not_canBeRemoved {sv : Path → Triple → Prop} {N : Path → Option Limit} {t : Tree} (h : TreeInv sv N t)
    {p : Path} {lc : Limit} (hl : N p = some lc) (hp : ProperAt p lc) : canBeRemoved t = false := by
  obtain ⟨n, hn, htn, hpp⟩ := h.exact p lc hl
  exact Ugm.not_canBeRemoved hn (limitedL_limited hp.2 htn) hp.1 hpp

theorem TreeInv_newTree {sv : Path → Triple → Prop} {N : Path → Option Limit} (w : List (Path × Limit)) (b : Bool)
    (hN : ∀ p, N p = none) (hs : sv rootPath (triple (newNode w b rootPath))) : TreeInv sv N (newTree w b) := by
  refine ⟨keysNodup_newTree w b, by rw [ahas_eq, aget_newTree]; simp [rootPath], ?_, fun p lc hl => by rw [hN] at hl; cases hl⟩
  intro p n hn
  rw [aget_newTree] at hn
  split at hn
  · cases hn; rename_i e; rw [← e]; exact Or.inr hs
  · cases hn

/-! ### the trackers of one side (users, or groups) -/

structure Trackers (sv : String → Path → Triple → Prop) (N : String → Path → Option Limit) (T : String → Option Tree) : Prop where
  inv : ∀ x t, T x = some t → TreeInv (sv x) (N x) t
  has : ∀ x p lc, N x p = some lc → ∃ t, T x = some t

section
variable {sv : String → Path → Triple → Prop} {N : String → Path → Option Limit} {T : String → Option Tree}

/-- from the clauses as the structures `Side` (UgmReloadNamed.lean) and `Side3` (UgmReloadWild.lean) spell them out -/
theorem Trackers.of_clauses (nd : ∀ x t, T x = some t → KeysNodup t)
    (allow : ∀ x t, T x = some t → QA t (fun p τ => (N x p).isSome = true ∨ sv x p τ))
    (exact : ∀ x p lc, N x p = some lc →
      ∃ t n, T x = some t ∧ aget t p = some n ∧ triple n = t3 lc ∧ ∀ p' ∈ prefixes p, ahas t p' = true)
    (ne : ∀ x t, T x = some t → ahas t [] = false) : Trackers sv N T :=
  ⟨fun x t hT => ⟨nd x t hT, ne x t hT, allow x t hT, fun p lc hl => by
      obtain ⟨t', n, hT', r⟩ := exact x p lc hl
      rw [hT] at hT'; cases hT'; exact ⟨n, r⟩⟩,
   fun x p lc hl => by obtain ⟨t, _, hT, _⟩ := exact x p lc hl; exact ⟨t, hT⟩⟩

theorem Trackers.exact (h : Trackers sv N T) (x : String) (p : Path) (lc : Limit) (hl : N x p = some lc) :
    ∃ t n, T x = some t ∧ aget t p = some n ∧ triple n = t3 lc ∧ ∀ p' ∈ prefixes p, ahas t p' = true := by
  obtain ⟨t, hT⟩ := h.has x p lc hl
  obtain ⟨n, r⟩ := (h.inv x t hT).exact p lc hl
  exact ⟨t, n, hT, r⟩

theorem Trackers.map {sv' : String → Path → Triple → Prop} (h : Trackers sv N T) {f : String → Tree → Tree}
    (hinv : ∀ x t, T x = some t → TreeInv (sv' x) (N x) (f x t)) : Trackers sv' N (fun x => (T x).map (f x)) := by
  refine ⟨fun x t' ht' => ?_, fun x p lc hl => ?_⟩
  · obtain ⟨t, hT, e⟩ := Option.map_eq_some_iff.mp ht'
    rw [← e]; exact hinv x t hT
  · obtain ⟨t, hT⟩ := h.has x p lc hl
    exact ⟨f x t, by rw [hT]; rfl⟩

end

end Yk.Ugm
