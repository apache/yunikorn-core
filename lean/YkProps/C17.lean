/-
  C17 — Placement puts applications only where rules and ACLs allow.
  Property theorems; the lemmas they rest on are in YkProofs/Place.lean. The model (YkModel/Place.lean) mirrors
  security.NewACL/CheckAccess, the placement filters, the provided / user / tag / fixed / recovery rules with parent
  rules, AppPlacementManager.PlaceApplication, Queue.CheckSubmitAccess and PartitionContext.AddApplication /
  createQueue / createRecoveryQueue.
  All statements are for every queue tree `t`, rule list `rules` (what buildRules produces: configured rules, then the
  recovery rule), application `a` (user, groups, requested queue, tags) and regular-expression oracle `rx`.
  `addApp rx t rules a = (t', out)`: `t'` is the queue tree afterwards, `out` the answer.
-/
import YkProofs.Place
namespace Yk.C17
open Yk.Place

variable {rx : Str → Str → Bool} {t t' : Tree} {rules : List Rule} {a : App} {q : QName} {out : Outcome}

/-- An accepted application is in a leaf queue; if that queue existed before the call it was a leaf and it was not
    draining — except for the recovery queue of a force-created application, which is taken without any check. -/
theorem placed_leaf_active (h : addApp rx t rules a = (t', .accepted q)) :
    (∃ x ∈ t', x.path = q ∧ x.leaf = true) ∧
    (∀ x, findQ t q = some x → x.leaf = true ∧ (x.draining = false ∨ (a.forced = true ∧ q = recoveryQ))) :=
  accepted_leaf_active h

/-- The exception is real (KNOWN_FINDINGS C17.L3): a configured queue root.@recovery@ that is draining takes a forced
    application. -/
def exDrainingRecovery : Tree :=
  [{ path := rootQ, leaf := false, managed := true }, { path := recoveryQ, leaf := true, managed := true, draining := true }]
theorem forced_recovery_draining :
    ∃ (t t' : Tree) (a : App), (∃ x, findQ t recoveryQ = some x ∧ x.draining = true) ∧
      addApp (fun _ _ => false) t (buildRules []) a = (t', .accepted recoveryQ) :=
  ⟨exDrainingRecovery, exDrainingRecovery,
   { user := { name := ['b', 'o', 'b'], groups := [] }, queue := [], tags := [(sForceTag, ['t', 'r', 'u', 'e'])] },
   by decide +kernel, by decide +kernel⟩

/-- The queue is the (lower-cased) name designated by the first rule, in configured order, whose result passes the
    checks of PlaceApplication (`FirstPassing`: the rule runs without error and yields the name — its own result, or
    root.default for the last rule when it yields nothing and that queue exists —, the name is eligible: the recovery
    queue for a forced application, otherwise not a spelling of the recovery queue for an application that is not
    forced and an existing active leaf the user may submit to, or not existing with an existing ancestor the user may
    submit to; every earlier rule runs without error and yields nothing or a name that
    is not eligible). -/
theorem first_matching_rule (h : addApp rx t rules a = (t', .accepted q)) :
    ∃ r n, FirstPassing rx t a rules r n ∧ q = lowerName n := by
  obtain ⟨r, n, hc, hq, _⟩ := accepted_eligible h
  exact ⟨r, n, choose_first rx t a rules r n hc, hq⟩

/-- Unless it is force-created into the recovery queue, the user passes the submit or the admin ACL of the queue or
    of one of its ancestors that existed before the call. -/
theorem acl_allows (h : addApp rx t rules a = (t', .accepted q)) (hnf : ¬(a.forced = true ∧ q = recoveryQ)) :
    ∃ k, 0 < k ∧ k ≤ q.length ∧ ownAllows t a.user (q.take k) = true :=
  accepted_acl h hnf

/-- Whatever the answer, the call only adds queues, and it adds some only if the first passing rule names a queue
    that does not exist and has its create flag set (or is the recovery rule, for a forced application); every part
    of that name is a valid queue name; the new queues lie on the path of the name below the deepest queue that
    existed, which is not a leaf; they are unmanaged and active, a new leaf has that queue's child template applied
    (template-controlled settings and the effective settings derived from its properties, see
    `created_queue_settings`) and new parents carry the template on (`NewBelow`). -/
theorem created_only_with_create (hwf : ∀ r ∈ rules, Rule.wf r = true) (h : addApp rx t rules a = (t', out)) :
    ∃ news, t' = t ++ news ∧
      (news ≠ [] → ∃ nd rest n, FirstPassing rx t a rules (nd :: rest) n ∧ getQueue t n = none ∧
        (nd.create = true ∨ (nd.kind = .recovery ∧ a.forced = true ∧ n = recoveryQ)) ∧
        n.all validQueueName = true ∧ NewBelow t n news) :=
  Yk.Place.created_only_with_create hwf h

/-- A created queue inherits the parent's child template in its EFFECTIVE settings too: the sort policy, priority sort /
    policy / offset, preemption policy / delay, quota preemption delay and ask backoff of a new leaf are what
    UpdateQueueProperties derives (`dynSettings` = `Yk.Reload.deriveSettings`, the derivation of the C16 model, off the
    recovery queue path) from the properties of the child template of the deepest queue that existed — a dynamic queue
    does not merge its parent's own properties; for a queue on the recovery queue path nothing is derived
    (UpdateQueueProperties returns early: fifo, blank settings). A new parent has blank settings and carries the
    template's properties on to the leaf created below it. -/
theorem created_queue_settings (h : addApp rx t rules a = (t', out)) :
    ∃ news, t' = t ++ news ∧
      (news ≠ [] → ∃ r n anc, FirstPassing rx t a rules r n ∧ walkUp t n = some anc ∧
        ∀ x ∈ news,
          (x.leaf = true → x.tplProps = [] ∧ x.set = dynSettings x.path true anc.tplProps) ∧
          (x.leaf = false → x.tplProps = anc.tplProps ∧ x.set = dynSettings x.path false [])) := by
  obtain ⟨news, h1, _, h3⟩ := addApp_spec h
  refine ⟨news, h1, ?_⟩
  intro hne
  obtain ⟨r, n, hc, _, ⟨anc, hw, _, hall⟩, _⟩ := h3 hne
  refine ⟨r, n, anc, choose_first rx t a rules r n hc, hw, ?_⟩
  intro x hx
  obtain ⟨_, _, _, _, c5, c6⟩ := hall x hx
  exact ⟨fun hl => ⟨(c5 hl).2.2.1, (c5 hl).2.2.2⟩, fun hl => ⟨(c6 hl).2.2.1, (c6 hl).2.2.2⟩⟩

/-- An application that no rule matches (and without a root.default queue to fall back to) is rejected with the
    "no placement rule matched" reason, and nothing changes. -/
theorem no_rule_rejected_with_reason (hd : getQueue t defaultQ = none) (hall : ∀ r ∈ rules, runRule rx t a r = .noMatch) :
    addApp rx t rules a = (t, .rejected .noRule) := by
  unfold addApp
  rw [place_rejected_of_noMatch rx t a hd rules hall]

def exRoot : Queue := { path := rootQ, leaf := false, managed := true, sacl := { all := true } }
def exUser : User := { name := ['b', 'o', 'b'], groups := [['d', 'e', 'v']] }

/-- The recovery queue is only ever used for force-created applications: a rule that returns a spelling of the
    recovery queue name for an application that is not forced is a no-match (PlaceApplication, after the forced
    `break`). For ALL trees, rule lists, oracles and applications. -/
theorem recovery_only_forced (h : addApp rx t rules a = (t', .accepted recoveryQ)) : a.forced = true :=
  Yk.Place.recovery_only_forced h

/-- clause C17.V1 on its witness (KNOWN_FINDINGS `fixed:` 18e2535): a provided rule with create: true, the application asks
    for root.@recovery@ (or another capitalisation) and is not forced — no rule matches, no queue is created -/
def exRecoveryRules : List Rule := buildRules [[{ kind := .provided, create := true }]]
example : addApp (fun _ _ => false) [exRoot] exRecoveryRules { user := exUser, queue := "root.@recovery@".toList, tags := [] } =
    ([exRoot], .rejected .noRule) := by
  -- `"…".toList` becomes the list of the characters first: the kernel would decode the literal byte by byte
  rw [String.toList_ofList]
  decide +kernel
example : addApp (fun _ _ => false) [exRoot] exRecoveryRules { user := exUser, queue := "root.@Recovery@".toList, tags := [] } =
    ([exRoot], .rejected .noRule) := by
  rw [String.toList_ofList]
  decide +kernel

/-- The recovery queue PATH is protected as well: whatever the answer, a call creates no queue at or below
    root.@recovery@ except the recovery leaf itself, and that only for a force-created application (a rule result below
    any spelling of the recovery queue is a no-match in PlaceApplication; the recovery queue name itself is one for an
    application that is not forced). For ALL trees, rule lists, oracles and applications. -/
theorem recovery_path_protected (h : addApp rx t rules a = (t', out)) :
    ∃ news, t' = t ++ news ∧
      ∀ x ∈ news, recoveryQ <+: x.path → x.path = recoveryQ ∧ x.leaf = true ∧ a.forced = true :=
  Yk.Place.recovery_path_protected h

/-- … and no application is accepted into a queue below the recovery queue (e.g. a configured parent `@recovery@`). -/
theorem nothing_placed_below_recovery (h : addApp rx t rules a = (t', .accepted q)) : ¬(recoveryQ <+: q ∧ 3 ≤ q.length) := by
  obtain ⟨_, n, _, hq, hel⟩ := accepted_eligible h
  intro hq3
  rw [hq, lowerName_length, ← belowRecovery_iff, (eligible_true hel).1] at hq3
  cases hq3

/-- clause C17.V2 on its witness (KNOWN_FINDINGS `fixed:` 4db9e54): the requested queue root.@RECOVERY@.x is a no-match,
    nothing is created, and a forced application afterwards still gets its recovery queue -/
example : addApp (fun _ _ => false) [exRoot] exRecoveryRules { user := exUser, queue := "root.@RECOVERY@.x".toList, tags := [] } =
    ([exRoot], .rejected .noRule) := by
  rw [String.toList_ofList]
  decide +kernel
example : (addApp (fun _ _ => false) [exRoot] exRecoveryRules
    { user := exUser, queue := "root.@RECOVERY@.x".toList, tags := [("application.create.force".toList, ['t', 'r', 'u', 'e'])] }).2 =
    .accepted recoveryQ := by
  rw [String.toList_ofList, String.toList_ofList]
  decide +kernel

/-- Placement never panics: every name a rule returns starts with the part `root` (a fixed value counts as
    qualified only if it is `root` or starts with `root.`), so the walk-up loops of PlaceApplication / createQueue
    end at the root queue at the latest. For ALL rule lists (no well-formedness needed), oracles and applications, on
    every tree that has a root queue. -/
theorem never_panics {root : Queue} (hroot : findQ t rootQ = some root) : (addApp rx t rules a).2 ≠ .panic :=
  addApp_no_panic hroot

/-- … because of this: whatever a rule returns has `root` as its first part -/
theorem rule_result_rooted {r : Rule} {n : QName} (h : runRule rx t a r = .queue n) : n.head? = some sRoot :=
  runRule_root h

/-- clause C17.P1 on its witness (KNOWN_FINDINGS `fixed:` a12e748): the fixed rule `value: rooty, create: true` places below root -/
example : (addApp (fun _ _ => false) [exRoot] (buildRules [[{ kind := .fixed ['r', 'o', 'o', 't', 'y'], create := true }]])
    { user := exUser, queue := [], tags := [] }).2 = .accepted [sRoot, ['r', 'o', 'o', 't', 'y']] := by decide +kernel

/-- The filter as the code evaluates it is the filter as configured, whatever the capitalisation of its type
    (newFilter compares with strings.EqualFold, as the configuration check does). -/
theorem filter_as_configured (compiles : Str → Bool) (ty : Str) (us gs : List Str) (u : User) :
    (newFilter compiles ty us gs).specAllow rx u = (newFilter compiles ty us gs).allowUser rx u := by
  unfold Filter.specAllow Filter.allowUser
  have ht : (newFilter compiles ty us gs).cfgType = ty := by simp [newFilter]
  have ha : (newFilter compiles ty us gs).allow = decide (lower ty ≠ sDeny) := by simp [newFilter]
  rw [ht, ha]

/-- Hence the first-rule clause read with the configured filter types (clause F1 of the driver) is the first-rule
    clause itself for rules whose filters come from newFilter (`filter_built_as_configured`). -/
theorem rules_as_configured (h : ∀ r ∈ rules, ∀ nd ∈ r, nd.filter.allow = decide (lower nd.filter.cfgType ≠ sDeny)) :
    normRules rules = rules := by
  unfold normRules
  conv => rhs; rw [← List.map_id rules]
  apply List.map_congr_left
  intro r hr
  conv => rhs; rw [id, ← List.map_id r]
  apply List.map_congr_left
  intro nd hnd
  rw [← h r hr nd hnd]
  rfl

theorem filter_built_as_configured (compiles : Str → Bool) (ty : Str) (us gs : List Str) :
    (newFilter compiles ty us gs).allow = decide (lower (newFilter compiles ty us gs).cfgType ≠ sDeny) := by
  simp [newFilter]

/-- A configured list — users or groups — none of whose entries is usable (`NoUsable`: not empty, no entry is a valid
    name, a single entry is not a regular expression either; e.g. users [al*, bo*], groups [dev@corp, ops@corp], which
    pass the configuration check) still makes the filter non-empty, and the filter matches nobody: an allow filter
    admits nobody, a deny filter denies nobody. For users and groups (each list absent or without a usable entry, at
    least one configured), every type, oracle and user. -/
theorem filter_list_without_usable_entries (compiles : Str → Bool) (ty : Str) (us gs : List Str) (u : User)
    (hu : us = [] ∨ NoUsable cfgUserValid us) (hg : gs = [] ∨ NoUsable cfgGroupValid gs) (hne : us ≠ [] ∨ gs ≠ []) :
    (newFilter compiles ty us gs).empty = false ∧
    (newFilter compiles ty us gs).allowUser rx u = !(newFilter compiles ty us gs).allow := by
  have hU := filterList_unusable compiles hu
  have hG := filterList_unusable compiles hg
  have he : (newFilter compiles ty us gs).empty = false := by
    show ((filterList _ _ us).2.2 && (filterList _ _ gs).2.2) = false
    rw [hU, hG]
    cases us <;> cases gs <;> simp at hne ⊢
  have hfu : (newFilter compiles ty us gs).filterUser rx u.name = false := by
    simp [Filter.filterUser, newFilter, hU]
  have hfg : ∀ g, (newFilter compiles ty us gs).filterGroup rx g = false := by
    intro g; simp [Filter.filterGroup, newFilter, hG]
  refine ⟨he, ?_⟩
  unfold Filter.allowUser
  rw [he, hfu, List.any_eq_false.mpr (fun g _ => by simp [hfg g])]
  simp

/-- non-vacuity: users [al*, bo*] with type allow admits nobody, groups [dev@corp, ops@corp] with type deny denies
    nobody; one usable entry among them and the filter works on that entry -/
example : (newFilter (fun _ => true) "allow".toList ["al*".toList, "bo*".toList] []).allowUser (fun _ _ => true) exUser = false := by
  rw [String.toList_ofList, String.toList_ofList, String.toList_ofList]
  decide +kernel
example : (newFilter (fun _ => true) "deny".toList [] ["dev@corp".toList, "ops@corp".toList]).allowUser (fun _ _ => true) exUser = true := by
  rw [String.toList_ofList, String.toList_ofList, String.toList_ofList]
  decide +kernel
example : (newFilter (fun _ => true) "allow".toList ["al*".toList, "bob".toList] []).allowUser (fun _ _ => true) exUser = true := by
  rw [String.toList_ofList, String.toList_ofList, String.toList_ofList]
  decide +kernel
example : NoUsable cfgUserValid ["al*".toList, "bo*".toList] ∧ NoUsable cfgGroupValid ["dev@corp".toList, "".toList] := by
  rw [String.toList_ofList, String.toList_ofList, String.toList_ofList, String.toList_ofList]
  refine ⟨⟨by decide +kernel, by decide +kernel, by intro x h; cases h⟩, ⟨by decide +kernel, by decide +kernel, by intro x h; cases h⟩⟩

/-- clause C17.F1 on its witness (KNOWN_FINDINGS `fixed:` 135d523): an empty filter of type Deny denies everybody -/
example : (newFilter (fun _ => true) ['D', 'e', 'n', 'y'] [] []).allowUser (fun _ _ => false) exUser = false := by decide +kernel

/-- ACL.CheckAccess: wildcard, listed user, or a listed group of the user. -/
theorem acl_check (acl : Acl) (u : User) :
    acl.check u = true ↔ acl.all = true ∨ u.name ∈ acl.users ∨ ∃ g ∈ u.groups, g ∈ acl.groups := by
  simp [Acl.check, or_assoc]

/-- The recovery queue never passes an ACL check. -/
theorem recovery_queue_no_acl (u : User) : checkSubmit t u recoveryQ = false := by
  simp [checkSubmit, recoveryQ, checkSubmitR, isRecoveryName, lowerName, lower, sRoot, sRecovery]

/-- The driver evaluates the Boolean clauses of YkModel/PlaceSpec.lean on what the implementation answered; the
    model's own answer always satisfies the first-rule (R1), no-rule (N1), ACL (A1), active-leaf (L2), recovery (V1)
    and — on a tree with a root queue — no-panic (P1) clauses, so an `inv` verdict for one of them can only come
    together with a model/implementation difference. -/
theorem model_satisfies_clauses (h : addApp rx t rules a = (t', out)) :
    clauseR1 rx t rules a ⟨out, t'⟩ = true ∧ clauseN1 rx t rules a ⟨out, t'⟩ = true ∧
    clauseA1 t a ⟨out, t'⟩ = true ∧ clauseL2 t a ⟨out, t'⟩ = true ∧ clauseV1 a ⟨out, t'⟩ = true ∧
    (∀ root, findQ t rootQ = some root → clauseP1 ⟨out, t'⟩ = true) :=
  ⟨model_clauseR1 h, model_clauseN1 h, model_clauseA1 h, model_clauseL2 h, model_clauseV1 h, fun _ hr => model_clauseP1 hr h⟩

/-! non-vacuity: the model accepts, creates, walks the chain and rejects on small instances -/
def exTree : Tree :=
  [{ exRoot with sacl := {} },
   { path := [sRoot, ['a']], leaf := false, managed := true, sacl := { users := [['b', 'o', 'b']] }, tpl := ['T'] },
   { path := [sRoot, ['a'], ['l']], leaf := true, managed := true },
   { path := [sRoot, ['x']], leaf := true, managed := true, sacl := { all := true }, draining := true }]
def exRules : List Rule := buildRules [[{ kind := .provided, create := true }], [{ kind := .user, create := true }, { kind := .fixed ['a'] }]]

example : (addApp (fun _ _ => false) exTree exRules { user := exUser, queue := "root.a.l".toList, tags := [] }).2 = .accepted [sRoot, ['a'], ['l']] := by
  rw [String.toList_ofList]
  decide +kernel
/-- draining leaf: the provided rule is skipped, the user rule creates root.a.bob with the template of root.a -/
example : addApp (fun _ _ => false) exTree exRules { user := exUser, queue := "root.x".toList, tags := [] } =
    (exTree ++ [{ path := [sRoot, ['a'], ['b', 'o', 'b']], leaf := true, managed := false, cfg := ['T'] }], .accepted [sRoot, ['a'], ['b', 'o', 'b']]) := by
  rw [String.toList_ofList]
  decide +kernel
example : (addApp (fun _ _ => false) exTree exRules { user := { name := ['e', 'v', 'e'], groups := [] }, queue := "root.a.l".toList, tags := [] }).2 = .rejected .noRule := by
  rw [String.toList_ofList]
  decide +kernel
example : (addApp (fun _ _ => false) exTree exRules { user := exUser, queue := "root.a b".toList, tags := [] }).2 = .rejected (.ruleErr .invalidName) := by
  rw [String.toList_ofList]
  decide +kernel
example : (addApp (fun _ _ => false) exTree exRules { user := { name := ['e', 'v', 'e'], groups := [] }, queue := [], tags := [("application.create.force".toList, ['1'])] }).2 = .accepted recoveryQ := by decide +kernel

/-- non-vacuity of `created_queue_settings`: the leaf created below a parent whose child template says
    application.sort.policy=fair, priority.offset=5, preemption.policy=fence gets exactly these effective settings -/
def exTplParent : Queue :=
  { path := [sRoot, ['p']], leaf := false, managed := true, sacl := { all := true }, tpl := ['T'],
    tplProps := [("application.sort.policy", "fair"), ("preemption.policy", "fence"), ("priority.offset", "5")] }
example :
    ((addApp (fun _ _ => false) [exRoot, exTplParent] exRecoveryRules { user := exUser, queue := "root.p.new".toList, tags := [] }).1.map
      (fun q => (q.path, q.set.sort, q.set.prioOffset, q.set.preempt))) =
    [(rootQ, "fair", 0, "default"), ([sRoot, ['p']], "fair", 0, "default"), ([sRoot, ['p'], ['n', 'e', 'w']], "fair", 5, "fence")] := by
  rw [String.toList_ofList]
  decide +kernel

end Yk.C17
