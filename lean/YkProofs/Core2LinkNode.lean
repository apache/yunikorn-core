/-
  `Linked` (clause I8 of C03, YkProofs/Core2Link.lean) is preserved by the removal of a node (`nodeRemove`).
  The rounds of the loop of removeNodeAllocations unbind items without touching the node list (the node is dropped at
  the end), so `Linked` is not the invariant of the loop.  Two invariants instead, `LinkedOff id c` and `BoundIn id c l`,
  both transported along one relation between a state and its successor (`Step`): the live applications of the
  successor are live applications of the state, and their bound items are bound items of the state — or items that sit
  on another node, listed by that node (the real half of a replacement the removal confirms).  `Yk.Step` and
  `Yk.AppStep` here are relative to the doomed node; `Yk.Life.Step` (life cycle) and `Yk.ResS.AppStep` (reservations)
  are other relations.
-/
import YkProofs.Core2Link
namespace Yk
open Res Core

/-- every bound item of a live application that does NOT sit on the doomed node `id` is listed by its node -/
def LinkedOff (id : String) (c : Core) : Prop :=
  ∀ b ∈ c.apps, b.live = true → ∀ j ∈ b.items, j.bound = true → j.node ≠ id → OnNode c b.id j

/-- every bound item of a live application that sits on `id` is still waiting for its round: its `(application id, key)`
    is in the list `l` of rounds to come.  At `l = []`: nothing is bound on `id`. -/
def BoundIn (id : String) (c : Core) (l : List (String × String)) : Prop :=
  ∀ b ∈ c.apps, b.live = true → ∀ j ∈ b.items, j.bound = true → j.node = id → (b.id, j.key) ∈ l

def Cleared (c : Core) (app key : String) : Prop :=
  ∀ b ∈ c.apps, b.live = true → b.id = app → ∀ j ∈ b.items, j.key = key → j.bound = false

theorem Linked.linkedOff {s : Core} (h : Linked s) (id : String) : LinkedOff id s :=
  fun b hb hl j hj hbd _ => h b hb hl j hj hbd

def AppStep (id : String) (c : Core) (x y : CApp) : Prop :=
  y.id = x.id ∧ (y.live = true → x.live = true ∧ ∀ j' ∈ y.items, j'.bound = true →
    (∃ j ∈ x.items, j.bound = true ∧ j.key = j'.key ∧ j.node = j'.node ∧ j.res = j'.res) ∨
    (j'.node ≠ id ∧ OnNode c x.id j'))

theorem AppStep.of_boundSub (id : String) (c : Core) {x y : CApp} (h1 : y.id = x.id) (h2 : y.live = x.live)
    (h3 : BoundSub y.items x.items) : AppStep id c x y :=
  ⟨h1, fun hl => ⟨by rw [← h2]; exact hl, fun j' hj' hb' => Or.inl (h3 j' hj' hb')⟩⟩

theorem AppStep.refl (id : String) (c : Core) (x : CApp) : AppStep id c x x :=
  AppStep.of_boundSub id c rfl rfl (BoundSub.refl x.items)

def Step (id : String) (c c' : Core) : Prop :=
  c'.nodes = c.nodes ∧ ∀ y ∈ c'.apps, ∃ x ∈ c.apps, AppStep id c x y

theorem Step.refl (id : String) (c : Core) : Step id c c := ⟨rfl, fun y hy => ⟨y, hy, AppStep.refl id c y⟩⟩

theorem Step.of_lists {id : String} {c c' t : Core} (ha : t.apps = c'.apps) (hn : t.nodes = c'.nodes) (h : Step id c c') :
    Step id c t := ⟨hn.trans h.1, fun y hy => h.2 y (by rw [← ha]; exact hy)⟩

theorem Step.trans {id : String} {c c1 c2 : Core} (h1 : Step id c c1) (h2 : Step id c1 c2) : Step id c c2 := by
  refine ⟨h2.1.trans h1.1, ?_⟩
  intro z hz
  obtain ⟨y, hy, hyz1, hyz2⟩ := h2.2 z hz
  obtain ⟨x, hx, hxy1, hxy2⟩ := h1.2 y hy
  refine ⟨x, hx, hyz1.trans hxy1, ?_⟩
  intro hl
  obtain ⟨hly, hz2⟩ := hyz2 hl
  obtain ⟨hlx, hy2⟩ := hxy2 hly
  refine ⟨hlx, ?_⟩
  intro j2 hj2 hb2
  rcases hz2 j2 hj2 hb2 with ⟨j1, hj1, hb1, hk1, hn1, hr1⟩ | ⟨hne, hon⟩
  · rcases hy2 j1 hj1 hb1 with ⟨j, hj, hb, hk, hn, hr⟩ | ⟨hne, hon⟩
    · exact Or.inl ⟨j, hj, hb, hk.trans hk1, hn.trans hn1, hr.trans hr1⟩
    · exact Or.inr ⟨by rw [← hn1]; exact hne, OnNode.congr hk1.symm hn1.symm hr1.symm hon⟩
  · right
    refine ⟨hne, ?_⟩
    rw [← hxy1]
    exact OnNode.of_nodes h1.1.symm hon

theorem Step.linkedOff {id : String} {c c' : Core} (h : Step id c c') (hl : LinkedOff id c) : LinkedOff id c' := by
  intro y hy hly j' hj' hb' hne
  obtain ⟨x, hx, hid, h2⟩ := h.2 y hy
  obtain ⟨hlx, h3⟩ := h2 hly
  rw [hid]
  apply OnNode.of_nodes h.1
  rcases h3 j' hj' hb' with ⟨j, hj, hb, hk, hn, hr⟩ | ⟨_, hon⟩
  · exact OnNode.congr hk.symm hn.symm hr.symm (hl x hx hlx j hj hb (by rw [hn]; exact hne))
  · exact hon

theorem Step.boundIn {id : String} {c c' : Core} (h : Step id c c') {l : List (String × String)} (hl : BoundIn id c l) :
    BoundIn id c' l := by
  intro y hy hly j' hj' hb' hn'
  obtain ⟨x, hx, hid, h2⟩ := h.2 y hy
  obtain ⟨hlx, h3⟩ := h2 hly
  rcases h3 j' hj' hb' with ⟨j, hj, hb, hk, hn, _⟩ | ⟨hne, _⟩
  · rw [hid, ← hk]
    exact hl x hx hlx j hj hb (hn.trans hn')
  · exact absurd hn' hne

theorem Step.boundIn_tail {id : String} {c c' : Core} (h : Step id c c') {p : String × String} {t : List (String × String)}
    (hl : BoundIn id c (p :: t)) (hc : Cleared c' p.1 p.2) : BoundIn id c' t := by
  intro y hy hly j' hj' hb' hn'
  rcases List.mem_cons.mp (h.boundIn hl y hy hly j' hj' hb' hn') with he | ht
  · have h1 : y.id = p.1 := congrArg Prod.fst he
    have h2 : j'.key = p.2 := congrArg Prod.snd he
    have := hc y hy hly h1 j' hj' h2
    rw [this] at hb'; cases hb'
  · exact ht

namespace Shape
variable {c t : Core} {app : String} {a a' : CApp} {fq : CQueue → CQueue} {fn : CNode → CNode}

theorem step {id : String} (sh : Shape c t app a a' fq (fun n => n)) (hw : CoreWF c)
    (h : a'.live = true → ∀ j' ∈ a'.items, j'.bound = true →
      (∃ j ∈ a.items, j.bound = true ∧ j.key = j'.key ∧ j.node = j'.node ∧ j.res = j'.res) ∨
      (j'.node ≠ id ∧ OnNode c a.id j')) : Step id c t := by
  obtain ⟨ham, hl, hid⟩ := sh.mem
  refine ⟨sh.nodes.trans (List.map_id' _), fun y hy => ?_⟩
  rw [sh.apps] at hy
  rcases mem_updApps hw.appIds ham hl hid hy with rfl | ⟨hys, _⟩
  · exact ⟨a, ham, sh.id, fun hlive => ⟨hl, h hlive⟩⟩
  · exact ⟨y, hys, AppStep.refl id c y⟩

theorem cleared {key : String} (sh : Shape c t app a a' fq fn) (hw : CoreWF c)
    (hf : ∀ j ∈ a'.items, j.key = key → j.bound = false) : Cleared t app key := by
  obtain ⟨ham, hl, hid⟩ := sh.mem
  intro b hb hlb hidb j hj hk
  rw [sh.apps] at hb
  rcases mem_updApps hw.appIds ham hl hid hb with rfl | ⟨_, hnd⟩
  · exact hf j hj hk
  · exact absurd (by simp [hlb, hidb]) hnd

end Shape

/-- where `nodeRmBound` does nothing (`nodeRmBound_elim`), `key` is not bound -/
theorem cleared_of_skip {c : Core} (hw : CoreWF c) {app key : String}
    (h : ∀ a i, c.findApp app = some a → a.items.find? (·.key == key) = some i → i.bound = false) :
    Cleared c app key := by
  intro b hb hlb hidb j hj hk
  cases hfind : c.findApp app with
  | none => exact absurd hidb (findApp_none hfind b hb hlb)
  | some a =>
    obtain ⟨ham, hl, _⟩ := findApp_some hfind
    rw [findApp_unique hw hfind hb hlb hidb] at hj
    cases hitem : a.items.find? (·.key == key) with
    | none =>
      have := List.find?_eq_none.mp hitem j hj
      simp [hk] at this
    | some i =>
      obtain ⟨him, hkey⟩ := find_key_some hitem
      rw [itemKeys_eq (hw.itemKeys a ham hl) hj him (hk.trans hkey.symm)]
      exact h a i hfind hitem

theorem nodeRmBound_link (id : String) (c : Core) (app key : String) (hw : CoreWF c) :
    Step id c (nodeRmBound c app key) ∧ Cleared (nodeRmBound c app key) app key := by
  refine nodeRmBound_elim (M := fun t => Step id c t ∧ Cleared t app key) c app key
    (fun h => ⟨Step.refl id c, cleared_of_skip hw h⟩) ?_
  intro a i hfind hitem hbd
  have sh := shape_nodeRmBound c app key a i hw hfind hitem hbd
  have hitems : (nodeRmApp key i a).items = unbound key a.items := relAppT_items .unknown key i a
  constructor
  · refine sh.step hw (fun _ j' hj' hb' => ?_)
    rw [hitems] at hj'
    exact Or.inl ⟨j', (bound_unbound hj' hb').1, hb', rfl, rfl, rfl⟩
  · refine sh.cleared hw (fun j hj hk => ?_)
    rw [hitems] at hj
    cases hb : j.bound with
    | false => rfl
    | true => exact absurd hk (bound_unbound hj hb).2

theorem keepsSig_unlink : KeepsSig (fun x : CItem => { x with release := none }) := fun _ => ⟨rfl, rfl, rfl, rfl⟩

theorem step_unlink (id : String) (c : Core) (app k1 k2 : String) (a : CApp) (hw : CoreWF c) (hfind : c.findApp app = some a) :
    Step id c (updApp c app (unlinkApp k1 k2)) :=
  (shape_unlinkApp c app k1 k2 a hw hfind).step hw fun _ j' hj' hb' =>
    Or.inl (((BoundSub.updItem k2 keepsSig_unlink).trans (BoundSub.updItem k1 keepsSig_unlink)) j' hj' hb')

theorem step_dealloc (id : String) (c : Core) (app key other : String) (r : CItem) (a : CApp) (hw : CoreWF c)
    (hfind : c.findApp app = some a) :
    Step id c (updQueues (updApp c app (deallocAppRun key other r)) (pathChain c a.queue) (qIncPend r.res)) := by
  refine (shape_deallocAppRun c app key other r a hw hfind).step hw fun _ j' hj' hb' => Or.inl ?_
  rw [deallocAppRun_items] at hj'
  exact ((BoundSub.updItem other keepsSig_unlink).trans
    (BoundSub.updItem (g := fun x => { x with allocated := false, release := none }) key (fun _ => ⟨rfl, rfl, rfl, rfl⟩))) j' hj' hb'

/-! ### one round of the loop -/

/-- What a round needs for `Linked`, beyond `NodeRmOK`: when the removal of the node confirms a swap (bound placeholder
    `i` on the node, real half `r` waiting on ANOTHER node), the real allocation becomes a bound item of the application;
    it must be listed by the node it waits on.  Only asked of a real allocation that is an item of the application (the
    real half of an in-flight cross-node replacement, which `swapStart` added to its node); for one that `findReal`
    resurrects from a node's list it holds by construction (`findReal_parked`). -/
structure NodeLinkOK (c : Core) (nodeId app key : String) : Prop where
  parked : ∀ a i rk r, c.findApp app = some a → a.items.find? (·.key == key) = some i → i.release = some rk → i.ph = true →
    a.items.find? (·.key == rk) = some r → r.node ≠ nodeId → i.bound = true → OnNode c app r

/-- a real allocation that `findReal` resurrects from a node's list (its ask is gone) is listed by that node -/
theorem findReal_parked {c : Core} (hw : CoreWF c) {a : CApp} {rk : String} {r : CItem}
    (hnone : a.items.find? (·.key == rk) = none) (h : findReal c a rk = some r) : OnNode c a.id r := by
  unfold findReal at h
  simp only [hnone] at h
  obtain ⟨n, hn, hx⟩ := List.exists_of_findSome?_eq_some h
  rw [Option.map_eq_some_iff] at hx
  obtain ⟨x, hfx, rfl⟩ := hx
  have hxm := List.mem_of_find?_eq_some hfx
  have hxp := List.find?_some hfx
  simp only [Bool.and_eq_true, beq_iff_eq, Bool.not_eq_true'] at hxp
  exact ⟨n, findNode_of_mem hw hn, x, hxm, hxp.1.1, hxp.1.2, hxp.2, fun _ => rfl⟩

theorem nodeRmAlloc_link (c : Core) (nodeId app key : String) (hw : CoreWF c) (hb : Books c)
    (hok : NodeRmOK c nodeId app key) (hlk : NodeLinkOK c nodeId app key) :
    Step nodeId c (nodeRmAlloc c nodeId app key) ∧ Cleared (nodeRmAlloc c nodeId app key) app key := by
  refine nodeRmAlloc_elim (M1 := fun t => Step nodeId c t) (M := fun t => Step nodeId c t ∧ Cleared t app key)
    c nodeId app key hw hb hok (Step.refl _ c) (fun a rk hfind => step_unlink nodeId c app rk key a hw hfind)
    (fun a r k o hfind _ _ _ _ _ _ => step_dealloc nodeId c app k o r a hw hfind)
    (fun c1 hw1 _ h => ⟨h.trans (nodeRmBound_link nodeId c1 app key hw1).1, (nodeRmBound_link nodeId c1 app key hw1).2⟩) ?_
  -- the swap is confirmed: the real allocation `r` becomes a bound item; it is listed by the node it waits on
  intro a i rk r hfind hitem hrel hph hreal hne hbd hrepl _
  obtain ⟨ham, hl, hid⟩ := findApp_some hfind
  obtain ⟨_, hkey⟩ := find_key_some hitem
  obtain ⟨_, _, _, hitems, _⟩ := confirmApp_fields i r a
  have hon : OnNode c app r := by
    cases hf : a.items.find? (·.key == rk) with
    | none => rw [← hid]; exact findReal_parked hw hf hreal
    | some r' =>
      have : r' = r := by unfold findReal at hreal; simpa only [hf, Option.some.injEq] using hreal
      subst this
      exact hlk.parked a i rk r' hfind hitem hrel hph hf hne hbd
  have sh := shape_confirmApp c app a i r hw hfind
  constructor
  · refine sh.step hw (fun _ j' hj' hb' => ?_)
    rw [hitems] at hj'
    rcases bound_replItems (hw.itemKeys a ham hl) hrepl hj' hb' with ⟨h, _⟩ | rfl
    · exact Or.inl ⟨j', h, hb', rfl, rfl, rfl⟩
    · exact Or.inr ⟨hne, by rw [hid]; exact hon.congr rfl rfl rfl⟩
  · refine sh.cleared hw (fun j hj hk => ?_)
    rw [hitems] at hj
    exact replItems_unbound hrepl.rKey hj (hk.trans hkey.symm)

/-- every round finds `NodeLinkOK` in the state the previous rounds left (like `NodeLoopOK`) -/
def NodeLinkLoopOK (nodeId : String) : Core → List (String × String) → Prop
  | _, [] => True
  | c, p :: t => NodeLinkOK c nodeId p.1 p.2 ∧ NodeLinkLoopOK nodeId (nodeRmAlloc c nodeId p.1 p.2) t

theorem nodeLoop_link (nodeId : String) (l : List (String × String)) (c : Core) (hw : CoreWF c) (hb : Books c)
    (hok : NodeLoopOK nodeId c l) (hlk : NodeLinkLoopOK nodeId c l) (h1 : LinkedOff nodeId c) (h2 : BoundIn nodeId c l) :
    LinkedOff nodeId (l.foldl (fun c p => nodeRmAlloc c nodeId p.1 p.2) c) ∧
    BoundIn nodeId (l.foldl (fun c p => nodeRmAlloc c nodeId p.1 p.2) c) [] := by
  obtain ⟨_, _, _, h1', h2'⟩ := nodeLoop_inv
    (J := fun l c => NodeLinkLoopOK nodeId c l ∧ LinkedOff nodeId c ∧ BoundIn nodeId c l) nodeId
    (fun p t c hw hb hok1 h =>
      have hst := nodeRmAlloc_link c nodeId p.1 p.2 hw hb hok1 h.1.1
      ⟨h.1.2, hst.1.linkedOff h.2.1, hst.1.boundIn_tail h.2.2 hst.2⟩)
    l c hw hb hok ⟨hlk, h1, h2⟩
  exact ⟨h1', h2'⟩

/-! ### before and after the loop: reservations, terminated applications -/

theorem step_unreserveOn (nodeId : String) (c : Core) (id k : String) : Step nodeId c (unreserveOn c id k) := by
  rcases unreserveOn_cases c id k with ⟨_, h⟩ | ⟨a, _, h⟩
  · rw [h]; exact Step.refl _ c
  · rw [h]
    refine ⟨rfl, fun y hy => ?_⟩
    obtain ⟨x, hx, rfl⟩ := List.mem_map.mp hy
    refine ⟨x, hx, ?_⟩
    split
    · exact AppStep.of_boundSub _ _ rfl rfl (BoundSub.refl x.items)
    · exact AppStep.refl _ _ x

theorem step_unreserveFold (nodeId id : String) (l : List String) (c : Core) :
    Step nodeId c (l.foldl (fun c k => unreserveOn c id k) c) :=
  foldl_inv (J := fun _ t => Step nodeId c t) _ (fun k _ t h => h.trans (step_unreserveOn nodeId t id k)) l c (Step.refl _ c)

theorem step_leaveApp (nodeId : String) (c : Core) (app : String) (hw : CoreWF c) : Step nodeId c (c.leaveApp app) := by
  rcases shape_leaveApp c app hw with ⟨_, e⟩ | ⟨a, _, sh⟩
  · rw [e]; exact Step.refl _ c
  · exact sh.step hw (fun h => by cases h)

theorem step_sweepFold (nodeId : String) (l : List CApp) (c : Core) (hw : CoreWF c) (hb : Books c) :
    Step nodeId c (l.foldl (fun c a => if a.live && terminated a.state then leaveApp c a.id else c) c) :=
  (sweepFold_keeps (I := fun t => CoreWF t ∧ Books t ∧ Step nodeId c t) (fun t app h =>
    ⟨(leaveApp_props t app h.1 h.2.1).2, (leaveApp_props t app h.1 h.2.1).1, h.2.2.trans (step_leaveApp nodeId t app h.1)⟩)
    l c ⟨hw, hb, Step.refl _ c⟩).2.2

/-- every bound item on the node is among the node's non-foreign allocations, i.e. gets its round -/
theorem Linked.boundIn {s : Core} (hl : Linked s) {id : String} {n : CNode} (hn : s.findNode id = some n)
    (order : List (String × String)) : BoundIn id s (order ++ nodeRest n order) := by
  intro b hb hlb j hj hbd hnode
  obtain ⟨n', hn', x, hx, hxk, hxa, hxf, _⟩ := hl b hb hlb j hj hbd
  rw [hnode, hn] at hn'
  have hnn : n = n' := Option.some.inj hn'
  subst hnn
  rw [List.mem_append]
  by_cases hc : order.contains (b.id, j.key) = true
  · exact Or.inl (List.contains_iff_mem.mp hc)
  · right
    unfold nodeRest
    rw [List.mem_filter]
    refine ⟨List.mem_map.mpr ⟨x, List.mem_filter.mpr ⟨hx, by rw [hxf]; rfl⟩, by rw [hxa, hxk]⟩, ?_⟩
    simpa using hc

theorem findNode_filter_ne (c : Core) (id id' : String) (t : Res) (h : id' ≠ id) :
    ({ c with nodes := c.nodes.filter (·.id != id), total := t } : Core).findNode id' = c.findNode id' := by
  show (c.nodes.filter (·.id != id)).find? (·.id == id') = c.nodes.find? (·.id == id')
  rw [List.find?_filter]
  congr 1
  funext n
  by_cases hn : n.id = id'
  · simp [hn, h]
  · simp [hn]

theorem linked_dropNode (c : Core) (id : String) (t t' : Res) (h1 : LinkedOff id c) (h2 : BoundIn id c []) :
    Linked (setRootMax { c with nodes := c.nodes.filter (·.id != id), total := t } t') := by
  intro b hb hlb j hj hbd
  have hne : j.node ≠ id := fun h => nomatch h2 b hb hlb j hj hbd h
  obtain ⟨n, hn, rest⟩ := h1 b hb hlb j hj hbd hne
  exact ⟨n, (findNode_filter_ne c id j.node t hne).trans hn, rest⟩

/-- The side condition of a node removal for `Linked`: every round of the loop meets `NodeLinkOK` in the state it is
    applied to (same shape as `NodeRemoveOK`). -/
def NodeRemoveLinkOK (s : Core) (id : String) (order : List (String × String)) : Prop :=
  ∀ n, s.findNode id = some n →
    NodeLinkLoopOK id (n.reservations.foldl (fun c k => unreserveOn c id k) s) (order ++ nodeRest n order)

theorem linked_nodeRemove (s : Core) (id : String) (order : List (String × String)) (hw : CoreWF s) (hb : Books s)
    (hl : Linked s) (hok : NodeRemoveOK s id order) (hlk : NodeRemoveLinkOK s id order) : Linked (s.nodeRemove id order) := by
  unfold nodeRemove
  split
  · exact hl
  · rename_i n hn
    obtain ⟨hb0, hw0, _⟩ := unreserveFold_props id n.reservations s hw hb
    have hs0 := step_unreserveFold id id n.reservations s
    obtain ⟨h1, h2⟩ := nodeLoop_link id _ _ hw0 hb0 (hok n hn) (hlk n hn) (hs0.linkedOff (hl.linkedOff id))
      (hs0.boundIn (hl.boundIn hn order))
    obtain ⟨hb1, hw1, _⟩ := nodeLoop_props id _ _ hw0 hb0 (hok n hn)
    have hs2 : Step id _ (Core.sweepTerminated _) := step_sweepFold id _ _ hw1 hb1
    exact linked_dropNode _ id _ _ (hs2.linkedOff h1) (hs2.boundIn h2)

end Yk
