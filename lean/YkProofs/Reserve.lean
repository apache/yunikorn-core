/- C09 / C06: the four-view reservation machine `RState`, the placeholder counters `PhData`. -/
import YkModel.Reserve
import YkProofs.Res
namespace Yk
open Res RState

/-! ### `setQueue` -/

namespace RState

theorem lookup_setQueue (s : RState) (a : String) (n : Nat) (a' : String) :
    ((s.setQueue a n).lookup a').getD 0 = if a' = a then n else s.queueCount a' := by
  unfold setQueue queueCount
  by_cases h : a' = a
  · subst h
    by_cases hn : n = 0
    · subst hn; simp [lookup_filter_self]
    · have : (n == 0) = false := by simp [hn]
      simp [this]
  · by_cases hn : n = 0
    · subst hn; simp [h, lookup_filter_ne _ _ _ h]
    · have : (n == 0) = false := by simp [hn]
      have h2 : (a' == a) = false := by simp [h]
      simp [this, List.lookup_cons, h2, h, lookup_filter_ne _ _ _ h]

theorem mem_setQueue (s : RState) (a : String) (n : Nat) (q : String × Nat) (h : q ∈ s.setQueue a n) :
    (q = (a, n) ∧ n ≠ 0) ∨ (q ∈ s.queue ∧ q.1 ≠ a) := by
  unfold setQueue at h
  have hf : q ∈ s.queue.filter (fun x => x.1 != a) → q ∈ s.queue ∧ q.1 ≠ a := by
    intro hq
    have := List.mem_filter.mp hq
    exact ⟨this.1, by simpa using this.2⟩
  by_cases hn : n = 0
  · subst hn
    simp only [beq_self_eq_true, if_true] at h
    exact Or.inr (hf h)
  · have : (n == 0) = false := by simp [hn]
    simp only [this, Bool.false_eq_true, if_false, List.mem_cons] at h
    rcases h with h | h
    · exact Or.inl ⟨h, hn⟩
    · exact Or.inr (hf h)

end RState

/-! ### the inductive invariant of the reservation machine -/

structure RInv (s : RState) : Prop where
  keys : (s.app.map (·.2.1)).Nodup
  node : ∀ n k, (n, k) ∈ s.node ↔ ∃ a, (a, k, n) ∈ s.app
  qcount : ∀ a, s.queueCount a = (s.app.filter (·.1 == a)).length
  qent : ∀ q ∈ s.queue, q.2 = (s.app.filter (·.1 == q.1)).length ∧ q.2 ≠ 0
  part : s.part = s.app.length
  excl : ∀ n, (s.nodeKeys n).length ≤ 1 ∨ ∀ k ∈ s.nodeKeys n, k ∈ s.required

theorem RInv.init : RInv {} :=
  ⟨List.nodup_nil, fun n k => ⟨fun h => (by cases h), fun ⟨_, h⟩ => (by cases h)⟩, fun _ => rfl,
   fun _ h => (by cases h), rfl, fun _ => Or.inl (Nat.zero_le _)⟩

namespace RState

theorem askReserved_false {s : RState} {key : String} (h : s.askReserved key = false) : key ∉ s.app.map (·.2.1) := by
  intro hm
  obtain ⟨x, hx, hk⟩ := List.mem_map.mp hm
  unfold askReserved at h
  rw [List.any_eq_false] at h
  exact h x hx (by simp [hk])

theorem nodeKeys_cons (s : RState) (node key n : String) (s' : RState) (hs : s'.node = (node, key) :: s.node) :
    s'.nodeKeys n = if node = n then key :: s.nodeKeys n else s.nodeKeys n := by
  unfold nodeKeys; rw [hs, List.filter_cons]
  by_cases h : node = n
  · subst h; simp
  · have : ((node, key).1 == n) = false := by simp [h]
    rw [this]; simp [h]

theorem nodeKeys_filter_sublist (s : RState) (p : String × String → Bool) (n : String) (s' : RState)
    (hs : s'.node = s.node.filter p) : List.Sublist (s'.nodeKeys n) (s.nodeKeys n) := by
  unfold nodeKeys; rw [hs]
  exact List.Sublist.map _ (List.Sublist.filter _ List.filter_sublist)

end RState

theorem reserve_inv (s : RState) (h : RInv s) (a key node : String) : RInv (s.reserve a key node) := by
  unfold reserve
  split
  · exact h
  · rename_i hc
    simp only [Bool.or_eq_true, Bool.not_eq_true', not_or, Bool.not_eq_true, Bool.not_eq_false] at hc
    obtain ⟨hc1, hc2⟩ := hc
    refine ⟨List.nodup_cons.mpr ⟨askReserved_false hc1, h.keys⟩, ?_, ?_, ?_, congrArg (· + 1) h.part, ?_⟩
    · intro n k
      show (n, k) ∈ (node, key) :: s.node ↔ ∃ a', (a', k, n) ∈ (a, key, node) :: s.app
      simp only [List.mem_cons, h.node, Prod.mk.injEq]
      constructor
      · rintro (⟨rfl, rfl⟩ | ⟨a', ha'⟩)
        · exact ⟨a, Or.inl ⟨rfl, rfl, rfl⟩⟩
        · exact ⟨a', Or.inr ha'⟩
      · rintro ⟨a', ⟨_, rfl, rfl⟩ | ha'⟩
        · exact Or.inl ⟨rfl, rfl⟩
        · exact Or.inr ⟨a', ha'⟩
    · intro a'
      show ((s.setQueue a (s.queueCount a + 1)).lookup a').getD 0 = (((a, key, node) :: s.app).filter (·.1 == a')).length
      rw [lookup_setQueue, List.filter_cons]
      by_cases he : a' = a
      · subst he; simp [h.qcount]
      · have : ((a, key, node).1 == a') = false := by simpa using fun e : a = a' => he e.symm
        rw [this]; simp [he, h.qcount]
    · intro q hq
      show q.2 = (((a, key, node) :: s.app).filter (·.1 == q.1)).length ∧ q.2 ≠ 0
      rcases mem_setQueue s a (s.queueCount a + 1) q hq with ⟨he, hn⟩ | ⟨hm, hne⟩
      · subst he; simp [h.qcount]
      · have : ((a, key, node).1 == q.1) = false := by simpa using fun e : a = q.1 => hne e.symm
        rw [List.filter_cons, this]; exact h.qent q hm
    · intro n
      rw [nodeKeys_cons s node key n _ rfl]
      by_cases hn : node = n
      · subst hn
        rw [if_pos rfl]
        unfold nodeAccepts at hc2
        by_cases hr : s.required.contains key = true
        · rw [if_pos hr] at hc2
          right
          intro k hk'
          rcases List.mem_cons.mp hk' with rfl | hk'
          · simpa using hr
          · simpa using List.all_eq_true.mp hc2 k hk'
        · rw [if_neg hr] at hc2
          left
          rw [List.isEmpty_iff.mp hc2]; exact Nat.le_refl _
      · rw [if_neg hn]; exact h.excl n

theorem unreserve_inv (s : RState) (h : RInv s) (a key node : String) : RInv (s.unreserve a key node) := by
  unfold unreserve
  split
  · exact h
  · rename_i hc
    have hm : (a, key, node) ∈ s.app := by simpa using hc
    have hnd : s.app.Nodup := nodup_of_map _ h.keys
    have hcnt := fun a' => filter_ne_length (fun r : String × String × String => r.1 == a') hnd hm
    have hqa : s.queueCount a - 1 = ((s.app.filter (· != (a, key, node))).filter (·.1 == a)).length := by
      have := hcnt a; rw [h.qcount]; simp only [beq_self_eq_true, if_true] at this; omega
    have hqo : ∀ a', a' ≠ a →
        ((s.app.filter (· != (a, key, node))).filter (·.1 == a')).length = (s.app.filter (·.1 == a')).length := by
      intro a' hne
      have := hcnt a'
      rw [show ((a, key, node).1 == a') = false by simpa using fun e : a = a' => hne e.symm] at this
      simpa using this
    refine ⟨nodup_map_filter _ _ h.keys, ?_, ?_, ?_, ?_, ?_⟩
    · intro n k
      show (n, k) ∈ s.node.filter (· != (node, key)) ↔ ∃ a', (a', k, n) ∈ s.app.filter (· != (a, key, node))
      simp only [List.mem_filter, h.node, bne_iff_ne, ne_eq, Prod.mk.injEq, not_and]
      constructor
      · rintro ⟨⟨a', ha'⟩, hne⟩
        exact ⟨a', ha', fun _ hk hn => hne hn hk⟩
      · rintro ⟨a', ha', hne⟩
        refine ⟨⟨a', ha'⟩, fun hn hk => ?_⟩
        subst hn; subst hk
        exact hne (congrArg Prod.fst (eq_of_map_eq (fun r : String × String × String => r.2.1) h.keys ha' hm rfl)) rfl rfl
    · intro a'
      show ((s.setQueue a (s.queueCount a - 1)).lookup a').getD 0 = _
      rw [lookup_setQueue]
      by_cases he : a' = a
      · subst he; rw [if_pos rfl]; exact hqa
      · rw [if_neg he, h.qcount]; exact (hqo a' he).symm
    · intro q hq
      show q.2 = ((s.app.filter (· != (a, key, node))).filter (·.1 == q.1)).length ∧ q.2 ≠ 0
      rcases mem_setQueue s a (s.queueCount a - 1) q hq with ⟨he, hn⟩ | ⟨hm', hne⟩
      · subst he; exact ⟨hqa, hn⟩
      · rw [hqo q.1 hne]; exact h.qent q hm'
    · show s.part - 1 = (s.app.filter (· != (a, key, node))).length
      have := filter_ne_length' hnd hm
      rw [h.part]; omega
    · intro n
      have hsub := nodeKeys_filter_sublist s (· != (node, key)) n
        { s with app := s.app.filter (· != (a, key, node)), node := s.node.filter (· != (node, key)),
                 queue := s.setQueue a (s.queueCount a - 1), part := s.part - 1 } rfl
      exact (h.excl n).imp (Nat.le_trans hsub.length_le) (fun hr k hk => hr k (hsub.subset hk))

theorem step_inv (s : RState) (h : RInv s) (op : ROp) : RInv (s.step op) := by
  cases op with
  | reserve a k n => exact reserve_inv s h a k n
  | unreserve a k n => exact unreserve_inv s h a k n
  | markRequired k =>
    simp only [step]
    split
    · exact h
    · refine ⟨h.keys, h.node, h.qcount, h.qent, h.part, ?_⟩
      intro n
      rcases h.excl n with hl | hr
      · exact Or.inl hl
      · exact Or.inr (fun k' hk' => List.mem_cons_of_mem _ (hr k' hk'))

theorem run_inv (ops : List ROp) (s : RState) (h : RInv s) : RInv (ops.foldl RState.step s) := by
  induction ops generalizing s with
  | nil => exact h
  | cons op t ih => exact ih _ (step_inv s h op)

theorem RInv.consistent {s : RState} (h : RInv s) : s.consistent = true := by
  unfold RState.consistent
  simp only [Bool.and_eq_true]
  refine ⟨⟨⟨⟨?_, ?_⟩, ?_⟩, ?_⟩, ?_⟩
  · rw [List.all_eq_true]
    intro r hr
    obtain ⟨a, k, n⟩ := r
    rw [List.contains_eq_mem, decide_eq_true_eq]
    exact (h.node n k).mpr ⟨a, hr⟩
  · rw [List.all_eq_true]
    intro r hr
    obtain ⟨n, k⟩ := r
    obtain ⟨a, ha⟩ := (h.node n k).mp hr
    rw [List.any_eq_true]
    exact ⟨(a, k, n), ha, by simp⟩
  · rw [List.all_eq_true]
    intro r _
    rw [beq_iff_eq]; exact h.qcount r.1
  · rw [List.all_eq_true]
    intro q hq
    have := h.qent q hq
    rw [Bool.and_eq_true, beq_iff_eq, bne_iff_ne]; exact this
  · rw [beq_iff_eq]; exact h.part

/-! ### placeholder counters (YkProps/C06) -/

def PhData.bal (d : PhData) : Prop :=
  d.replaced + d.timedOut + d.cancelled + d.pendingAsks + d.allocated = d.count

theorem PhData.step_bal (d : PhData) (h : d.bal) (op : PhOp) : (d.step op).bal := by
  unfold PhData.bal at h ⊢
  cases op with
  | ask => simp only [PhData.step]; omega
  | allocate | replaced | removed | askTimedOut | askCancelled =>
    -- refused (nothing to move), or one unit moves from one counter to another
    simp only [PhData.step]
    split
    · exact h
    · rename_i h0
      simp only [beq_iff_eq] at h0
      dsimp only
      omega

theorem PhData.run_bal (ops : List PhOp) (d : PhData) (h : d.bal) : (ops.foldl PhData.step d).bal := by
  induction ops generalizing d with
  | nil => exact h
  | cons op t ih => exact ih _ (PhData.step_bal d h op)

end Yk
