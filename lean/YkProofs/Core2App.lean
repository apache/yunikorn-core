/-
  `releaseApp` (partition.removeAllocation with an empty key: every allocation of the application, and — unless this is
  a TIMEOUT confirmation — every ask) and `appRemove` (partition.removeApplication).  The fold over the nodes is a map
  (`rmN`), the trailing `unreserveApp` a pair of maps (`unresQ`, `unresN`).  `Books` and `CoreWF` are preserved when the
  nodes list every allocation the application holds (`AppOnNodes`); `appRemove` drops the record from the application
  list, which for invariants that read the live applications only (`props_of_live`) is a release by a record that has left.
-/
import YkProofs.Core2Repl
import YkProofs.Core2AppRec
namespace Yk
open Res Core

theorem sumRes_items_getD (l : List CItem) (c : CItem → Bool) (hr : ∀ i ∈ l, wf i.res = true) (k : String) :
    (sumRes ((l.filter c).map (·.res))).getD k = itemSum l c k := by
  rw [sumRes_map_getD _ _ (fun i hi => hr i (List.mem_filter.mp hi).1)]; rfl

theorem itemSum_bound_split (l : List CItem) (k : String) :
    itemSum l (fun i => i.bound) k =
      itemSum l (fun i => i.bound && !i.ph) k + itemSum l (fun i => i.bound && i.ph) k := by
  unfold itemSum
  induction l with
  | nil => simp
  | cons a t ih =>
    rw [sumIf_cons, sumIf_cons, sumIf_cons, ih]
    cases a.bound <;> cases a.ph <;> simp <;> omega

/-- Every allocation the live application `app` holds is listed by a registered node (non-foreign, same size).  The
    implementation only takes off the queues what it found on the nodes (`onNodes`). -/
structure AppOnNodes (s : Core) (app : String) : Prop where
  onNode : ∀ a, s.findApp app = some a → ∀ i ∈ a.items, i.bound = true →
    ∃ n, s.findNode i.node = some n ∧ ∃ x ∈ n.allocs, x.key = i.key ∧ x.foreign = false ∧ ∀ k, x.res.getD k = i.res.getD k

theorem onNodes_eq (s : Core) (app : String) (a : CApp) (hfind : s.findApp app = some a) (hok : AppOnNodes s app) :
    onNodes s a.items = a.items.filter (fun i => i.bound) := by
  unfold onNodes
  apply List.filter_congr
  intro i hi
  cases hb : i.bound with
  | false => simp
  | true =>
    obtain ⟨n, hn, x, hx, hxk, _⟩ := hok.onNode a hfind i hi hb
    rw [hn]
    simp only [Bool.true_and, Option.any_some]
    exact List.any_eq_true.mpr ⟨x, hx, by simp [hxk]⟩

/-- the node list after `rmFromNodes` -/
def rmNs (nodes : List CNode) (l : List CItem) : List CNode :=
  l.foldl (fun ns i => updNs ns i.node (nodeRm i.key i.res)) nodes

theorem rmNs_cons (nodes : List CNode) (i : CItem) (t : List CItem) :
    rmNs nodes (i :: t) = rmNs (updNs nodes i.node (nodeRm i.key i.res)) t := rfl

/-- well-formedness alone needs no side condition -/
theorem rmNs_wf (l : List CItem) : ∀ (nodes : List CNode),
    nodes.Pairwise (fun a b => a.id ≠ b.id) → (∀ n ∈ nodes, NWF n) →
    (rmNs nodes l).Pairwise (fun a b => a.id ≠ b.id) ∧ (∀ n ∈ rmNs nodes l, NWF n) := by
  induction l with
  | nil => intro nodes hu hW; exact ⟨hu, hW⟩
  | cons i t ih =>
    intro nodes hu hW
    obtain ⟨h4, h5⟩ := wf_updNs nodes i.node (nodeRm i.key i.res) hu hW (nodeRm_id i.key i.res)
      (fun n hn _ => nodeRm_wf i.key i.res n (hW n hn))
    rw [rmNs_cons]
    exact ih _ h4 h5

/-- node.RemoveAllocation on one node, for every allocation of the list that names it -/
def rmN (l : List CItem) (n : CNode) : CNode :=
  l.foldl (fun n i => if (n.id == i.node) = true then nodeRm i.key i.res n else n) n

theorem rmN_id (l : List CItem) : ∀ n, (rmN l n).id = n.id := by
  induction l with
  | nil => intro n; rfl
  | cons i t ih =>
    intro n
    refine (ih _).trans ?_
    dsimp only
    split <;> rfl

theorem rmFromNodes_maps (l : List CItem) : ∀ c : Core,
    (rmFromNodes c l).apps = c.apps ∧ (rmFromNodes c l).queues = c.queues ∧ (rmFromNodes c l).nodes = c.nodes.map (rmN l) ∧
    (rmFromNodes c l).reservations = c.reservations := by
  induction l with
  | nil => intro c; exact ⟨rfl, rfl, (List.map_id' _).symm, rfl⟩
  | cons i t ih =>
    intro c
    obtain ⟨h1, h2, h3, h4⟩ := ih (updNode c i.node (nodeRm i.key i.res))
    exact ⟨h1, h2, h3.trans List.map_map, h4⟩

theorem rmN_props (l : List CItem) : ∀ n : CNode, l.Pairwise (fun i j => i.key ≠ j.key) → (∀ i ∈ l, wf i.res = true) →
    (∀ i ∈ l, i.node = n.id → ∃ x ∈ n.allocs, x.key = i.key ∧ x.foreign = false ∧ ∀ k, x.res.getD k = i.res.getD k) →
    NWF n → NodeBooks n → NWF (rmN l n) ∧ NodeBooks (rmN l n) := by
  induction l with
  | nil => intro n _ _ _ hW hB; exact ⟨hW, hB⟩
  | cons i t ih =>
    intro n hk hr hon hW hB
    have hp := List.pairwise_cons.mp hk
    have hrt := fun j hj => hr j (List.mem_cons_of_mem _ hj)
    unfold rmN
    rw [List.foldl_cons]
    split
    · rename_i hd
      obtain ⟨x, hx, hxk, hxf, hxr⟩ := hon i List.mem_cons_self (by simpa using hd : n.id = i.node).symm
      refine ih _ hp.2 hrt ?_ (nodeRm_wf i.key i.res n hW)
        (nodeRm_books i.key i.res n hW hB (hr i List.mem_cons_self) x hx hxk hxf hxr)
      -- removing the allocation of another key keeps an item listed
      intro j hj hjn
      obtain ⟨y, hy, hyk, h⟩ := hon j (List.mem_cons_of_mem _ hj) hjn
      exact ⟨y, List.mem_filter.mpr ⟨hy, by simp [hyk, (hp.1 j hj).symm]⟩, hyk, h⟩
    · exact ih n hp.2 hrt (fun j hj => hon j (List.mem_cons_of_mem _ hj)) hW hB

/-- the chain queue after the allocations and (with `asks`) the asks left it, before the application itself does -/
def relAllQ1 (total pre : Res) (a1 : CApp) (asks : Bool) (q : CQueue) : CQueue :=
  let q2 := decQ (strictlyGreaterThanZero (some total)) total (strictlyGreaterThanZero (some pre)) pre q
  if asks then qDecPend a1.pending q2 else q2

theorem relAllQ_path_reserved (total pre : Res) (a1 a2 : CApp) (asks : Bool) (q : CQueue) :
    (relAllQ total pre a1 a2 asks q).path = q.path ∧ (relAllQ total pre a1 a2 asks q).reserved = q.reserved := by
  have h1 : (relAllQ1 total pre a1 asks q).path = q.path ∧ (relAllQ1 total pre a1 asks q).reserved = q.reserved := by
    unfold relAllQ1
    cases asks <;> exact decQ_path_reserved _ total _ pre q
  have h2 := qLeaveIf_path_reserved a2 (relAllQ1 total pre a1 asks q)
  exact ⟨h2.1.trans h1.1, h2.2.trans h1.2⟩

/-- the implementation skips `total` when it is not strictly positive: non-negative (`hnn`), it is zero then -/
theorem relAllQ1_move (total pre : Res) (a1 : CApp) (asks : Bool) {q : CQueue} (hq : QWF q) (ht : wf total = true)
    (hnn : NonNeg total) (h1p : wf a1.pending = true)
    (hle : ∀ k, 0 ≤ a1.pending.getD k ∧ a1.pending.getD k ≤ q.pending.getD k) :
    QMove q (relAllQ1 total pre a1 asks q) (fun k => total.getD k) (fun k => if asks = true then a1.pending.getD k else 0) := by
  have h0 := decQ_move _ total (strictlyGreaterThanZero (some pre)) pre hq ht (fun hz => sgtz_false_of_nonNeg hnn hz)
  unfold relAllQ1
  cases asks
  · exact h0
  · exact (h0.trans (.decPend h0.wf h1p (fun k => by rw [h0.pending, Int.sub_zero]; exact hle k))).congr
      (fun _ => Int.add_zero _) (fun _ => Int.zero_add _)

/-- the queue map and the node map of `unreserveApp … a false`, applied when `b` -/
def unresQ (b : Bool) (a : CApp) (q : CQueue) : CQueue :=
  if (b && !a.reservations.isEmpty && q.path == a.queue) = true then { q with reserved := q.reserved.filter (·.1 != a.id) } else q

def unresN (b : Bool) (a : CApp) (n : CNode) : CNode :=
  if (b && !a.reservations.isEmpty) = true then
    { n with reservations := n.reservations.filter (fun k => !(a.reservations.contains (k, n.id))) }
  else n

theorem unresQ_irrel (b : Bool) (a : CApp) : QIrrel (unresQ b a) := by
  intro q; unfold unresQ; split <;> exact ⟨rfl, rfl, rfl⟩

theorem unresN_irrel (b : Bool) (a : CApp) : NodeIrrel (unresN b a) := by
  intro n; unfold unresN; split <;> exact ⟨rfl, rfl, rfl, rfl, rfl, rfl⟩

theorem unreserveIf_maps (b : Bool) (c : Core) (a : CApp) :
    (if b = true then unreserveApp c a false else c).apps = c.apps ∧
    (if b = true then unreserveApp c a false else c).queues = c.queues.map (unresQ b a) ∧
    (if b = true then unreserveApp c a false else c).nodes = c.nodes.map (unresN b a) ∧
    (if b = true then unreserveApp c a false else c).reservations = c.reservations := by
  unfold unreserveApp unresQ unresN
  cases b <;> cases a.reservations.isEmpty <;>
    simp only [Bool.false_eq_true, if_false, if_true, Bool.false_and, Bool.true_and, Bool.not_true, Bool.not_false, List.map_id',
      and_self]

/-! ### `releaseApp` -/

/-- the state after the application, the nodes and the queue chain were updated, before the reservation bookkeeping
    and the counters -/
def releaseAppCore (s : Core) (tt : TermType) (app : String) (a : CApp) : Core :=
  let there := onNodes s a.items
  let total := sumRes (there.map (·.res))
  let preempting := sumRes ((there.filter (·.preempted)).map (·.res))
  let sA := updApp s app (fun _ => relAll2 tt a)
  let sN := rmFromNodes sA there
  updQueues sN (pathChain s a.queue) (relAllQ total preempting (relAllApp a) (relAll2 tt a) (relAsks tt a))

theorem releaseApp_none {s : Core} (tt : TermType) {app : String} (h : s.findApp app = none) : s.releaseApp tt app = s := by
  unfold releaseApp; simp only [h]

theorem shape_releaseAppCore (s : Core) (tt : TermType) (app : String) (a : CApp) (hfind : s.findApp app = some a) :
    Shape s (releaseAppCore s tt app a) app a (relAll2 tt a)
      (onChain (pathChain s a.queue) (relAllQ (sumRes ((onNodes s a.items).map (·.res)))
        (sumRes (((onNodes s a.items).filter (·.preempted)).map (·.res))) (relAllApp a) (relAll2 tt a) (relAsks tt a)))
      (rmN (onNodes s a.items)) := by
  obtain ⟨h1, h2, h3, h4⟩ := rmFromNodes_maps (onNodes s a.items) (updApp s app (fun _ => relAll2 tt a))
  exact ⟨hfind, h1, congrArg (updQs · _ _) h2, h3, relAll2_id tt a, relAll2_queue tt a,
    onChain_path (fun q => (relAllQ_path_reserved _ _ _ _ _ q).1), rmN_id _, h4⟩

namespace Shape
variable {s t u : Core} {app : String} {a a' : CApp} {fq : CQueue → CQueue} {fn : CNode → CNode}

theorem unreserveIf (sh : Shape s t app a a' fq fn) (b : Bool) (x : CApp) :
    Shape s (if b = true then unreserveApp t x false else t) app a a' (fun q => unresQ b x (fq q))
      (fun n => unresN b x (fn n)) :=
  let ⟨u1, u2, u3, u4⟩ := unreserveIf_maps b t x
  sh.map _ _ u1 u2 u3 u4 (fun q => (unresQ_irrel b x q).1) (fun n => (unresN_irrel b x n).1)

end Shape

theorem shape_releaseApp (s : Core) (tt : TermType) (app : String) (a : CApp) (hfind : s.findApp app = some a) :
    Shape s (s.releaseApp tt app) app a (relAll2 tt a)
      (fun q => unresQ (relAsks tt a) a (onChain (pathChain s a.queue) (relAllQ (sumRes ((onNodes s a.items).map (·.res)))
        (sumRes (((onNodes s a.items).filter (·.preempted)).map (·.res))) (relAllApp a) (relAll2 tt a) (relAsks tt a)) q))
      (fun n => unresN (relAsks tt a) a (rmN (onNodes s a.items) n)) := by
  refine ((shape_releaseAppCore s tt app a hfind).unreserveIf (relAsks tt a) a).of_eq ?_
  unfold releaseApp
  simp only [hfind]
  exact ⟨rfl, rfl, rfl, rfl⟩

theorem rmN_app {s : Core} {app : String} {a : CApp} (hw : CoreWF s) (hb : Books s) (hfind : s.findApp app = some a)
    (hok : AppOnNodes s app) {n : CNode} (hn : n ∈ s.nodes) :
    NWF (rmN (onNodes s a.items) n) ∧ NodeBooks (rmN (onNodes s a.items) n) := by
  obtain ⟨ham, hl, _⟩ := findApp_some hfind
  have hwa := hw.app ham hl
  refine rmN_props _ n (hwa.itemKeys.filter _) (fun i hi => (hwa.itemRes i (List.mem_filter.mp hi).1).1) ?_ (hw.node hn)
    (hb.nodes n hn)
  intro i hi hin
  obtain ⟨him, hc⟩ := List.mem_filter.mp hi
  obtain ⟨n0, hn0, h⟩ := hok.onNode a hfind i him (Bool.and_eq_true_iff.mp hc).1
  obtain ⟨hn0m, hn0id⟩ := findNode_some hn0
  rw [nodeIds_eq hw hn0m hn (hin.symm.trans hn0id.symm)]
  exact h

theorem releaseAppCore_props (s : Core) (tt : TermType) (app : String) (a : CApp) (hw : CoreWF s) (hb : Books s)
    (hfind : s.findApp app = some a) (hok : AppOnNodes s app) :
    Books (releaseAppCore s tt app a) ∧ CoreWF (releaseAppCore s tt app a) := by
  obtain ⟨ham, hl, _⟩ := findApp_some hfind
  have hwa := hw.app ham hl
  have hba := hb.apps a ham hl
  -- what the queue chain loses is what the application held
  have htot : ∀ k, (sumRes ((onNodes s a.items).map (·.res))).getD k = a.allocated.getD k + a.allocatedPh.getD k :=
    fun k => by
      rw [onNodes_eq s app a hfind hok, sumRes_items_getD _ _ (fun i hi => (hwa.itemRes i hi).1), itemSum_bound_split,
        hba.allocated k, hba.allocatedPh k]
  have hsw : ∀ l : List Res, wf (sumRes l) = true := fun l => foldl_addX_wf l [] rfl
  refine (shape_releaseAppCore s tt app a hfind).props_release (g := relAllQ1 _ _ (relAllApp a) (relAsks tt a))
    (X := fun k => a.allocated.getD k + a.allocatedPh.getD k)
    (P := fun k => if relAsks tt a = true then a.pending.getD k else 0) hw hb (app_relAll2 tt a ⟨hba, hwa⟩).1
    (app_relAll2 tt a ⟨hba, hwa⟩).2 (fun q hq hun => ?_) (fun k => ?_) (fun k => ?_)
    (fun n hn => rmN_app hw hb hfind hok hn)
  · refine (relAllQ1_move _ _ _ _ (hw.queue hq) (hsw _) (nonNeg_of_getD (hsw _) (fun k => ?_))
      (by rw [relAllApp_pending]; exact hwa.appRes.1) (by rw [relAllApp_pending]; exact hb.pending_le hw ham hl hq hun)).congr
      htot (fun _ => by rw [relAllApp_pending])
    rw [htot k, hba.allocated k, hba.allocatedPh k]
    have h1 := itemSum_nonneg a.items (fun i => i.bound && !i.ph) (fun i hi => (hwa.itemRes i hi).2) k
    have h2 := itemSum_nonneg a.items (fun i => i.bound && i.ph) (fun i hi => (hwa.itemRes i hi).2) k
    omega
  · rw [relAll2_allocated, relAll2_allocatedPh]
    show (0 : Int) + 0 = _
    omega
  · rw [relAll2_pending]
    cases relAsks tt a
    · exact (Int.sub_zero _).symm
    · exact (Int.sub_self _).symm

theorem releaseApp_props (s : Core) (tt : TermType) (app : String) (hw : CoreWF s) (hb : Books s) (hok : AppOnNodes s app) :
    Books (s.releaseApp tt app) ∧ CoreWF (s.releaseApp tt app) := by
  cases hfind : s.findApp app with
  | none => rw [releaseApp_none tt hfind]; exact ⟨hb, hw⟩
  | some a =>
    exact (shape_releaseAppCore s tt app a hfind).props_tail (shape_releaseApp s tt app a hfind) (unresQ_irrel _ a)
      (unresN_irrel _ a) (releaseAppCore_props s tt app a hw hb hfind hok)

theorem books_releaseApp (s : Core) (tt : TermType) (app : String) (hw : CoreWF s) (hb : Books s) (hok : AppOnNodes s app) :
    Books (s.releaseApp tt app) := (releaseApp_props s tt app hw hb hok).1

theorem wf_releaseApp (s : Core) (tt : TermType) (app : String) (hw : CoreWF s) (hb : Books s) (hok : AppOnNodes s app) :
    CoreWF (s.releaseApp tt app) := (releaseApp_props s tt app hw hb hok).2

/-! ### `appRemove` -/

def rmQ0 (a : CApp) (q : CQueue) : CQueue := if a.items.any (·.inReq) then qDecPend a.pending q else q

/-- the chain queue after `appRemove`: the asks are dropped (`rmQ0`), then Queue.RemoveApplication, and what was marked
    preempted leaves `preempting` -/
def rmQ (a : CApp) (q : CQueue) : CQueue :=
  let q1 := qLeave (dropAsksApp a) (rmQ0 a q)
  let pre := preemptedSum a
  if isZero (some pre) then q1 else qDecPreempting pre q1

theorem rmQ0_path_reserved (a : CApp) (q : CQueue) : (rmQ0 a q).path = q.path ∧ (rmQ0 a q).reserved = q.reserved := by
  unfold rmQ0; split <;> exact ⟨rfl, rfl⟩

theorem rmQ0_move (a : CApp) {q : CQueue} (hq : QWF q) (hwp : wf a.pending = true)
    (hle : ∀ k, 0 ≤ a.pending.getD k ∧ a.pending.getD k ≤ q.pending.getD k) :
    QMove q (rmQ0 a q) (fun _ => 0) (fun k => if a.items.any (·.inReq) = true then a.pending.getD k else 0) := by
  unfold rmQ0
  split
  · exact .decPend hq hwp hle
  · exact .refl hq

theorem rmQ_path_reserved (a : CApp) (q : CQueue) : (rmQ a q).path = q.path ∧ (rmQ a q).reserved = q.reserved := by
  have h : (qLeave (dropAsksApp a) (rmQ0 a q)).path = q.path ∧ (qLeave (dropAsksApp a) (rmQ0 a q)).reserved = q.reserved :=
    rmQ0_path_reserved a q
  unfold rmQ
  dsimp only
  split <;> exact h

theorem rmQ_move (a : CApp) {q : CQueue} (hq : QWF q) (hwa : AppWF a)
    (hle : ∀ k, 0 ≤ a.pending.getD k ∧ a.pending.getD k ≤ q.pending.getD k) :
    QMove q (rmQ a q) (fun k => a.allocated.getD k + a.allocatedPh.getD k) (fun k => a.pending.getD k) := by
  obtain ⟨hwp, hwal, hwh⟩ := hwa.appRes
  have h1 := rmQ0_move a hq hwp hle
  -- pending: `a.pending` leaves in the first step when there are asks, in the second when there are none
  have hP : ∀ k, (if a.items.any (·.inReq) = true then a.pending.getD k else 0) + (dropAsksApp a).pending.getD k =
      a.pending.getD k := fun k => by
    rw [dropAsksApp_pending]
    cases a.items.any (fun x => x.inReq)
    · exact Int.zero_add _
    · exact Int.add_zero _
  have h2 := QMove.leave (a' := dropAsksApp a) h1.wf
    ⟨by rw [dropAsksApp_pending]; split <;> first | rfl | exact hwp, by rw [dropAsksApp_allocated]; exact hwal,
      by rw [dropAsksApp_allocatedPh]; exact hwh⟩
    (fun k => by
      rw [h1.pending]
      have := hle k
      have := hP k
      have : 0 ≤ (dropAsksApp a).pending.getD k := by
        rw [dropAsksApp_pending]; split
        · exact Int.le_refl _
        · exact (hle k).1
      omega)
  have h12 := (h1.trans h2).congr (X' := fun k => a.allocated.getD k + a.allocatedPh.getD k) (P' := fun k => a.pending.getD k)
    (fun k => by rw [dropAsksApp_allocated, dropAsksApp_allocatedPh]; exact Int.zero_add _) hP
  show QMove q (if isZero (some (preemptedSum a)) = true then _ else qDecPreempting (preemptedSum a) _) _ _
  split
  · exact h12
  · exact (h12.trans (.decPreempting h12.wf _)).congr (fun _ => Int.add_zero _) (fun _ => Int.add_zero _)

theorem appRemove_none {s : Core} {app : String} (h : s.findApp app = none) : s.appRemove app = s := by
  unfold appRemove; simp only [h]

theorem appRemove_maps (s : Core) (app : String) (a : CApp) (hfind : s.findApp app = some a) :
    (s.appRemove app).apps = s.apps.filter (fun x => !(x.live && x.id == app)) ∧
    (s.appRemove app).queues = s.queues.map (fun q => unresQ true a (onChain (pathChain s a.queue) (rmQ a) q)) ∧
    (s.appRemove app).nodes = s.nodes.map (fun n => unresN true a (rmN (onNodes s a.items) n)) ∧
    (s.appRemove app).reservations = s.reservations := by
  obtain ⟨h1, h2, h3, h4⟩ := rmFromNodes_maps (onNodes s a.items)
    { s with apps := s.apps.filter (fun x => !(x.live && x.id == app)) }
  obtain ⟨u1, u2, u3, u4⟩ := unreserveIf_maps true (updQueues (rmFromNodes
    { s with apps := s.apps.filter (fun x => !(x.live && x.id == app)) } (onNodes s a.items)) (pathChain s a.queue) (rmQ a)) a
  unfold appRemove
  simp only [hfind]
  refine ⟨u1.trans h1, u2.trans ?_, u3.trans ?_, u4.trans h4⟩
  · exact (congrArg (List.map (unresQ true a)) (congrArg (updQs · _ _) h2)).trans List.map_map
  · exact (congrArg (List.map (unresN true a)) h3).trans List.map_map

theorem appRemove_props (s : Core) (app : String) (hw : CoreWF s) (hb : Books s) (hok : AppOnNodes s app) :
    Books (s.appRemove app) ∧ CoreWF (s.appRemove app) := by
  cases hfind : s.findApp app with
  | none => rw [appRemove_none hfind]; exact ⟨hb, hw⟩
  | some a =>
    obtain ⟨ham, hl, _⟩ := findApp_some hfind
    obtain ⟨e1, e2, e3, _⟩ := appRemove_maps s app a hfind
    -- for what the invariants read, the application releases everything it holds and leaves the partition
    have sh : Shape s ({ s with apps := updApps s.apps app (fun _ => { a with live := false })
                                queues := s.queues.map (onChain (pathChain s a.queue) (rmQ a))
                                nodes := s.nodes.map (rmN (onNodes s a.items)) } : Core)
        app a { a with live := false } (onChain (pathChain s a.queue) (rmQ a)) (rmN (onNodes s a.items)) :=
      ⟨hfind, rfl, rfl, rfl, rfl, rfl, onChain_path (fun q => (rmQ_path_reserved a q).1), rmN_id _, rfl⟩
    obtain ⟨hb1, hw1⟩ := sh.props_move hw hb (fun h => Bool.noConfusion h)
      (fun q hq hun => rmQ_move a (hw.queue hq) (hw.app ham hl) (hb.pending_le hw ham hl hq hun))
      (fun k => (Int.sub_zero _).symm) (fun k => (Int.sub_zero _).symm) (fun n hn => rmN_app hw hb hfind hok hn)
    exact props_of_live (unresQ_irrel true a) (unresN_irrel true a)
      (e1 ▸ filter_live_updApps_dead s.apps app _ rfl) (by rw [sh.queues, List.map_map]; exact e2)
      (by rw [sh.nodes, List.map_map]; exact e3) hw1 hb1

theorem books_appRemove (s : Core) (app : String) (hw : CoreWF s) (hb : Books s) (hok : AppOnNodes s app) :
    Books (s.appRemove app) := (appRemove_props s app hw hb hok).1

theorem wf_appRemove (s : Core) (app : String) (hw : CoreWF s) (hb : Books s) (hok : AppOnNodes s app) :
    CoreWF (s.appRemove app) := (appRemove_props s app hw hb hok).2

/-! ### nothing of the application stays on the nodes -/

theorem rmN_allocs (l : List CItem) : ∀ n : CNode, (∀ x ∈ (rmN l n).allocs, x ∈ n.allocs) ∧
    ∀ i ∈ l, i.node = n.id → ∀ x ∈ (rmN l n).allocs, x.key ≠ i.key := by
  induction l with
  | nil => intro n; exact ⟨fun _ hx => hx, fun _ hi => nomatch hi⟩
  | cons i t ih =>
    intro n
    obtain ⟨h1, h2⟩ := ih (if (n.id == i.node) = true then nodeRm i.key i.res n else n)
    have hid : (if (n.id == i.node) = true then nodeRm i.key i.res n else n).id = n.id := by split <;> rfl
    refine ⟨fun x hx => ?_, fun j hj hjn x hx => ?_⟩
    · have := h1 x hx
      split at this
      · exact (List.mem_filter.mp this).1
      · exact this
    · rcases List.mem_cons.mp hj with rfl | hjt
      · have := h1 x hx
        rw [if_pos (by simp [hjn])] at this
        simpa using (List.mem_filter.mp this).2
      · exact h2 j hjt (hjn.trans hid.symm) x hx

theorem no_trace_node {s : Core} {app : String} {a : CApp} (hfind : s.findApp app = some a) (hok : AppOnNodes s app)
    (b : Bool) (n0 : CNode) :
    (unresN b a (rmN (onNodes s a.items) n0)).id = n0.id ∧
    (∀ x ∈ (unresN b a (rmN (onNodes s a.items) n0)).allocs, x ∈ n0.allocs) ∧
    ∀ i ∈ a.items, i.bound = true → i.node = n0.id →
      ∀ x ∈ (unresN b a (rmN (onNodes s a.items) n0)).allocs, x.key ≠ i.key := by
  obtain ⟨h1, h2, _⟩ := unresN_irrel b a (rmN (onNodes s a.items) n0)
  rw [h1, h2, rmN_id]
  refine ⟨rfl, (rmN_allocs _ n0).1, fun i hi hbd => (rmN_allocs _ n0).2 i ?_⟩
  rw [onNodes_eq s app a hfind hok]
  exact List.mem_filter.mpr ⟨hi, hbd⟩

theorem appRemove_allocs_subset (s : Core) (app : String) (n : CNode) (hn : n ∈ (s.appRemove app).nodes) :
    ∃ n0 ∈ s.nodes, n0.id = n.id ∧ ∀ x ∈ n.allocs, x ∈ n0.allocs := by
  cases hfind : s.findApp app with
  | none =>
    rw [appRemove_none hfind] at hn
    exact ⟨n, hn, rfl, fun x hx => hx⟩
  | some a =>
    rw [(appRemove_maps s app a hfind).2.2.1] at hn
    obtain ⟨n0, hn0, rfl⟩ := List.mem_map.mp hn
    obtain ⟨h1, h2, _⟩ := unresN_irrel true a (rmN (onNodes s a.items) n0)
    exact ⟨n0, hn0, (h1.trans (rmN_id _ n0)).symm, fun x hx => (rmN_allocs _ n0).1 x (h2 ▸ hx)⟩

theorem appRemove_no_trace (s : Core) (app : String) (a : CApp) (hfind : s.findApp app = some a) (hok : AppOnNodes s app)
    (i : CItem) (hi : i ∈ a.items) (hbd : i.bound = true) :
    ∀ n ∈ (s.appRemove app).nodes, n.id = i.node → ∀ x ∈ n.allocs, x.key ≠ i.key := by
  intro n hn hid
  rw [(appRemove_maps s app a hfind).2.2.1] at hn
  obtain ⟨n0, _, rfl⟩ := List.mem_map.mp hn
  obtain ⟨h1, _, h3⟩ := no_trace_node hfind hok true n0
  exact h3 i hi hbd (hid.symm.trans h1)

/-- `huniq`: allocation keys are unique in the cluster -/
theorem appRemove_no_trace_all (s : Core) (app : String) (a : CApp) (hfind : s.findApp app = some a) (hok : AppOnNodes s app)
    (i : CItem) (hi : i ∈ a.items) (hbd : i.bound = true)
    (huniq : ∀ n ∈ s.nodes, ∀ x ∈ n.allocs, x.key = i.key → n.id = i.node) :
    ∀ n ∈ (s.appRemove app).nodes, ∀ x ∈ n.allocs, x.key ≠ i.key := by
  intro n hn x hx hk
  obtain ⟨n0, hn0, hid0, hsub⟩ := appRemove_allocs_subset s app n hn
  have hid : n.id = i.node := hid0.symm.trans (huniq n0 hn0 x (hsub x hx) hk)
  exact appRemove_no_trace s app a hfind hok i hi hbd n hn hid x hx hk

theorem releaseApp_no_trace (s : Core) (tt : TermType) (app : String) (a : CApp) (hfind : s.findApp app = some a)
    (hok : AppOnNodes s app) (i : CItem) (hi : i ∈ a.items) (hbd : i.bound = true) :
    ∀ n ∈ (s.releaseApp tt app).nodes, n.id = i.node → ∀ x ∈ n.allocs, x.key ≠ i.key := by
  intro n hn hid
  rw [(shape_releaseApp s tt app a hfind).nodes] at hn
  obtain ⟨n0, _, rfl⟩ := List.mem_map.mp hn
  obtain ⟨h1, _, h3⟩ := no_trace_node hfind hok (relAsks tt a) n0
  exact h3 i hi hbd (hid.symm.trans h1)

end Yk
