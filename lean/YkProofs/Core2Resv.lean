/-
  `reserve` / `unreserve` (partition.reserve / unReserve: a scheduling cycle reserves a node for an ask or cancels a
  reservation): reservations are not in the books — the operations keep `Books` and `CoreWF`.
-/
import YkProofs.Core2Base
namespace Yk
open Res Core

theorem appIrrel_resv (f : List (String × String) → List (String × String)) :
    AppIrrel (fun x : CApp => { x with reservations := f x.reservations }) :=
  fun _ => ⟨rfl, rfl, rfl, rfl, rfl, rfl, rfl⟩

theorem nodeIrrel_resv (f : CNode → List String) : NodeIrrel (fun n : CNode => { n with reservations := f n }) :=
  fun _ => ⟨rfl, rfl, rfl, rfl, rfl, rfl⟩

theorem resv_props {s t : Core} (app node : String) (fa : List (String × String) → List (String × String))
    (fn : CNode → List String) {gq : CQueue → CQueue} (hgq : QIrrel gq)
    (ha : t.apps = s.apps.map (fun x => if (x.live && x.id == app) = true then { x with reservations := fa x.reservations } else x))
    (hn : t.nodes = s.nodes.map (fun n => if (n.id == node) = true then { n with reservations := fn n } else n))
    (hq : t.queues = s.queues.map gq) (hw : CoreWF s) (hb : Books s) : Books t ∧ CoreWF t :=
  irrel_props (appIrrel_upd app _ (appIrrel_resv fa)) hgq (nodeIrrel_upd node _ (nodeIrrel_resv fn)) ha hq hn hw hb

theorem reserve_props (s : Core) (app key node : String) (hw : CoreWF s) (hb : Books s) :
    Books (s.reserve app key node) ∧ CoreWF (s.reserve app key node) := by
  unfold reserve
  cases s.findApp app with
  | none => exact ⟨hb, hw⟩
  | some a =>
    dsimp only
    by_cases h : (a.reservations.any (·.1 == key)) = true
    · rw [if_pos h]; exact ⟨hb, hw⟩
    · rw [if_neg h]
      refine resv_props app node (fun r => r ++ [(key, node)]) (fun n => n.reservations ++ [key]) ?_ rfl rfl rfl hw hb
      exact qIrrel_ite _ _ (fun _ => ⟨rfl, rfl, rfl⟩)

theorem unreserve_props (s : Core) (app key node : String) (hw : CoreWF s) (hb : Books s) :
    Books (s.unreserve app key node) ∧ CoreWF (s.unreserve app key node) := by
  unfold unreserve
  cases s.findApp app with
  | none => exact ⟨hb, hw⟩
  | some a =>
    dsimp only
    by_cases h : (!(a.reservations.contains (key, node))) = true
    · rw [if_pos h]; exact ⟨hb, hw⟩
    · rw [if_neg h]
      refine resv_props app node (fun r => r.filter (· != (key, node))) (fun n => n.reservations.filter (· != key)) ?_ rfl rfl rfl hw hb
      exact qIrrel_ite _ _ (fun _ => ⟨rfl, rfl, rfl⟩)

end Yk
