/-
  Proofs for YkProps/C01: the node ledger (allocated = Σ non-foreign allocations, available = total −
  allocated − occupied, pointwise on sparse vectors) is preserved by every node operation.
-/
import YkModel.Node
import YkProofs.Res
import YkProofs.ListSum
namespace Yk
open Res

/-! ### the pointwise sum over the non-foreign allocations -/

def NAlloc.val (a : NAlloc) (k : String) : Int := if a.foreign then 0 else a.res.getD k

def nfSum (l : List NAlloc) (k : String) : Int :=
  ((l.filter (fun a => !a.foreign)).map (fun a => a.res.getD k)).sum

theorem nfSum_eq (l : List NAlloc) (k : String) : nfSum l k = sumIf l (fun a => !a.foreign) (fun a => a.res.getD k) := rfl

theorem NAlloc.val_eq (a : NAlloc) (k : String) : a.val k = if (!a.foreign) = true then a.res.getD k else 0 := by
  unfold NAlloc.val; cases a.foreign <;> rfl

@[simp] theorem nfSum_nil (k : String) : nfSum [] k = 0 := rfl

theorem nfSum_cons (a : NAlloc) (l : List NAlloc) (k : String) : nfSum (a :: l) k = a.val k + nfSum l k := by
  rw [nfSum_eq, sumIf_cons, a.val_eq]; rfl

theorem nfSum_append (l1 l2 : List NAlloc) (k : String) : nfSum (l1 ++ l2) k = nfSum l1 k + nfSum l2 k :=
  sumIf_append ..

theorem nfSum_single (a : NAlloc) (k : String) : nfSum [a] k = a.val k := by
  rw [nfSum_eq, sumIf_single, a.val_eq]

theorem nfSum_zero (l : List NAlloc) (k : String) (h : ∀ a ∈ l, a.res.getD k = 0) : nfSum l k = 0 :=
  sumIf_zero l _ _ (fun a ha _ => h a ha)

abbrev KeysDistinct (l : List NAlloc) : Prop := l.Pairwise (fun a b => a.key ≠ b.key)

theorem find_none_forall {l : List NAlloc} {k : String} (h : l.find? (fun a => a.key == k) = none) :
    ∀ x ∈ l, x.key ≠ k := by
  intro x hx
  have := List.find?_eq_none.mp h x hx
  simpa using this

theorem nfSum_erase (l : List NAlloc) (hk : KeysDistinct l) (k : String) (a : NAlloc)
    (h : l.find? (fun a => a.key == k) = some a) (kk : String) :
    nfSum (l.filter (fun a => a.key != k)) kk = nfSum l kk - a.val kk := by
  rw [a.val_eq]
  exact sumIf_filter_rm l (fun a => a.key == k) _ _ a (atMostOne_of_pairwise_ne l (·.key) k hk)
    (List.mem_of_find?_eq_some h) (List.find?_some (p := fun a : NAlloc => a.key == k) h)

theorem nfSum_update (l : List NAlloc) (hk : KeysDistinct l) (k : String) (a : NAlloc) (r : Res)
    (h : l.find? (fun a => a.key == k) = some a) (kk : String) :
    nfSum (l.map (fun b => if b.key == k then { b with res := r } else b)) kk =
      nfSum l kk - a.val kk + (if a.foreign then 0 else r.getD kk) := by
  rw [a.val_eq, nfSum_eq, sumIf_map_upd l (fun a => a.key == k) (fun b => { b with res := r }) _ _ a
    (atMostOne_of_pairwise_ne l (·.key) k hk) (List.mem_of_find?_eq_some h)
    (List.find?_some (p := fun a : NAlloc => a.key == k) h)]
  cases a.foreign <;> rfl

theorem keysDistinct_put (l : List NAlloc) (hk : KeysDistinct l) (a : NAlloc) :
    KeysDistinct (l.filter (fun b => b.key != a.key) ++ [a]) :=
  pairwise_snoc (·.key) _ a (hk.filter _) fun y hy => by simpa using (List.mem_filter.mp hy).2

/-! ### well-formedness and the ledger -/

structure NodeWF (n : Node) : Prop where
  total : wf n.total = true
  occupied : wf n.occupied = true
  allocated : wf n.allocated = true
  available : wf n.available = true
  allocRes : ∀ a ∈ n.allocs, wf a.res = true
  keys : KeysDistinct n.allocs

def Ledger (n : Node) : Prop :=
  ∀ k : String, n.allocated.getD k = nfSum n.allocs k ∧
    n.available.getD k = n.total.getD k - n.allocated.getD k - n.occupied.getD k

theorem refresh_ok (n : Node) (ht : wf n.total = true) (ho : wf n.occupied = true) (ha : wf n.allocated = true)
    (hr : ∀ a ∈ n.allocs, wf a.res = true) (hk : KeysDistinct n.allocs)
    (hs : ∀ k, n.allocated.getD k = nfSum n.allocs k) : NodeWF n.refresh ∧ Ledger n.refresh := by
  have hw : wf (subX (subX n.total n.allocated) n.occupied) = true := subX_wf _ _ (subX_wf _ _ ht)
  refine ⟨⟨ht, ho, ha, prune_wf _ hw, hr, hk⟩, fun k => ⟨hs k, ?_⟩⟩
  show (prune (subX (subX n.total n.allocated) n.occupied)).getD k = _
  rw [prune_getD _ hw, subX_getD _ _ ho, subX_getD _ _ ha]
  rfl

theorem putAlloc_fresh (n : Node) (a : NAlloc) (hf : n.findAlloc a.key = none) : n.putAlloc a = n.allocs ++ [a] := by
  unfold Node.putAlloc Node.eraseAlloc
  rw [List.filter_eq_self.mpr fun x hx => by simpa using find_none_forall hf x hx]

theorem putAlloc_allocRes (n : Node) (a : NAlloc) (hr : ∀ b ∈ n.allocs, wf b.res = true) (ha : wf a.res = true) :
    ∀ b ∈ n.putAlloc a, wf b.res = true := by
  intro b hb
  unfold Node.putAlloc Node.eraseAlloc at hb
  rcases List.mem_append.mp hb with h | h
  · exact hr b (List.mem_filter.mp h).1
  · rw [List.mem_singleton] at h; subst h; exact ha

theorem nfSum_putAlloc_some (n : Node) (a e : NAlloc) (hk : KeysDistinct n.allocs)
    (hf : n.findAlloc a.key = some e) (k : String) :
    nfSum (n.putAlloc a) k = nfSum n.allocs k - e.val k + a.val k := by
  unfold Node.putAlloc Node.eraseAlloc
  rw [nfSum_append, nfSum_single, nfSum_erase _ hk _ _ hf]

theorem nfSum_putAlloc_none (n : Node) (a : NAlloc) (hf : n.findAlloc a.key = none) (k : String) :
    nfSum (n.putAlloc a) k = nfSum n.allocs k + a.val k := by
  rw [putAlloc_fresh n a hf, nfSum_append, nfSum_single]

/-! ### one lemma per operation -/

theorem upd_key (b : NAlloc) (k : String) (r : Res) : (if b.key == k then { b with res := r } else b).key = b.key := by
  split <;> rfl

theorem step_updateAllocated (n : Node) (key : String) (r : Res) (hw : NodeWF n) (hl : Ledger n)
    (hr : wf r = true) (hnf : ∀ a, n.findAlloc key = some a → a.foreign = false) :
    NodeWF (n.step (.updateAllocated key r)).1 ∧ Ledger (n.step (.updateAllocated key r)).1 := by
  simp only [Node.step]
  split
  · exact ⟨hw, hl⟩
  · rename_i a hf
    have hfor := hnf a hf
    have ham := List.mem_of_find?_eq_some hf
    have har := hw.allocRes a ham
    have hd : wf (prune (subX r a.res)) = true := prune_wf _ (subX_wf _ _ hr)
    refine refresh_ok _ hw.total hw.occupied (prune_wf _ (addX_wf _ _ hw.allocated)) ?_ ?_ ?_
    · intro b hb
      obtain ⟨x, hx, rfl⟩ := List.mem_map.mp hb
      split
      · exact hr
      · exact hw.allocRes x hx
    · show KeysDistinct (List.map _ _)
      unfold KeysDistinct
      rw [List.pairwise_map]
      refine List.Pairwise.imp ?_ hw.keys
      intro x y hxy
      rw [upd_key, upd_key]; exact hxy
    · intro k
      show (prune (addX n.allocated (prune (subX r a.res)))).getD k = nfSum (List.map _ n.allocs) k
      rw [prune_addX_getD _ _ hw.allocated hd, prune_subX_getD _ _ hr har, nfSum_update _ hw.keys _ _ _ hf,
        (hl k).1]
      simp only [NAlloc.val, hfor, Bool.false_eq_true, if_false]
      omega

theorem addInternal_ok (n : Node) (a : NAlloc) (force : Bool) (hw : NodeWF n) (hl : Ledger n)
    (ha : wf a.res = true) (hf : n.findAlloc a.key = none) :
    NodeWF (n.addInternal a force).1 ∧ Ledger (n.addInternal a force).1 := by
  unfold Node.addInternal
  split
  · have hput := nfSum_putAlloc_none n a hf
    have hres := putAlloc_allocRes n a hw.allocRes ha
    have hkeys := keysDistinct_put _ hw.keys a
    cases hfor : a.foreign
    · simp only [Bool.false_eq_true, if_false]
      refine ⟨⟨hw.total, hw.occupied, addX_wf _ _ hw.allocated, prune_wf _ (subX_wf _ _ hw.available), hres, hkeys⟩, ?_⟩
      intro k
      dsimp only
      rw [hput, prune_subX_getD _ _ hw.available ha, addX_getD _ _ ha, (hl k).2, (hl k).1]
      simp only [NAlloc.val, hfor, Bool.false_eq_true, if_false]
      refine ⟨trivial, ?_⟩; omega
    · simp only [if_true]
      refine ⟨⟨hw.total, addX_wf _ _ hw.occupied, hw.allocated, prune_wf _ (subX_wf _ _ hw.available), hres, hkeys⟩, ?_⟩
      intro k
      dsimp only
      rw [hput, prune_subX_getD _ _ hw.available ha, addX_getD _ _ ha, (hl k).2, (hl k).1]
      simp only [NAlloc.val, hfor, if_true]
      omega
  · exact ⟨hw, hl⟩

theorem addInternal_available (n : Node) (a : NAlloc) (force : Bool)
    (h : (force || fitInStd (some n.available) (some a.res)) = true) :
    (n.addInternal a force).1.available = prune (subX n.available a.res) := by
  unfold Node.addInternal
  rw [if_pos h]
  cases a.foreign <;> rfl

theorem step_remove (n : Node) (key : String) (hw : NodeWF n) (hl : Ledger n) :
    NodeWF (n.step (.remove key)).1 ∧ Ledger (n.step (.remove key)).1 := by
  simp only [Node.step]
  split
  · exact ⟨hw, hl⟩
  · rename_i a hf
    have ham := List.mem_of_find?_eq_some hf
    have ha := hw.allocRes a ham
    have hsum := nfSum_erase _ hw.keys _ _ hf
    have hres : ∀ b ∈ n.eraseAlloc key, wf b.res = true := fun b hb => hw.allocRes b (List.mem_filter.mp hb).1
    have hkeys : KeysDistinct (n.eraseAlloc key) := hw.keys.filter _
    cases hfor : a.foreign
    · simp only [Bool.false_eq_true, if_false]
      refine ⟨⟨hw.total, hw.occupied, prune_wf _ (subX_wf _ _ hw.allocated), addX_wf _ _ hw.available, hres, hkeys⟩, ?_⟩
      intro k
      dsimp only
      unfold Node.eraseAlloc
      rw [hsum, prune_subX_getD _ _ hw.allocated ha, addX_getD _ _ ha, (hl k).2, (hl k).1]
      simp only [NAlloc.val, hfor, Bool.false_eq_true, if_false]
      refine ⟨trivial, ?_⟩; omega
    · simp only [if_true]
      refine ⟨⟨hw.total, subX_wf _ _ hw.occupied, hw.allocated, addX_wf _ _ hw.available, hres, hkeys⟩, ?_⟩
      intro k
      dsimp only
      unfold Node.eraseAlloc
      rw [hsum, subX_getD _ _ ha, addX_getD _ _ ha, (hl k).2, (hl k).1]
      simp only [NAlloc.val, hfor, if_true]
      omega

theorem step_updateForeign (n : Node) (a : NAlloc) (hw : NodeWF n) (hl : Ledger n)
    (ha : wf a.res = true) (hfor : a.foreign = true) (hex : ∀ e, n.findAlloc a.key = some e → e.foreign = true) :
    NodeWF (n.step (.updateForeign a)).1 ∧ Ledger (n.step (.updateForeign a)).1 := by
  have hres := putAlloc_allocRes n a hw.allocRes ha
  have hkeys := keysDistinct_put _ hw.keys a
  simp only [Node.step]
  split
  · rename_i hf
    refine ⟨⟨hw.total, hw.occupied, hw.allocated, hw.available, hres, hkeys⟩, ?_⟩
    intro k
    show n.allocated.getD k = nfSum (n.putAlloc a) k ∧ _
    refine ⟨?_, (hl k).2⟩
    rw [nfSum_putAlloc_none n a hf, (hl k).1]
    simp [NAlloc.val, hfor]
  · rename_i e hf
    have he := hex e hf
    refine refresh_ok _ hw.total (prune_wf _ (addX_wf _ _ hw.occupied)) hw.allocated hres hkeys ?_
    intro k
    show n.allocated.getD k = nfSum (n.putAlloc a) k
    rw [nfSum_putAlloc_some n a e hw.keys hf, (hl k).1]
    simp [NAlloc.val, hfor, he]

theorem step_replace (n : Node) (old : String) (a : NAlloc) (delta : Res) (hw : NodeWF n) (hl : Ledger n)
    (ha : wf a.res = true) (hd : wf delta = true) (hfor : a.foreign = false)
    (hex : ∃ e, n.findAlloc old = some e ∧ e.foreign = false ∧ ∀ k, delta.getD k = a.res.getD k - e.res.getD k)
    (hkey : a.key = old ∨ n.findAlloc a.key = none) :
    NodeWF (n.step (.replace old a delta)).1 ∧ Ledger (n.step (.replace old a delta)).1 := by
  obtain ⟨e, hf, hefor, hdelta⟩ := hex
  let n0 : Node := { n with allocs := n.eraseAlloc old }
  have hn0 : ∀ x ∈ n0.allocs, x.key ≠ a.key := by
    intro x hx
    have hx' := List.mem_filter.mp hx
    rcases hkey with h | h
    · rw [h]; simpa using hx'.2
    · exact find_none_forall h x hx'.1
  have hn0f : n0.findAlloc a.key = none := by
    unfold Node.findAlloc
    rw [List.find?_eq_none]
    intro x hx; simpa using hn0 x hx
  have hres0 : ∀ b ∈ n0.allocs, wf b.res = true := fun b hb => hw.allocRes b (List.mem_filter.mp hb).1
  have hkeys0 : KeysDistinct n0.allocs := hw.keys.filter _
  have hres := putAlloc_allocRes n0 a hres0 ha
  have hkeys := keysDistinct_put _ hkeys0 a
  have hsum : ∀ k, nfSum (n0.putAlloc a) k = nfSum n.allocs k - e.val k + a.val k := by
    intro k
    rw [nfSum_putAlloc_none n0 a hn0f]
    show nfSum (n.eraseAlloc old) k + a.val k = _
    unfold Node.eraseAlloc
    rw [nfSum_erase _ hw.keys _ _ hf]
  simp only [Node.step]
  refine ⟨⟨hw.total, hw.occupied, addX_wf _ _ hw.allocated, prune_wf _ (subX_wf _ _ hw.available), hres, hkeys⟩, ?_⟩
  intro k
  dsimp only
  rw [hsum, prune_subX_getD _ _ hw.available hd, addX_getD _ _ hd, (hl k).2, (hl k).1, hdelta]
  simp only [NAlloc.val, hfor, hefor, Bool.false_eq_true, if_false]
  omega

/-! ### the caller contract (restated in YkProps/C01 as `Pre`/`PreAll`; definitionally the same) -/

def NodePre (n : Node) : NodeOp → Prop
  | .setCapacity c => wf c = true
  | .setOccupied o => wf o = true
  | .updateAllocated k r => wf r = true ∧ (∀ a, n.findAlloc k = some a → a.foreign = false)
  | .tryAdd a => wf a.res = true ∧ n.findAlloc a.key = none
  | .forceAdd a => wf a.res = true ∧ n.findAlloc a.key = none
  | .remove _ => True
  | .updateForeign a => wf a.res = true ∧ a.foreign = true ∧ (∀ e, n.findAlloc a.key = some e → e.foreign = true)
  | .replace old a delta =>
      wf a.res = true ∧ wf delta = true ∧ a.foreign = false ∧
      (∃ e, n.findAlloc old = some e ∧ e.foreign = false ∧ ∀ k, delta.getD k = a.res.getD k - e.res.getD k) ∧
      (a.key = old ∨ n.findAlloc a.key = none)
  | .setSchedulable _ => True

def NodePreAll : Node → List NodeOp → Prop
  | _, [] => True
  | n, op :: ops => NodePre n op ∧ NodePreAll (n.step op).1 ops

theorem node_ledger_step (n : Node) (op : NodeOp) (hw : NodeWF n) (hl : Ledger n) (hp : NodePre n op) :
    NodeWF (n.step op).1 ∧ Ledger (n.step op).1 := by
  cases op with
  | setCapacity c =>
    simp only [Node.step]
    split
    · exact ⟨hw, hl⟩
    · exact refresh_ok _ (prune_wf c hp) hw.occupied hw.allocated hw.allocRes hw.keys (fun k => (hl k).1)
  | setOccupied o =>
    simp only [Node.step]
    split
    · exact ⟨hw, hl⟩
    · exact refresh_ok _ hw.total hp hw.allocated hw.allocRes hw.keys (fun k => (hl k).1)
  | updateAllocated k r => exact step_updateAllocated n k r hw hl hp.1 hp.2
  | tryAdd a => exact addInternal_ok n a false hw hl hp.1 hp.2
  | forceAdd a => exact addInternal_ok n a true hw hl hp.1 hp.2
  | remove k => exact step_remove n k hw hl
  | updateForeign a => exact step_updateForeign n a hw hl hp.1 hp.2.1 hp.2.2
  | replace old a delta => exact step_replace n old a delta hw hl hp.1 hp.2.1 hp.2.2.1 hp.2.2.2.1 hp.2.2.2.2
  | setSchedulable b => exact ⟨⟨hw.total, hw.occupied, hw.allocated, hw.available, hw.allocRes, hw.keys⟩, hl⟩

theorem node_new_ok (total : Res) (ht : wf total = true) : NodeWF (Node.new total) ∧ Ledger (Node.new total) := by
  have hp := prune_wf total ht
  refine ⟨⟨hp, rfl, rfl, hp, (fun a ha => by cases ha), List.Pairwise.nil⟩, fun k => ⟨rfl, ?_⟩⟩
  show (prune total).getD k = (prune total).getD k - getD [] k - getD [] k
  simp

/-- `PA` is any predicate on (state, remaining history) that unfolds like `PreAll`: YkProps/C01 defines its own `PreAll`
    after this file, so it cannot be named here; for it and for `NodePreAll`, `hcons` holds by `id`. -/
theorem node_run_ok (PA : Node → List NodeOp → Prop)
    (hcons : ∀ n op ops, PA n (op :: ops) → NodePre n op ∧ PA (n.step op).1 ops)
    (n : Node) (ops : List NodeOp) (hw : NodeWF n) (hl : Ledger n) (hp : PA n ops) :
    NodeWF (ops.foldl (fun s op => (s.step op).1) n) ∧ Ledger (ops.foldl (fun s op => (s.step op).1) n) :=
  foldl_hist (P := fun n => NodeWF n ∧ Ledger n) hcons (fun n op h hq => node_ledger_step n op h.1 h.2 hq) ops n ⟨hw, hl⟩ hp

theorem node_ledger_run' (total : Res) (ht : wf total = true) (ops : List NodeOp) (hp : NodePreAll (Node.new total) ops) :
    Ledger (ops.foldl (fun s op => (s.step op).1) (Node.new total)) :=
  (node_run_ok NodePreAll (fun _ _ _ h => h) _ ops (node_new_ok total ht).1 (node_new_ok total ht).2 hp).2

/-! ### the executable clauses are exactly `Ledger` -/

theorem sumAllocs_getD (n : Node) (hr : ∀ a ∈ n.allocs, wf a.res = true) (k : String) :
    (Node.sumAllocs n).getD k = nfSum n.allocs k := by
  unfold Node.sumAllocs
  rw [← List.foldl_map]
  exact foldl_addX_map_getD _ (·.res) (fun a ha => hr a (List.mem_filter.mp ha).1) k

end Yk
