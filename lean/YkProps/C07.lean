/-
  C07 — Only eligible allocations are ever chosen as preemption victims.
  Property theorems only. Model: YkModel/Preempt.lean (mirrors findPreemptionFenceRoot, findEligiblePreemptionVictims,
  CheckPreconditions, TryPreemption, the required-node and the quota preemptor of pkg/scheduler/objects path by path);
  lemmas: YkProofs/Preempt*.lean. Tie to the code: component `preempt` — harness/preempt.go runs the real functions on
  generated worlds, ykdrv compares every answer with this model and evaluates the clauses `C07.*`
  (`eligViolations`, the filters below) on what the implementation did.
  World hypotheses: `WF` = parents come before children in the queue list; `KeysUnique` = allocation keys identify
  allocations (Application.allocations is a map by key).
-/
import YkProofs.Preempt
import YkProofs.PreemptMark
import YkProofs.PreemptQuota
namespace Yk.C07
open Yk Yk.Res Yk.Pre

/-- QUEUE PREEMPTION, eligibility. Every potential victim listed in a snapshot returned by
    FindEligiblePreemptionVictims is a bound allocation (`a ∈ w.allocs`, listed under its own leaf queue) that is not
    released, not already preempted and does not require a node; its queue is a leaf other than the asker's, inside
    the asker's preemption fence (a descendant of the fence root), with a preemption policy that is not `disabled`;
    it shares a resource type with the ask; and walking DOWN the tree path from the fence root to that leaf
    (`downPrio`: offsets subtracted, priority fences opening a subtree or blocking it) it does not outrank the ask
    unless a priority fence applies. -/
theorem queue_victims_eligible (w : World) (hw : WF w) (s : Snap) (k : String)
    (hs : s ∈ findEligible w) (hk : k ∈ s.victims) :
    ∃ a, a ∈ w.allocs ∧ a.key = k ∧ s.path = pathOf w a.q ∧
      a.released = false ∧ a.preempted = false ∧ a.req = false ∧
      (∃ q, w.queues[a.q]? = some q ∧ q.leaf = true ∧ q.ppol ≠ 2) ∧ a.q ≠ w.ask.q ∧
      (∃ fr pm, fenceRoot w = some (fr, pm) ∧ inSubtree w fr a.q = true ∧
        ∃ p fenced, downPrio w pm fr a.q = some (p, fenced) ∧ (fenced = true ∨ a.prio ≤ p)) ∧
      matchAny (some w.ask.res) (some a.res) false = true := by
  obtain ⟨a, ha, hak, hp, hv⟩ := findEligible_eligible w hw s k hs hk
  obtain ⟨_, h2, h3, h4, h5, h6, h7, h8⟩ := eligViolations_nil hv
  exact ⟨a, ha, hak, hp, h2, h3, h4, h5, h6, h7, h8⟩

/-- The executable clause list the driver evaluates on the implementation's victims is empty exactly under the
    conditions of `queue_victims_eligible` (so the monitor and the theorem speak about the same thing). -/
theorem clauses_mean (w : World) (a : PAlloc) (h : eligViolations w a = []) :
    a ∈ w.allocs ∧ a.released = false ∧ a.preempted = false ∧ a.req = false ∧
    (∃ q, w.queues[a.q]? = some q ∧ q.leaf = true ∧ q.ppol ≠ 2) ∧ a.q ≠ w.ask.q ∧
    (∃ fr pm, fenceRoot w = some (fr, pm) ∧ inSubtree w fr a.q = true ∧
      ∃ p fenced, downPrio w pm fr a.q = some (p, fenced) ∧ (fenced = true ∨ a.prio ≤ p)) ∧
    matchAny (some w.ask.res) (some a.res) false = true :=
  eligViolations_nil h

/-- INHERITANCE OF THE POLICY. The preemption policy UpdateQueueProperties derives from a queue's merged property
    texts (own texts over the filtered texts of the parent: mergeProperties / filterParentProperty) is `disabled`
    exactly when the NEAREST configured preemption.policy on the queue's path — the queue itself first — reads
    `disabled` in any spelling: `disabled` is handed down, every other value is not. -/
theorem disabled_policy_inherited (qs : List QConf) (i : Nat) (q : QConf) (hq : qs[i]? = some q) :
    (effSettings qs i).preempt = "disabled" ↔ inheritedDisabled qs i = true := by
  unfold effSettings inheritedDisabled mergedProps
  simp only [hq]
  rw [← merged_reads_disabled qs (i + 1) i]
  simp only [Reload.deriveSettings]
  cases hg : (mergedPropsAux qs (i + 1) i).get? "preemption.policy" with
  | none => simp [readsDisabled]
  | some v =>
    simp only [readsDisabled, beq_iff_eq]
    by_cases hf : Reload.lower v = "fence"
    · simp [hf]
    · by_cases hd : Reload.lower v = "disabled"
      · simp [hd]
      · simp [hf, hd]

/-- ... hence, in a world whose queues carry the settings their configuration derives (`settingsDerived`, which the
    driver establishes by COMPUTING the settings from the configured texts and comparing them with what the real queues
    report), no potential victim lives below a queue configured `Disabled`/`DISABLED`/`disabled` unless a queue nearer
    to it configures another policy. -/
theorem victims_not_below_disabled (w : World) (hw : WF w) (hs : settingsDerived w = true) (s : Snap) (k : String)
    (hsn : s ∈ findEligible w) (hk : k ∈ s.victims) :
    ∃ a, a ∈ w.allocs ∧ a.key = k ∧ inheritedDisabled (confOf w) a.q = false := by
  obtain ⟨a, ha, hak, _, hv⟩ := findEligible_eligible w hw s k hsn hk
  obtain ⟨_, _, _, _, ⟨q, hq, _, hpol⟩, _⟩ := eligViolations_nil hv
  refine ⟨a, ha, hak, ?_⟩
  cases hd : inheritedDisabled (confOf w) a.q with
  | false => rfl
  | true =>
    -- the queue carries the derived policy, and the derived policy of an inherited `disabled` is `disabled`
    exfalso
    apply hpol
    unfold settingsDerived at hs
    rw [List.all_eq_true] at hs
    have := hs a.q (List.mem_range.mpr (lt_length_of_getElem? hq))
    simp only [hq, beq_iff_eq] at this
    rw [show q.ppol = (derivedSettings w a.q).1 from congrArg Prod.fst this]
    unfold derivedSettings
    simp only
    rw [(disabled_policy_inherited (confOf w) a.q _ (confOf_get hq)).mpr hd]
    rfl

/-- CheckPreconditions says yes only for an ask that allows preempting others, has not triggered preemption yet,
    does not require a node, is at least as old as the preemption delay of its queue and was not checked within the
    last preemptAttemptFrequency. -/
theorem preconditions (ask : PAsk) (delay freq : Int) (checked : Option Int)
    (h : checkPreconditions ask delay freq checked = true) :
    ask.other = true ∧ ask.triggered = false ∧ ask.req = none ∧ delay ≤ ask.age ∧ (∀ c, checked = some c → freq ≤ c) := by
  simp only [checkPreconditions, Bool.and_eq_true, Bool.not_eq_true', decide_eq_true_eq, Option.isNone_iff_eq_none,
    and_assoc] at h
  refine ⟨h.1, h.2.1, h.2.2.1, h.2.2.2.1, fun c hc => ?_⟩
  simpa [hc] using h.2.2.2.2

/-- QUEUE PREEMPTION, commit. Whatever TryPreemption (first-node rule) commits: every victim it marks was a potential
    victim and therefore satisfies every eligibility clause; the marked list is a sub-list of the collected victims
    (order kept — so nothing is marked twice when the collected list has no duplicates); and when the ask does not fit
    the free space of the chosen node all of them sit on that node. -/
theorem commit_only_eligible_victims (w : World) (hw : WF w) (hk : KeysUnique w) (nt : Bool) (r : TryResult)
    (h : tryPreemptionNoPlugin w nt = some r) :
    (∀ v ∈ r.victims, v ∈ potentialVictims w (findEligible w) ∧ eligViolations w v = []) ∧
    r.victims.Sublist r.collected ∧ (r.collected.Nodup → r.victims.Nodup) ∧
    (∀ n, w.nodes[r.ni]? = some n → fitInStd (some n.avail) (some w.ask.res) = false → ∀ v ∈ r.victims, v.node = r.ni) := by
  obtain ⟨hcoll, hsub, n, hn, hon, _, _⟩ := tryPreemption_commits h
  refine ⟨?_, hsub, fun hnd => hnd.sublist hsub, ?_⟩
  · intro v hv
    have := (hcoll v (hsub.subset hv)).1
    exact ⟨this, potentialVictim_eligible w hw hk v this⟩
  · intro n' hn' hfit
    rw [hn] at hn'; cases hn'
    exact hon hfit

/-- TryPreemption that returns no result marks nothing: in the model the marks ARE the result (definitional); on the
    implementation the clause C08.A1 (nothing marked, released or booked on abort) is evaluated on every run. -/
theorem abort_marks_nothing (w : World) (nt : Bool) (h : tryPreemptionNoPlugin w nt = none) :
    ((tryPreemptionNoPlugin w nt).map (fun r => r.victims)).getD [] = [] := by rw [h]; rfl

/-- QUEUE PREEMPTION, a victim released in the meantime (the rollback of the marking loop). `late` names the
    allocations that were released (placeholder replaced / timed out: SetReleased(true)) between the victim collection
    and the moment TryPreemption marks its final victims; `tryPreemptionLate` is the modelled TryPreemption (first-node
    rule) including that loop as written (MarkPreempted in order; on the first released victim MarkUnPreempted on all
    marked so far, failure logged, attempt abandoned). For every world and every `late`:
    (1) if marking fails on some final victim the attempt is abandoned, "victims released" is logged and the ask has
        not triggered preemption;
    (2) however an attempt is abandoned, every allocation that is marked preempted afterwards was marked before the
        attempt already (`a ∈ w.allocs` with `a.preempted`): an abandoned attempt leaves no victim marked;
    (3) when it commits, no final victim was released, the ask has triggered preemption, and the allocations are those
        of the world (with the late releases) with the flag set on exactly the final victims. -/
theorem abandoned_attempt_leaves_no_mark (w : World) (nt : Bool) (late : List String) :
    (∀ r, tryPreemptionNoPlugin w nt = some r →
      (∃ v ∈ r.victims, isReleased (releaseLate late w.allocs) v.key = true) →
      (tryPreemptionLate w nt late).result = none ∧ (tryPreemptionLate w nt late).released = true ∧
      (tryPreemptionLate w nt late).triggered = w.ask.triggered) ∧
    ((tryPreemptionLate w nt late).result = none →
      (tryPreemptionLate w nt late).triggered = w.ask.triggered ∧
      ∀ a ∈ (tryPreemptionLate w nt late).allocs, a.preempted = true → a ∈ w.allocs) ∧
    (∀ r, (tryPreemptionLate w nt late).result = some r →
      tryPreemptionNoPlugin w nt = some r ∧
      (∀ v ∈ r.victims, isReleased (releaseLate late w.allocs) v.key = false) ∧
      (tryPreemptionLate w nt late).released = false ∧ (tryPreemptionLate w nt late).triggered = true ∧
      (tryPreemptionLate w nt late).allocs = markMap (r.victims.map (·.key)) true (releaseLate late w.allocs)) := by
  unfold tryPreemptionLate
  cases ht : tryPreemptionNoPlugin w nt with
  | none =>
    exact ⟨fun r h => (nomatch h), fun _ => ⟨rfl, fun a ha hp => releaseLate_preempted ha hp⟩, fun r h => nomatch h⟩
  | some r0 =>
    rcases finishTry_cases w late r0 with ⟨hall, e⟩ | ⟨hex, un, hun, e⟩
    · rw [e]
      refine ⟨fun r hr ⟨v, hv, hrel⟩ => ?_, fun hn => (nomatch hn), fun r hr => ?_⟩
      · cases hr; rw [hall v hv] at hrel; cases hrel
      · cases hr; exact ⟨rfl, hall, rfl, rfl, rfl⟩
    · rw [e]
      exact ⟨fun r hr _ => ⟨rfl, rfl, rfl⟩,
        fun _ => ⟨rfl, fun a ha hp => releaseLate_preempted (markMap_false_preempted ha hp) hp⟩, fun r hr => nomatch hr⟩

/-- The same for the end of TryPreemption after ANY choice of node and victims (`finishTry`, which the driver also runs
    on the answers of a predicate plugin): a released final victim means abandoned + logged + trigger flag untouched +
    nothing newly marked (the flags cleared belong to a prefix of the final victims); no released final victim means
    committed with exactly the final victims marked. -/
theorem marking_rolls_back_or_marks_final_victims (w : World) (late : List String) (r : TryResult) :
    ((∃ v ∈ r.victims, isReleased (releaseLate late w.allocs) v.key = true) →
      (finishTry w late (some r)).result = none ∧ (finishTry w late (some r)).released = true ∧
      (finishTry w late (some r)).triggered = w.ask.triggered ∧
      (∃ un, un <+: r.victims.map (·.key) ∧
        (finishTry w late (some r)).allocs = markMap un false (releaseLate late w.allocs)) ∧
      ∀ a ∈ (finishTry w late (some r)).allocs, a.preempted = true → a ∈ w.allocs) ∧
    ((∀ v ∈ r.victims, isReleased (releaseLate late w.allocs) v.key = false) →
      (finishTry w late (some r)).result = some r ∧ (finishTry w late (some r)).released = false ∧
      (finishTry w late (some r)).triggered = true ∧
      (finishTry w late (some r)).allocs = markMap (r.victims.map (·.key)) true (releaseLate late w.allocs)) := by
  rcases finishTry_cases w late r with ⟨hall, e⟩ | ⟨⟨v, hv, hrel⟩, un, hun, e⟩
  · rw [e]
    exact ⟨fun ⟨v, hv, hrel⟩ => (by rw [hall v hv] at hrel; cases hrel), fun _ => ⟨rfl, rfl, rfl, rfl⟩⟩
  · rw [e]
    exact ⟨fun _ => ⟨rfl, rfl, rfl, ⟨un, hun, rfl⟩,
        fun a ha hp => releaseLate_preempted (markMap_false_preempted ha hp) hp⟩,
      fun hall => by rw [hall v hv] at hrel; cases hrel⟩

/-- ... and in a world with unique allocation keys (final victims are then unmarked allocations of the world) an
    abandoned attempt restores EVERY flag: the allocations are exactly what the late releases left behind, and the
    preempting resource of every queue is what it was. -/
theorem abandoned_attempt_restores_every_flag (w : World) (hw : WF w) (hk : KeysUnique w) (nt : Bool) (late : List String)
    (h : (tryPreemptionLate w nt late).result = none) :
    (tryPreemptionLate w nt late).allocs = releaseLate late w.allocs ∧
    ∀ i, preemptingOf { w with allocs := (tryPreemptionLate w nt late).allocs } i = preemptingOf w i := by
  have key : (tryPreemptionLate w nt late).allocs = releaseLate late w.allocs := by
    unfold tryPreemptionLate at h ⊢
    cases ht : tryPreemptionNoPlugin w nt with
    | none => rfl
    | some r0 =>
      rw [ht] at h
      rcases finishTry_cases w late r0 with ⟨_, e⟩ | ⟨_, un, hun, e⟩
      · rw [e] at h; cases h
      · rw [e]
        -- the cleared flags were clear: the victims are eligible, hence unmarked, allocations of the world
        apply markMap_false_id
        intro a ha hc
        obtain ⟨b, hb, hbk, hbp⟩ := releaseLate_mem ha
        obtain ⟨v, hv, hvk⟩ := List.mem_map.mp (hun.subset (List.contains_iff_mem.mp hc))
        obtain ⟨hvw, _, hvp, _⟩ := eligViolations_nil ((commit_only_eligible_victims w hw hk nt r0 ht).1 v hv).2
        obtain rfl : v = b := hk v hvw b hb (hvk.trans hbk.symm)
        exact hbp ▸ hvp
  exact ⟨key, fun i => key ▸ preemptingOf_releaseLate w late i⟩

/-- REQUIRED-NODE PREEMPTION. Every victim is a bound allocation on the required node that does not outrank the ask,
    does not itself require a node, is neither released nor already preempted and shares a resource type with the ask. -/
theorem reqnode_victims (w : World) (ni : Nat) (avail : Res) (v : PAlloc)
    (h : v ∈ reqVictims w.ask.res avail (reqCandidates w ni)) :
    v ∈ w.allocs ∧ v.node = ni ∧ v.prio ≤ w.ask.prio ∧ v.req = false ∧ v.released = false ∧ v.preempted = false ∧
      matchAny (some w.ask.res) (some v.res) false = true := by
  have hm := reqCandidates_mem (reqVictims_subset _ _ _ v h)
  obtain ⟨h1, h2, h3, h4, h5, h6⟩ := reqFilter_true hm.2
  exact ⟨hm.1, h1, h3, h2, h6, h4, h5⟩

/-- QUOTA-CHANGE PREEMPTION, for EVERY order the (float valued) sort may put the candidates in: every selected victim
    is a bound allocation of the leaf queue that does not require a node, is neither released nor already preempted
    and shares a resource type with the amount planned for the leaf. -/
theorem quota_victims (w : World) (plan : Res) (leaf : Nat) (cands : List PAlloc)
    (hc : ∀ a ∈ cands, a ∈ w.allocs.filter (quotaFilter plan leaf)) (v : PAlloc) (h : v ∈ (quotaSelect plan cands).1) :
    v ∈ w.allocs ∧ v.q = leaf ∧ v.req = false ∧ v.released = false ∧ v.preempted = false ∧
      matchAny (some plan) (some v.res) false = true := by
  have hm := List.mem_filter.mp (hc v ((quotaSelect_spec plan cands).2.2 v h).1)
  obtain ⟨h1, h2, h3, h4, h5⟩ := quotaFilter_true hm.2
  exact ⟨hm.1, h1, h3, h4, h5, h2⟩

/-! ### non-vacuity -/

def exAsk : PAsk :=
  { key := "a", app := "x", q := 1, res := [("cpu", 1)], prio := 0, other := true, self := true, req := none, age := 40,
    triggered := false }
example : checkPreconditions exAsk 30 15 none = true := by decide +kernel
example : checkPreconditions exAsk 60 15 none = false := by decide +kernel

def exQ (path : String) (parent : Option Nat) (leaf : Bool) (g : ORes) (prFence : Bool) (off : Int) : PQ :=
  { path := path, parent := parent, leaf := leaf, max := none, effMax := none, guar := g, ppol := 0, prFence := prFence,
    off := off, delay := 30, managed := true }
def exA (k : String) (q : Nat) (prio : Int) : PAlloc :=
  { key := k, app := "b", q := q, node := 0, res := [("cpu", 2)], prio := prio, released := false, preempted := false,
    req := false, ph := false, self := true, orig := false, ct := 2 }
/-- root → {a (asker, guaranteed), b (offset 2), c (priority fence)}: an ask of priority 3 may take priority ≤ 1 from b
    (3 - 2) and anything from the fenced c -/
def exWorld : World :=
  { queues := [exQ "root" none false none false 0, exQ "root.a" (some 0) true (some [("cpu", 10)]) false 0,
               exQ "root.b" (some 0) true none false 2, exQ "root.c" (some 0) true none true 0],
    nodes := [{ id := "n0", cap := [("cpu", 8)], avail := [("cpu", 0)], sched := true }],
    allocs := [exA "b1" 2 1, exA "b2" 2 2, exA "c9" 3 9],
    ask := { exAsk with res := [("cpu", 2)], prio := 3 } }
example : (findEligible exWorld).map (fun s => (s.path, s.victims)) =
    [("root", []), ("root.a", []), ("root.b", ["b1"]), ("root.c", ["c9"])] := by decide +kernel
example : downPrio exWorld [(0, 3), (1, 3)] 0 2 = some (1, false) ∧ downPrio exWorld [(0, 3), (1, 3)] 0 3 = some (3, true) := by decide +kernel

/-- a parent configured `Disabled` hands the policy down to a child without own policy, not to one that says `default` -/
example : inheritedDisabled [{ parent := none, leaf := false, own := [] }, { parent := some 0, leaf := false, own := [("preemption.policy", "Disabled")] },
    { parent := some 1, leaf := true, own := [] }, { parent := some 1, leaf := true, own := [("preemption.policy", "default")] }] 2 = true ∧
  (effSettings [{ parent := none, leaf := false, own := [] }, { parent := some 0, leaf := false, own := [("preemption.policy", "Disabled")] },
    { parent := some 1, leaf := true, own := [] }, { parent := some 1, leaf := true, own := [("preemption.policy", "default")] }] 3).preempt = "default" := by decide +kernel

/-- rollback world: root → {a (asker, guaranteed cpu 12), b}; b holds v1 (newest), v2, v3 of cpu 4 each on the full node
    n0; an ask of cpu 10 needs all three: the final victims are [v1, v2, v3] in that order -/
def rbA (k : String) (ct : Int) : PAlloc :=
  { key := k, app := "b", q := 2, node := 0, res := [("cpu", 4)], prio := 0, released := false, preempted := false,
    req := false, ph := false, self := true, orig := false, ct := ct }
def rbWorld : World :=
  { queues := [exQ "root" none false none false 0, exQ "root.a" (some 0) true (some [("cpu", 12)]) false 0,
               exQ "root.b" (some 0) true none false 0],
    nodes := [{ id := "n0", cap := [("cpu", 12)], avail := [("cpu", 0)], sched := true }],
    allocs := [rbA "v1" 2, rbA "v2" 4, rbA "v3" 6],
    ask := { exAsk with res := [("cpu", 10)], prio := 3 } }
/-- undisturbed: commits, exactly v1 v2 v3 marked, the ask has triggered preemption -/
example : (tryPreemptionLate rbWorld false []).result.map (fun r => r.victims.map (·.key)) = some ["v1", "v2", "v3"] ∧
    markedKeys (tryPreemptionLate rbWorld false []).allocs = ["v1", "v2", "v3"] ∧
    (tryPreemptionLate rbWorld false []).triggered = true := by decide +kernel
/-- v2 (second of the final victims) released after the victims were collected: v1 is marked, marking v2 fails, v1 is
    un-marked again; abandoned, logged, not triggered, nothing marked, preempting of root.b still empty -/
example : (tryPreemptionLate rbWorld false ["v2"]).result.isNone = true ∧
    (tryPreemptionLate rbWorld false ["v2"]).released = true ∧
    (tryPreemptionLate rbWorld false ["v2"]).triggered = false ∧
    markedKeys (tryPreemptionLate rbWorld false ["v2"]).allocs = [] ∧
    ((tryPreemptionLate rbWorld false ["v2"]).allocs.filter (·.released)).map (·.key) = ["v2"] ∧
    preemptingOf { rbWorld with allocs := (tryPreemptionLate rbWorld false ["v2"]).allocs } 2 = [] := by decide +kernel
/-- the loop really marks before it un-marks: stopped at v3 it has v1 and v2 to take back -/
example : markedKeys (markLoop (releaseLate ["v3"] rbWorld.allocs) [] ["v1", "v2"]).1 = ["v1", "v2"] := by decide +kernel
example : markedKeys (markLoop (releaseLate ["v3"] rbWorld.allocs) [] ["v1", "v2", "v3"]).1 = [] ∧
    (markLoop (releaseLate ["v3"] rbWorld.allocs) [] ["v1", "v2", "v3"]).2 = false := by decide +kernel
/-- a late release of an allocation that is already marked preempted is refused (SetReleased fails) -/
example : releaseLate ["x"] [{ rbA "x" 2 with preempted := true }] = [{ rbA "x" 2 with preempted := true }] := by decide +kernel

end Yk.C07
