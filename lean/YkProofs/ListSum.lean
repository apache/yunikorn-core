/-
  Sums over the elements of a list that satisfy a condition (`sumIf l c w` = Σ_{x ∈ l, c x} w x) and how they change
  when the list is extended, filtered, or has its one element with a given key updated or removed.  Pure list algebra:
  the node ledger (Node.lean) and the books of the core (Core.lean) are instances.
-/
import YkProofs.Lists
namespace Yk

def sumIf {α : Type} (l : List α) (c : α → Bool) (w : α → Int) : Int := ((l.filter c).map w).sum

section ListSums
variable {α : Type}

theorem sumIf_eq (l : List α) (c : α → Bool) (w : α → Int) :
    sumIf l c w = (l.map (fun x => if c x = true then w x else 0)).sum := by
  unfold sumIf
  induction l with
  | nil => rfl
  | cons a t ih =>
    rw [List.filter_cons, List.map_cons, List.sum_cons, ← ih]
    by_cases h : c a = true
    · simp [h]
    · simp [h]

@[simp] theorem sumIf_nil (c : α → Bool) (w : α → Int) : sumIf ([] : List α) c w = 0 := rfl

theorem sumIf_cons (a : α) (l : List α) (c : α → Bool) (w : α → Int) :
    sumIf (a :: l) c w = (if c a = true then w a else 0) + sumIf l c w := by
  rw [sumIf_eq, sumIf_eq, List.map_cons, List.sum_cons]

theorem sumIf_append (l1 l2 : List α) (c : α → Bool) (w : α → Int) :
    sumIf (l1 ++ l2) c w = sumIf l1 c w + sumIf l2 c w := by
  induction l1 with
  | nil => simp
  | cons a t ih => rw [List.cons_append, sumIf_cons, sumIf_cons, ih]; omega

theorem sumIf_single (a : α) (c : α → Bool) (w : α → Int) :
    sumIf [a] c w = (if c a = true then w a else 0) := by
  rw [sumIf_cons, sumIf_nil]; omega

theorem sumIf_congr (l : List α) (c c' : α → Bool) (w w' : α → Int)
    (h : ∀ x ∈ l, (if c x = true then w x else 0) = (if c' x = true then w' x else 0)) :
    sumIf l c w = sumIf l c' w' := by
  induction l with
  | nil => rfl
  | cons a t ih =>
    rw [sumIf_cons, sumIf_cons, ih (fun x hx => h x (List.mem_cons_of_mem _ hx)), h a List.mem_cons_self]

theorem sumIf_zero (l : List α) (c : α → Bool) (w : α → Int) (h : ∀ x ∈ l, c x = true → w x = 0) :
    sumIf l c w = 0 := by
  induction l with
  | nil => rfl
  | cons a t ih =>
    rw [sumIf_cons, ih (fun x hx => h x (List.mem_cons_of_mem _ hx))]
    by_cases hc : c a = true
    · simp [hc, h a List.mem_cons_self hc]
    · simp [hc]

theorem sumIf_nonneg (l : List α) (c : α → Bool) (w : α → Int) (h : ∀ x ∈ l, c x = true → 0 ≤ w x) :
    0 ≤ sumIf l c w := by
  induction l with
  | nil => simp
  | cons a t ih =>
    rw [sumIf_cons]
    have := ih (fun x hx => h x (List.mem_cons_of_mem _ hx))
    by_cases hc : c a = true
    · have := h a List.mem_cons_self hc; simp only [hc, if_true]; omega
    · simp only [hc]; simp; omega

theorem le_sumIf (l : List α) (c : α → Bool) (w : α → Int) (h : ∀ x ∈ l, c x = true → 0 ≤ w x)
    (a : α) (ha : a ∈ l) (hc : c a = true) : w a ≤ sumIf l c w := by
  induction l with
  | nil => cases ha
  | cons b t ih =>
    rw [sumIf_cons]
    have ht : ∀ x ∈ t, c x = true → 0 ≤ w x := fun x hx => h x (List.mem_cons_of_mem _ hx)
    have hn := sumIf_nonneg t c w ht
    cases ha with
    | head => simp only [hc, if_true]; omega
    | tail _ ha' =>
      have := ih ht ha'
      by_cases hb : c b = true
      · have := h b List.mem_cons_self hb; simp only [hb, if_true]; omega
      · simp only [hb]; simp; omega

theorem sum_map_upd (l : List α) (d : α → Bool) (f : α → α) (w : α → Int) (a : α)
    (hu : AtMostOne l d) (ha : a ∈ l) (hd : d a = true) :
    ((l.map (fun x => if d x = true then f x else x)).map w).sum = (l.map w).sum - w a + w (f a) := by
  obtain ⟨l1, l2, e, hm, _⟩ := hu.split ha hd
  rw [hm f, e]
  simp only [List.map_append, List.map_cons, List.sum_append_int, List.sum_cons]; omega

theorem sum_filter_rm (l : List α) (d : α → Bool) (w : α → Int) (a : α)
    (hu : AtMostOne l d) (ha : a ∈ l) (hd : d a = true) :
    ((l.filter (fun x => !d x)).map w).sum = (l.map w).sum - w a := by
  obtain ⟨l1, l2, e, _, hf⟩ := hu.split ha hd
  rw [hf, e]
  simp only [List.map_append, List.map_cons, List.sum_append_int, List.sum_cons]; omega

theorem sum_map_upd_nat (l : List α) (d : α → Bool) (f : α → α) (w : α → Nat) (a : α)
    (hu : AtMostOne l d) (ha : a ∈ l) (hd : d a = true) :
    ((l.map (fun x => if d x = true then f x else x)).map w).sum + w a = (l.map w).sum + w (f a) := by
  obtain ⟨l1, l2, e, hm, _⟩ := hu.split ha hd
  rw [hm f, e]
  simp only [List.map_append, List.map_cons, List.sum_append_nat, List.sum_cons]; omega

theorem sumIf_map_upd (l : List α) (d : α → Bool) (f : α → α) (c : α → Bool) (w : α → Int) (a : α)
    (hu : AtMostOne l d) (ha : a ∈ l) (hd : d a = true) :
    sumIf (l.map (fun x => if d x = true then f x else x)) c w =
      sumIf l c w - (if c a = true then w a else 0) + (if c (f a) = true then w (f a) else 0) := by
  rw [sumIf_eq, sumIf_eq, sum_map_upd l d f _ a hu ha hd]

theorem sumIf_filter_rm (l : List α) (d : α → Bool) (c : α → Bool) (w : α → Int) (a : α)
    (hu : AtMostOne l d) (ha : a ∈ l) (hd : d a = true) :
    sumIf (l.filter (fun x => !d x)) c w = sumIf l c w - (if c a = true then w a else 0) := by
  rw [sumIf_eq, sumIf_eq, sum_filter_rm l d _ a hu ha hd]

theorem sumIf_filter (l : List α) (p c : α → Bool) (w : α → Int) :
    sumIf (l.filter p) c w = sumIf l (fun a => p a && c a) w := by
  induction l with
  | nil => rfl
  | cons a t ih =>
    rw [List.filter_cons, sumIf_cons]
    cases hp : p a
    · simp [ih]
    · simp [sumIf_cons, ih]

theorem sumIf_filter_irrel (l : List α) (d c : α → Bool) (w : α → Int)
    (h : ∀ x ∈ l, d x = false → c x = false) : sumIf (l.filter d) c w = sumIf l c w := by
  rw [sumIf_filter]
  refine sumIf_congr _ _ _ _ _ fun x hx => ?_
  cases hd : d x
  · rw [h x hx hd]; rfl
  · rfl

theorem sumIf_none (l : List α) (c : α → Bool) (w : α → Int) (h : ∀ x ∈ l, c x = false) : sumIf l c w = 0 :=
  sumIf_zero l c w (fun x hx hc => by rw [h x hx] at hc; cases hc)

theorem sumIf_map {β : Type} (l : List α) (f : α → β) (c : β → Bool) (w : β → Int) :
    sumIf (l.map f) c w = sumIf l (fun a => c (f a)) (fun a => w (f a)) := by
  induction l with
  | nil => rfl
  | cons a t ih => rw [List.map_cons, sumIf_cons, sumIf_cons, ih]

theorem sum_all_zero {α : Type} (l : List α) (w : α → Int) (hz : ∀ x ∈ l, w x = 0) : (l.map w).sum = 0 := by
  induction l with
  | nil => rfl
  | cons a t ih => rw [List.map_cons, List.sum_cons, hz a List.mem_cons_self, ih (fun x hx => hz x (List.mem_cons_of_mem _ hx))]; rfl

theorem sum_map_zero {β : Type} (cs : List β) : (cs.map (fun _ => (0 : Int))).sum = 0 := sum_all_zero cs _ fun _ _ => rfl

theorem sum_map_add {β : Type} (cs : List β) (f g : β → Int) :
    (cs.map (fun c => f c + g c)).sum = (cs.map f).sum + (cs.map g).sum := by
  induction cs with
  | nil => rfl
  | cons c t ih => simp only [List.map_cons, List.sum_cons, ih]; omega

theorem perm_sum_int {l₁ l₂ : List Int} (h : l₁.Perm l₂) : l₁.sum = l₂.sum := by
  induction h with
  | nil => rfl
  | cons x _ ih => simp only [List.sum_cons, ih]
  | swap x y l => simp only [List.sum_cons]; omega
  | trans _ _ ih1 ih2 => exact ih1.trans ih2

theorem perm_sumIf {l₁ l₂ : List α} (h : l₁.Perm l₂) (c : α → Bool) (w : α → Int) : sumIf l₁ c w = sumIf l₂ c w :=
  perm_sum_int ((h.filter c).map w)

end ListSums

end Yk
