/-
  Proofs for YkProps/C12 (restart recovery), first part: the replay model of YkModel/Recover.lean keeps its invariant.
  `Rebuilt s acc` is what every replayed item keeps (`replay_ind`): the state is well-formed, its books are balanced
  (`Books`, YkProofs/Core.lean) and the item list of every application and the allocation list of every node are the
  accepted items `acc` that name it (`Holds`, two instances of `Mirror`) — whatever the order, the queue tree, the quotas.
  So every per-application and per-node total is the total recomputed from `acc`.  What follows from it for acceptance
  and for the old core against the restarted one is in RecoverAgree.lean.
-/
import YkModel.Recover
import YkProofs.Core2Ops
namespace Yk
open Res Core

/-! ### well-formedness kept by the replay (the part of `CoreWF` the replay operations need) -/

structure RWF (s : Core) : Prop where
  /-- partition.applications is a map -/
  appIds : s.apps.Pairwise (fun a b => a.live = true → b.live = true → a.id ≠ b.id)
  /-- the vectors are Go maps -/
  appRes : ∀ a ∈ s.apps, a.live = true → wf a.pending = true ∧ wf a.allocated = true ∧ wf a.allocatedPh = true
  nodeRes : ∀ n ∈ s.nodes, wf n.total = true ∧ wf n.occupied = true ∧ wf n.allocated = true ∧ wf n.available = true

theorem CoreWF.rwf {s : Core} (h : CoreWF s) : RWF s := ⟨h.appIds, h.appRes, h.nodeRes⟩

/-- a replayed item carries Go maps as resources -/
def RItem.wfRes : RItem → Prop
  | .node _ cap _ => wf cap = true
  | .app _ => True
  | .alloc x => wf x.res = true
  | .foreign _ _ res => wf res = true
  | .ask x => wf x.res = true
  | .undrain _ => True

/-! ### lookups in the state, and lists updated in place -/

theorem findNode_isSome_iff {s : Core} {id : String} : (s.findNode id).isSome = true ↔ ∃ n ∈ s.nodes, n.id = id := by
  unfold findNode
  rw [List.find?_isSome]
  exact exists_congr fun n => and_congr_right fun _ => beq_iff_eq

theorem findNode_eq_none {s : Core} {id : String} (h : ¬ ∃ n ∈ s.nodes, n.id = id) : s.findNode id = none :=
  Option.not_isSome_iff_eq_none.mp (mt findNode_isSome_iff.mp h)

theorem findApp_exists {s : Core} {id : String} (hl : ∀ a ∈ s.apps, a.live = true) (h : ∃ a ∈ s.apps, a.id = id) :
    ∃ a, s.findApp id = some a := by
  obtain ⟨a, ha, hid⟩ := h
  have : (s.findApp id).isSome = true := by
    unfold findApp
    rw [List.find?_isSome]; exact ⟨a, mem_liveApps.mpr ⟨ha, hl a ha⟩, by simp [hid]⟩
  cases hf : s.findApp id with
  | none => rw [hf] at this; cases this
  | some b => exact ⟨b, rfl⟩

theorem updNs_id (nodes : List CNode) (id : String) : updNs nodes id (fun a => a) = nodes := by
  unfold updNs; simp

theorem forall_map_if {α : Type} {l : List α} {d : α → Bool} {f : α → α} {P : α → Prop}
    (h : ∀ a ∈ l, P a) (hf : ∀ a ∈ l, P a → P (f a)) : ∀ y ∈ l.map (fun a => if d a = true then f a else a), P y := by
  intro y hy
  obtain ⟨z, hz, rfl⟩ := List.mem_map.mp hy
  split
  · exact hf z hz (h z hz)
  · exact h z hz

theorem key_ite {α : Type} {d : α → Bool} {f : α → α} (key : α → String) (hf : ∀ a, key (f a) = key a) (z : α) :
    key (if d z = true then f z else z) = key z := by
  split
  · exact hf z
  · rfl

theorem exists_map_if_iff {α : Type} {l : List α} {d : α → Bool} {f : α → α} (key : α → String)
    (hf : ∀ a, key (f a) = key a) {i : String} :
    (∃ a ∈ l.map (fun a => if d a = true then f a else a), key a = i) ↔ ∃ a ∈ l, key a = i := by
  have hid := key_ite (d := d) key hf
  constructor
  · rintro ⟨y, hy, hi⟩
    obtain ⟨z, hz, rfl⟩ := List.mem_map.mp hy
    exact ⟨z, hz, (hid z).symm.trans hi⟩
  · rintro ⟨a, ha, hi⟩
    exact ⟨_, List.mem_map.mpr ⟨a, ha, rfl⟩, (hid a).trans hi⟩

/-! ### every replayed item is refused (the state stays as it is) or has a known effect -/

theorem recNode_cases (s : Core) (id : String) (cap : Res) (b : Bool) :
    s.recNode id cap b = (s, false) ∨
    (s.findNode id = none ∧ s.recNode id cap b =
      (setRootMax { s with nodes := s.nodes ++ [freshNode id cap b], total := prune (addX s.total (prune cap)) }
        (prune (addX s.total (prune cap))), true)) := by
  unfold recNode nodeCreate
  cases s.findNode id with
  | some _ => exact Or.inl rfl
  | none => exact Or.inr ⟨rfl, rfl⟩

theorem appSub_cases (s : Core) (a : RApp) :
    s.appSub a = (s, false) ∨
    (s.appAddOK a = true ∧ s.appSub a =
      ({ s with apps := s.apps ++ [newApp a],
                queues := s.queues.map (fun q => if q.path == a.queue then { q with apps := q.apps ++ [a.id] } else q) }, true)) := by
  unfold appSub
  by_cases h : s.appAddOK a = true
  · exact Or.inr ⟨h, if_pos h⟩
  · exact Or.inl (if_neg h)

theorem recAlloc_cases (s : Core) (x : RAlloc) :
    s.recAlloc x = (s, false) ∨
    ∃ a, s.findApp x.app = some a ∧ s.recAllocOK a x = true ∧ s.recAlloc x = (s.recAllocDo a x, true) := by
  unfold recAlloc
  split
  · exact Or.inl rfl
  · rename_i a hf
    by_cases h : s.recAllocOK a x = true
    · exact Or.inr ⟨a, hf, h, if_pos h⟩
    · exact Or.inl (if_neg h)

theorem recAllocOK_node {s : Core} {a : CApp} {x : RAlloc} (h : s.recAllocOK a x = true) : ∃ n ∈ s.nodes, n.id = x.node := by
  unfold recAllocOK at h
  simp only [Bool.and_eq_true] at h
  exact findNode_isSome_iff.mp h.1.1.1

theorem recForeign_cases (s : Core) (key node : String) (res : Res) :
    s.recForeign key node res = (s, false) ∨
    ((s.findNode node).isSome = true ∧ s.foreign.contains key = false ∧ s.recForeign key node res =
      ({ updNode s node (addForeignNode key res) with foreign := s.foreign ++ [key] }, true)) := by
  unfold recForeign foreignAdd
  by_cases hc : s.foreign.contains key = true
  · exact Or.inl (if_pos hc)
  · simp only [if_neg hc]
    cases s.findNode node with
    | none => exact Or.inl rfl
    | some _ => exact Or.inr ⟨rfl, Bool.eq_false_iff.mpr hc, rfl⟩

theorem recAsk_refused_or_ask (s : Core) (x : RAlloc) :
    s.recAsk x = (s, false) ∨ s.recAsk x = s.ask x.app x.key x.res x.ph x.tg x.reqNode := by
  unfold recAsk
  split
  · exact Or.inl rfl
  · split
    · exact Or.inl rfl
    · exact Or.inr rfl

theorem recAsk_cases (s : Core) (x : RAlloc) :
    s.recAsk x = (s, false) ∨
    ∃ a, s.findApp x.app = some a ∧
      s.recAsk x = (updQueues (updApp s x.app (askedApp a x.key x.res x.ph x.tg x.reqNode)) (pathChain s a.queue)
        (fun q => { q with pending := addX q.pending x.res }), true) := by
  rcases recAsk_refused_or_ask s x with h | h
  · exact Or.inl h
  · rw [h]; exact ask_cases s x.app x.key x.res x.ph x.tg x.reqNode

theorem accepted_of_cases {r : Core × Bool} {s : Core} {P : Prop} (hacc : r.2 = true) (h : r = (s, false) ∨ P) : P := by
  rcases h with h | h
  · rw [h] at hacc; cases hacc
  · exact h

/-! ### every operation keeps `RWF` and `Books` -/

theorem rwf_nodeCreate (s : Core) (id : String) (cap : Res) (b : Bool) (hc : wf cap = true) (hw : RWF s) :
    RWF (s.nodeCreate id cap b) := by
  rcases nodeCreate_cases s id cap b with h | ⟨_, h⟩
  · rw [h]; exact hw
  · rw [h]
    exact ⟨hw.appIds, hw.appRes, forall_mem_snoc hw.nodeRes ⟨prune_wf _ hc, rfl, rfl, prune_wf _ hc⟩⟩

theorem rwf_nodeSchedulable (s : Core) (id : String) (b : Bool) (hw : RWF s) : RWF (s.nodeSchedulable id b) :=
  ⟨hw.appIds, hw.appRes, forall_map_if hw.nodeRes (fun _ _ h => h)⟩

theorem appAddOK_findApp {s : Core} {a : RApp} (h : s.appAddOK a = true) : s.findApp a.id = none := by
  unfold appAddOK at h
  simp only [Bool.and_eq_true, Bool.not_eq_true'] at h
  cases hf : s.findApp a.id with
  | none => rfl
  | some _ => rw [hf] at h; simp at h

theorem appBooks_newApp (a : RApp) : AppBooks (newApp a) :=
  ⟨fun _ => rfl, fun _ => rfl, fun _ => rfl⟩

theorem qsum_append_zero (apps : List CApp) (x : CApp) (p : String) (g : CApp → Int) (h : g x = 0) :
    qsum (apps ++ [x]) p g = qsum apps p g := by
  unfold qsum
  rw [sumIf_append, sumIf_single, h]; simp

theorem books_appSub (s : Core) (a : RApp) (hb : Books s) : Books (s.appSub a).1 := by
  rcases appSub_cases s a with h | ⟨_, h⟩
  · rw [h]; exact hb
  · rw [h]
    refine ⟨forall_mem_snoc hb.apps (fun _ => appBooks_newApp a), ?_, hb.nodes⟩
    · intro q' hq'
      obtain ⟨q, hq, rfl⟩ := List.mem_map.mp hq'
      have hqb : QueueBooks (s.apps ++ [newApp a]) q :=
        ⟨fun k => by rw [qsum_append_zero _ _ _ _ (by rfl)]; exact (hb.queues q hq).allocated k,
         fun k => by rw [qsum_append_zero _ _ _ _ (by rfl)]; exact (hb.queues q hq).pending k⟩
      split
      · exact ⟨hqb.allocated, hqb.pending⟩
      · exact hqb

theorem rwf_appSub (s : Core) (a : RApp) (hw : RWF s) : RWF (s.appSub a).1 := by
  rcases appSub_cases s a with h | ⟨hok, h⟩
  · rw [h]; exact hw
  · rw [h]
    refine ⟨?_, ?_, hw.nodeRes⟩
    · show (s.apps ++ [newApp a]).Pairwise _
      rw [List.pairwise_append]
      refine ⟨hw.appIds, List.pairwise_singleton _ _, ?_⟩
      intro x hx y hy hxl _
      rw [List.mem_singleton] at hy; subst hy
      exact findApp_none (appAddOK_findApp hok) x hx hxl
    · exact forall_mem_snoc hw.appRes (fun _ => ⟨rfl, rfl, rfl⟩)

theorem rwf_ask (s : Core) (app key : String) (res : Res) (ph : Bool) (tg reqNode : String)
    (hw : RWF s) : RWF (s.ask app key res ph tg reqNode).1 := by
  rcases ask_cases s app key res ph tg reqNode with h | ⟨a, _, h⟩
  · rw [h]; exact hw
  · rw [h]
    refine ⟨pairwise_updApps _ _ _ (fun _ _ => rfl) hw.appIds, ?_, hw.nodeRes⟩
    refine forall_map_if (P := fun a : CApp => a.live = true → wf a.pending = true ∧ wf a.allocated = true ∧ wf a.allocatedPh = true)
      hw.appRes ?_
    intro z _ hz hzl
    obtain ⟨h1, h2, h3⟩ := hz hzl
    exact ⟨prune_wf _ (addX_wf _ _ h1), h2, h3⟩

theorem rwf_foreignAdd (s : Core) (key node : String) (res : Res) (hw : RWF s) : RWF (s.foreignAdd key node res) := by
  rcases foreignAdd_cases s key node res with h | ⟨_, _, h⟩
  · rw [h]; exact hw
  · rw [h]
    refine ⟨hw.appIds, hw.appRes, forall_map_if hw.nodeRes ?_⟩
    intro n _ ⟨h1, h2, h3, h4⟩
    exact ⟨h1, addX_wf _ _ h2, h3, prune_wf _ (subX_wf _ _ h4)⟩

/-! ### recovered allocations: the branch "new allocation already assigned" of UpdateAllocation -/

@[simp] theorem recApp_id (x : RAlloc) (a : CApp) : (recApp x a).id = a.id := rfl
@[simp] theorem recApp_live (x : RAlloc) (a : CApp) : (recApp x a).live = a.live := rfl
@[simp] theorem recApp_pending (x : RAlloc) (a : CApp) : (recApp x a).pending = a.pending := rfl
@[simp] theorem recApp_items (x : RAlloc) (a : CApp) : (recApp x a).items = a.items ++ [recItem x] := rfl
theorem recApp_allocated (x : RAlloc) (a : CApp) :
    (recApp x a).allocated = if x.ph = true then a.allocated else addX a.allocated x.res := rfl
theorem recApp_allocatedPh (x : RAlloc) (a : CApp) :
    (recApp x a).allocatedPh = if x.ph = true then addX a.allocatedPh x.res else a.allocatedPh := rfl

theorem recApp_getD (x : RAlloc) (a : CApp) (hr : wf x.res = true) (k : String) :
    (recApp x a).allocated.getD k = a.allocated.getD k + (if x.ph = true then 0 else x.res.getD k) ∧
    (recApp x a).allocatedPh.getD k = a.allocatedPh.getD k + (if x.ph = true then x.res.getD k else 0) := by
  rw [recApp_allocated, recApp_allocatedPh]
  cases x.ph
  · simp [addX_getD _ _ hr]
  · simp [addX_getD _ _ hr]

theorem appBooks_recApp (x : RAlloc) (a : CApp) (hr : wf x.res = true) (hba : AppBooks a) : AppBooks (recApp x a) := by
  have hg := recApp_getD x a hr
  refine hba.append (recItem x) rfl ?_ ?_ (fun _ => (Int.add_zero _).symm)
  · intro k; rw [(hg k).1]; cases hph : x.ph <;> simp [recItem, hph]
  · intro k; rw [(hg k).2]; cases hph : x.ph <;> simp [recItem, hph]

theorem books_recAlloc (s : Core) (x : RAlloc) (hw : RWF s) (hr : wf x.res = true) (hb : Books s) : Books (s.recAlloc x).1 := by
  rcases recAlloc_cases s x with h | ⟨a, hfind, _, h⟩
  · rw [h]; exact hb
  rw [h]
  obtain ⟨ham, hl, hid⟩ := findApp_some hfind
  have hg := recApp_getD x a hr
  refine books_move s _ x.app a (recApp x) _ _ (fun k => x.res.getD k) (fun _ => 0) ham hl hid hw.appIds hb rfl rfl ?_ rfl hl
    (appBooks_recApp x a hr (hb.apps a ham hl)) (chain_iff s a.queue) (fun _ => rfl) ?_
    (fun q _ _ k => ⟨addX_getD _ _ hr k, (Int.add_zero _).symm⟩)
  · exact books_upd_nodes _ _ (addAllocNode { key := x.key, app := x.app, res := x.res, foreign := false, ph := x.ph }) hb.nodes
      (fun m hm _ hmb => nodeBooks_addAlloc _ m rfl (hw.nodeRes m hm).2.2.2 hr hmb)
  · intro k
    rw [(hg k).1, (hg k).2]
    exact ⟨by cases x.ph <;> simp <;> omega, (Int.add_zero _).symm⟩

theorem rwf_recAlloc (s : Core) (x : RAlloc) (hw : RWF s) : RWF (s.recAlloc x).1 := by
  rcases recAlloc_cases s x with h | ⟨a, _, _, h⟩
  · rw [h]; exact hw
  rw [h]
  refine ⟨pairwise_updApps _ _ _ (fun z _ => recApp_id x z) hw.appIds, ?_, ?_⟩
  · refine forall_map_if (P := fun a : CApp => a.live = true → wf a.pending = true ∧ wf a.allocated = true ∧ wf a.allocatedPh = true)
      hw.appRes ?_
    intro z _ hz hzl
    obtain ⟨h1, h2, h3⟩ := hz hzl
    rw [recApp_pending, recApp_allocated, recApp_allocatedPh]
    refine ⟨h1, ?_, ?_⟩
    · split
      · exact h2
      · exact addX_wf _ _ h2
    · split
      · exact addX_wf _ _ h3
      · exact h3
  · refine forall_map_if hw.nodeRes ?_
    intro n _ ⟨h1, h2, h3, h4⟩
    exact ⟨h1, h2, addX_wf _ _ h3, prune_wf _ (subX_wf _ _ h4)⟩

/-! ### the step, and the induction over the items -/

theorem recNode_fst (s : Core) (id : String) (cap : Res) (b : Bool) : (s.recNode id cap b).1 = s.nodeCreate id cap b := by
  unfold recNode
  split
  · rename_i h; unfold nodeCreate; rw [if_pos h]
  · rfl

theorem recForeign_fst (s : Core) (key node : String) (res : Res) : (s.recForeign key node res).1 = s.foreignAdd key node res := by
  unfold recForeign
  split
  · rename_i h; unfold foreignAdd; rw [if_pos h]
  · split
    · rename_i h; unfold foreignAdd; simp [h]
    · rfl

theorem rstep_inv (s : Core) (it : RItem) (hi : it.wfRes) (hw : RWF s) (hb : Books s) :
    RWF (s.rstep it).1 ∧ Books (s.rstep it).1 := by
  cases it with
  | node id cap sched =>
    simp only [rstep, recNode_fst]; exact ⟨rwf_nodeCreate s id cap sched hi hw, books_nodeCreate s id cap sched hb⟩
  | app a => exact ⟨rwf_appSub s a hw, books_appSub s a hb⟩
  | alloc x => exact ⟨rwf_recAlloc s x hw, books_recAlloc s x hw hi hb⟩
  | foreign key node res =>
    simp only [rstep, recForeign_fst]
    exact ⟨rwf_foreignAdd s key node res hw, books_foreignAdd_of s key node res (fun n hn => (hw.nodeRes n hn).2.2.2) hi hb⟩
  | ask x =>
    simp only [rstep]
    rcases recAsk_refused_or_ask s x with h | h
    · rw [h]; exact ⟨hw, hb⟩
    · rw [h]
      exact ⟨rwf_ask s _ _ _ _ _ _ hw, books_ask_of s _ _ _ _ _ _ hw.appIds (fun a ha hl => (hw.appRes a ha hl).1) hi hb⟩
  | undrain id => exact ⟨rwf_nodeSchedulable s id true hw, books_nodeSchedulable s id true hb⟩

theorem replay_acc_cons (s : Core) (it : RItem) (rest : List RItem) :
    (s.replay (it :: rest)).1 = ((s.rstep it).1.replay rest).1 ∧
    (s.replay (it :: rest)).2 = (if (s.rstep it).2 = true then it :: ((s.rstep it).1.replay rest).2 else ((s.rstep it).1.replay rest).2) :=
  ⟨rfl, rfl⟩

theorem replay_ind {P : Core → List RItem → Prop}
    (step : ∀ s acc it, it.wfRes → P s acc → P (s.rstep it).1 (if (s.rstep it).2 = true then acc ++ [it] else acc))
    (s : Core) (acc items : List RItem) (hi : ∀ it ∈ items, it.wfRes) (h : P s acc) :
    P (s.replay items).1 (acc ++ (s.replay items).2) := by
  induction items generalizing s acc with
  | nil => simpa [replay] using h
  | cons it rest ih =>
    have := ih (s.rstep it).1 _ (fun x hx => hi x (List.mem_cons_of_mem _ hx)) (step s acc it (hi it List.mem_cons_self) h)
    obtain ⟨e1, e2⟩ := replay_acc_cons s it rest
    rw [e1, e2]
    cases hacc : (s.rstep it).2 with
    | false => simpa [hacc] using this
    | true => simpa [hacc] using this

theorem replay_acc_sub (s : Core) (items : List RItem) : ∀ it ∈ (s.replay items).2, it ∈ items := by
  induction items generalizing s with
  | nil => intro it h; cases h
  | cons x rest ih =>
    intro it h
    rw [(replay_acc_cons s x rest).2] at h
    split at h
    · rcases List.mem_cons.mp h with h | h
      · rw [h]; exact List.mem_cons_self
      · exact List.mem_cons_of_mem _ (ih _ it h)
    · exact List.mem_cons_of_mem _ (ih _ it h)

/-! ### a list of keyed objects mirrors the accepted items -/

theorem filterMap_snoc {α β : Type} (l : List α) (x : α) (f : α → Option β) :
    (l ++ [x]).filterMap f = l.filterMap f ++ (f x).toList := by
  rw [List.filterMap_append]; cases h : f x <;> simp [h]

/-- `g id it` is the entry the object with key `id` stores for the accepted item `it`, if any.  Every object of `l` holds
    (`proj`) exactly the entries of the accepted items for its key, in order, and no accepted item has an entry for a key
    that is not registered.  Every accepted item only appends, so this is kept. -/
structure Mirror {α β : Type} (key : α → String) (proj : α → List β) (g : String → RItem → Option β)
    (l : List α) (acc : List RItem) : Prop where
  holds : ∀ a ∈ l, proj a = acc.filterMap (g (key a))
  known : ∀ id, (∀ a ∈ l, key a ≠ id) → acc.filterMap (g id) = []

section Mirror
variable {α β : Type} {key : α → String} {proj : α → List β} {g : String → RItem → Option β} {l : List α} {acc : List RItem}

theorem Mirror.item (h : Mirror key proj g l acc) (it : RItem) (hg : ∀ id, g id it = none) :
    Mirror key proj g l (acc ++ [it]) := by
  have hacc : ∀ id, (acc ++ [it]).filterMap (g id) = acc.filterMap (g id) := fun id => by
    rw [filterMap_snoc, hg]; exact List.append_nil _
  exact ⟨fun a ha => (h.holds a ha).trans (hacc _).symm, fun id hid => (hacc id).trans (h.known id hid)⟩

/-- `d` selects the object with key `id0`, `f` appends the entry `e` in place; the object is registered, or there is no
    entry at all -/
theorem Mirror.upd (h : Mirror key proj g l acc) (it : RItem) (id0 : String) (e : Option β) (d : α → Bool) (f : α → α)
    (hg : ∀ id, g id it = if id0 = id then e else none)
    (hd : ∀ a ∈ l, (d a = true ↔ key a = id0)) (hk : ∀ a, key (f a) = key a) (hp : ∀ a, proj (f a) = proj a ++ e.toList)
    (hn : e = none ∨ ∃ a ∈ l, key a = id0) :
    Mirror key proj g (l.map (fun a => if d a = true then f a else a)) (acc ++ [it]) := by
  have hkey := key_ite (d := d) key hk
  constructor
  · intro y hy
    obtain ⟨a, ha, rfl⟩ := List.mem_map.mp hy
    rw [hkey, filterMap_snoc, ← h.holds a ha, hg]
    by_cases hda : d a = true
    · rw [if_pos hda, if_pos ((hd a ha).mp hda).symm]; exact hp a
    · rw [if_neg hda, if_neg (fun hka => hda ((hd a ha).mpr hka.symm))]; exact (List.append_nil _).symm
  · intro id hid
    have hid' : ∀ a ∈ l, key a ≠ id := fun a ha hka => hid _ (List.mem_map.mpr ⟨a, ha, rfl⟩) ((hkey a).trans hka)
    rw [filterMap_snoc, h.known id hid', hg]
    rcases hn with rfl | ⟨a, ha, hka⟩
    · rw [ite_self]; rfl
    · rw [if_neg (fun hi => hid' a ha (hka.trans hi))]; rfl

theorem Mirror.snoc (h : Mirror key proj g l acc) (it : RItem) (x : α) (hg : ∀ id, g id it = none)
    (hx : proj x = []) (hnew : ∀ a ∈ l, key a ≠ key x) : Mirror key proj g (l ++ [x]) (acc ++ [it]) := by
  have h' := h.item it hg
  constructor
  · intro a ha
    rcases List.mem_append.mp ha with ha | ha
    · exact h'.holds a ha
    · rw [List.mem_singleton.mp ha, hx, h'.known _ hnew]
  · exact fun id hid => h'.known id (fun a ha => hid a (List.mem_append_left _ ha))

end Mirror

/-! ### the lists of the state are the accepted items -/

/-- the entry of application.requests / allocations that application `id` stores for an accepted item -/
def itemFor (id : String) : RItem → Option CItem
  | .alloc x => if x.app = id then some (recItem x) else none
  | .ask x => if x.app = id then some (newAsk x.key x.res x.ph x.tg x.reqNode) else none
  | _ => none

/-- the entry of node.allocations that node `id` stores for an accepted item -/
def allocFor (id : String) : RItem → Option CNodeAlloc
  | .alloc x => if x.node = id then some { key := x.key, app := x.app, res := x.res, foreign := false, ph := x.ph } else none
  | .foreign key node res => if node = id then some { key := key, app := "", res := res, foreign := true, ph := false } else none
  | _ => none

theorem appsOf_append (a b : List RItem) : appsOf (a ++ b) = appsOf a ++ appsOf b := List.filterMap_append

def appSig (a : CApp) : String × String := (a.id, a.queue)
def rappSig (a : RApp) : String × String := (a.id, a.queue)

theorem map_sig_upd (l : List CApp) (d : CApp → Bool) (f : CApp → CApp) (hf : ∀ a, appSig (f a) = appSig a) :
    (l.map (fun a => if d a = true then f a else a)).map appSig = l.map appSig := by
  rw [List.map_map]
  apply List.map_congr_left
  intro a _
  show appSig (if _ then _ else _) = _
  split
  · exact hf a
  · rfl

/-- the rebuilt state holds exactly the accepted items: the item list of every application and the allocation list of
    every node are the accepted items that name it, and the applications are the accepted submissions, in order -/
structure Holds (s : Core) (acc : List RItem) : Prop where
  live : ∀ a ∈ s.apps, a.live = true
  items : Mirror CApp.id CApp.items itemFor s.apps acc
  allocs : Mirror CNode.id CNode.allocs allocFor s.nodes acc
  /-- `NodeBooks` says nothing about `occupied` -/
  occ : ∀ n ∈ s.nodes, ∀ k, n.occupied.getD k = sumIf n.allocs (·.foreign) (fun x => x.res.getD k)
  sig : s.apps.map appSig = (appsOf acc).map rappSig

theorem Holds.sig_item {s : Core} {acc : List RItem} (ht : Holds s acc) {it : RItem} (h : appsOf [it] = []) :
    s.apps.map appSig = (appsOf (acc ++ [it])).map rappSig := by
  rw [appsOf_append, h, List.append_nil]; exact ht.sig

theorem step_of_cases {P : Core → List RItem → Prop} {s : Core} {acc : List RItem} {r : Core × Bool} {it : RItem} (ht : P s acc)
    (h : r = (s, false) ∨ (r.2 = true ∧ P r.1 (acc ++ [it]))) : P r.1 (if r.2 = true then acc ++ [it] else acc) := by
  rcases h with h | ⟨h1, h2⟩
  · subst h; simpa using ht
  · rw [h1]; simpa using h2

theorem holds_rstep (s : Core) (acc : List RItem) (it : RItem) (hi : it.wfRes) (ht : Holds s acc) :
    Holds (s.rstep it).1 (if (s.rstep it).2 = true then acc ++ [it] else acc) := by
  cases it with
  | node id cap b =>
    simp only [rstep]
    refine step_of_cases ht ((recNode_cases s id cap b).imp_right fun ⟨hf, h⟩ => ?_)
    rw [h]
    exact ⟨rfl, ht.live, ht.items.item _ (fun _ => rfl), ht.allocs.snoc _ (freshNode id cap b) (fun _ => rfl) rfl (findNode_none hf),
      forall_mem_snoc ht.occ (fun _ => rfl), ht.sig_item rfl⟩
  | app a =>
    simp only [rstep]
    refine step_of_cases ht ((appSub_cases s a).imp_right fun ⟨hok, h⟩ => ?_)
    rw [h]
    refine ⟨rfl, forall_mem_snoc ht.live rfl,
      ht.items.snoc _ (newApp a) (fun _ => rfl) rfl (fun x hx => findApp_none (appAddOK_findApp hok) x hx (ht.live x hx)),
      ht.allocs.item _ (fun _ => rfl), ht.occ, ?_⟩
    show (s.apps ++ [newApp a]).map appSig = _
    rw [List.map_append, appsOf_append, List.map_append, ht.sig]; rfl
  | alloc x =>
    simp only [rstep]
    refine step_of_cases ht ((recAlloc_cases s x).imp_right fun ⟨a, hfind, hok, h⟩ => ?_)
    obtain ⟨ham, _, hid⟩ := findApp_some hfind
    rw [h]
    refine ⟨rfl, forall_map_if ht.live (fun _ _ hz => hz), ?_, ?_, ?_,
      (map_sig_upd s.apps _ (recApp x) (fun _ => rfl)).trans (ht.sig_item (it := .alloc x) rfl)⟩
    · exact ht.items.upd (.alloc x) x.app (some (recItem x)) _ (recApp x) (fun _ => rfl) (fun z hz => by simp [ht.live z hz])
        (fun _ => rfl) (fun _ => rfl) (Or.inr ⟨a, ham, hid⟩)
    · exact ht.allocs.upd (.alloc x) x.node (some _) _ (addAllocNode _) (fun _ => rfl) (fun _ _ => by simp) (fun _ => rfl)
        (fun _ => rfl) (Or.inr (recAllocOK_node hok))
    · refine forall_map_if ht.occ (fun n _ hn k => ?_)
      show n.occupied.getD k = sumIf (n.allocs ++ [_]) _ _
      rw [sumIf_append, sumIf_single, ← hn k]; simp
  | foreign key node res =>
    have hr : wf res = true := hi
    simp only [rstep]
    refine step_of_cases ht ((recForeign_cases s key node res).imp_right fun ⟨hn, _, h⟩ => ?_)
    rw [h]
    refine ⟨rfl, ht.live, ht.items.item _ (fun _ => rfl), ?_, ?_, ht.sig_item rfl⟩
    · exact ht.allocs.upd (.foreign key node res) node (some _) _ (addForeignNode key res) (fun _ => rfl) (fun _ _ => by simp)
        (fun _ => rfl) (fun _ => rfl) (Or.inr (findNode_isSome_iff.mp hn))
    · refine forall_map_if ht.occ (fun n _ hn k => ?_)
      show (addX n.occupied res).getD k = sumIf (n.allocs ++ [_]) _ _
      rw [sumIf_append, sumIf_single, ← hn k, addX_getD _ _ hr]; simp
  | ask x =>
    simp only [rstep]
    refine step_of_cases ht ((recAsk_cases s x).imp_right fun ⟨a, hfind, h⟩ => ?_)
    obtain ⟨ham, _, hid⟩ := findApp_some hfind
    rw [h]
    exact ⟨rfl, forall_map_if ht.live (fun _ _ hz => hz),
      ht.items.upd (.ask x) x.app (some _) _ (askedApp a x.key x.res x.ph x.tg x.reqNode) (fun _ => rfl)
        (fun z hz => by simp [ht.live z hz]) (fun _ => rfl) (fun _ => rfl) (Or.inr ⟨a, ham, hid⟩),
      ht.allocs.item _ (fun _ => rfl), ht.occ,
      (map_sig_upd s.apps _ (askedApp a x.key x.res x.ph x.tg x.reqNode) (fun _ => rfl)).trans (ht.sig_item (it := .ask x) rfl)⟩
  | undrain id =>
    refine step_of_cases ht (Or.inr ⟨rfl, ht.live, ht.items.item _ (fun _ => rfl), ?_, forall_map_if ht.occ (fun _ _ h => h),
      ht.sig_item rfl⟩)
    exact ht.allocs.upd (.undrain id) id none (fun n => n.id == id) (fun n => { n with schedulable := true })
      (fun _ => (ite_self none).symm) (fun _ _ => by simp) (fun _ => rfl) (fun _ => (List.append_nil _).symm) (Or.inl rfl)

/-! ### the totals: `Books` read through `Holds` -/

/-- Σ res[k] over the accepted real / placeholder allocations of application `id` -/
def SAr (acc : List RItem) (id : String) (k : String) : Int :=
  sumIf (allocsOf acc) (fun x => x.app == id && !x.ph) (fun x => x.res.getD k)
def SAp (acc : List RItem) (id : String) (k : String) : Int :=
  sumIf (allocsOf acc) (fun x => x.app == id && x.ph) (fun x => x.res.getD k)
/-- … over its accepted asks -/
def SQ (acc : List RItem) (id : String) (k : String) : Int :=
  sumIf (asksOf acc) (fun x => x.app == id) (fun x => x.res.getD k)
/-- … over the accepted allocations / foreign allocations on node `id` -/
def SN (acc : List RItem) (id : String) (k : String) : Int :=
  sumIf (allocsOf acc) (fun x => x.node == id) (fun x => x.res.getD k)
def SO (acc : List RItem) (id : String) (k : String) : Int :=
  sumIf (foreignOf acc) (fun f => f.2.1 == id) (fun f => f.2.2.getD k)

theorem sumIf_filterMap {α β : Type} (l : List α) (f : α → Option β) (c : β → Bool) (w : β → Int) :
    sumIf (l.filterMap f) c w = (l.map (fun x => sumIf (f x).toList c w)).sum := by
  induction l with
  | nil => rfl
  | cons a t ih =>
    rw [List.filterMap_cons, List.map_cons, List.sum_cons, ← ih]
    cases f a with
    | none => simp
    | some y => simp [sumIf_cons]

theorem sumIf_filterMap_congr {α β γ : Type} (l : List α) (f : α → Option β) (c : β → Bool) (w : β → Int)
    (f' : α → Option γ) (c' : γ → Bool) (w' : γ → Int) (h : ∀ x ∈ l, sumIf (f x).toList c w = sumIf (f' x).toList c' w') :
    sumIf (l.filterMap f) c w = sumIf (l.filterMap f') c' w' := by
  rw [sumIf_filterMap, sumIf_filterMap]; exact congrArg List.sum (List.map_congr_left h)

theorem sums_itemFor (acc : List RItem) (id k : String) :
    itemSum (acc.filterMap (itemFor id)) (fun i => i.bound && !i.ph) k = SAr acc id k ∧
    itemSum (acc.filterMap (itemFor id)) (fun i => i.bound && i.ph) k = SAp acc id k ∧
    itemSum (acc.filterMap (itemFor id)) (fun i => i.inReq && !i.allocated) k = SQ acc id k := by
  refine ⟨sumIf_filterMap_congr _ _ _ _ _ _ _ ?_, sumIf_filterMap_congr _ _ _ _ _ _ _ ?_, sumIf_filterMap_congr _ _ _ _ _ _ _ ?_⟩ <;>
  · intro it _
    cases it with
    | alloc x => by_cases h : x.app = id <;> simp [itemFor, recItem, sumIf_single, h]
    | ask x => by_cases h : x.app = id <;> simp [itemFor, newAsk, sumIf_single, h]
    | _ => rfl

theorem sums_allocFor (acc : List RItem) (id k : String) :
    allocSum (acc.filterMap (allocFor id)) k = SN acc id k ∧
    sumIf (acc.filterMap (allocFor id)) (·.foreign) (fun x => x.res.getD k) = SO acc id k := by
  refine ⟨sumIf_filterMap_congr _ _ _ _ _ _ _ ?_, sumIf_filterMap_congr _ _ _ _ _ _ _ ?_⟩ <;>
  · intro it _
    cases it with
    | alloc x => by_cases h : x.node = id <;> simp [allocFor, sumIf_single, h]
    | foreign key node res => by_cases h : node = id <;> simp [allocFor, sumIf_single, h]
    | _ => rfl

structure Rebuilt (s : Core) (acc : List RItem) : Prop where
  rwf : RWF s
  books : Books s
  holds : Holds s acc

/-- the totals of the rebuilt state are the totals recomputed from the accepted items -/
theorem Rebuilt.app_totals {s : Core} {acc : List RItem} (h : Rebuilt s acc) (a : CApp) (ha : a ∈ s.apps) (k : String) :
    a.allocated.getD k = SAr acc a.id k ∧ a.allocatedPh.getD k = SAp acc a.id k ∧ a.pending.getD k = SQ acc a.id k := by
  have hba := h.books.apps a ha (h.holds.live a ha)
  rw [hba.allocated k, hba.allocatedPh k, hba.pending k, h.holds.items.holds a ha]
  exact sums_itemFor acc a.id k

theorem Rebuilt.node_totals {s : Core} {acc : List RItem} (h : Rebuilt s acc) (n : CNode) (hn : n ∈ s.nodes) (k : String) :
    n.allocated.getD k = SN acc n.id k ∧ n.occupied.getD k = SO acc n.id k := by
  rw [(h.books.nodes n hn).allocated k, h.holds.occ n hn k, h.holds.allocs.holds n hn]
  exact sums_allocFor acc n.id k

theorem replay_rebuilt (s : Core) (acc items : List RItem) (hi : ∀ it ∈ items, it.wfRes) (h : Rebuilt s acc) :
    Rebuilt (s.replay items).1 (acc ++ (s.replay items).2) :=
  replay_ind (fun s acc it hi h => ⟨(rstep_inv s it hi h.rwf h.books).1, (rstep_inv s it hi h.rwf h.books).2,
    holds_rstep s acc it hi h.holds⟩) s acc items hi h

theorem rwf_fresh (queues : List CQueue) : RWF (Core.fresh queues) :=
  ⟨List.Pairwise.nil, (fun _ h => nomatch h), (fun _ h => nomatch h)⟩

theorem books_fresh (queues : List CQueue) : Books (Core.fresh queues) := by
  refine ⟨(fun _ h => nomatch h), ?_, (fun _ h => nomatch h)⟩
  intro q' hq'
  obtain ⟨q, _, rfl⟩ := List.mem_map.mp hq'
  exact ⟨fun _ => rfl, fun _ => rfl⟩

theorem holds_fresh (qs : List CQueue) : Holds (Core.fresh qs) [] :=
  ⟨(fun _ h => nomatch h), ⟨(fun _ h => nomatch h), fun _ _ => rfl⟩, ⟨(fun _ h => nomatch h), fun _ _ => rfl⟩,
    (fun _ h => nomatch h), rfl⟩

theorem replay_fresh (qs : List CQueue) (items : List RItem) (hi : ∀ it ∈ items, it.wfRes) :
    Rebuilt ((Core.fresh qs).replay items).1 ((Core.fresh qs).replay items).2 := by
  simpa using replay_rebuilt (Core.fresh qs) [] items hi ⟨rwf_fresh qs, books_fresh qs, holds_fresh qs⟩

theorem wfRes_filterMap {β : Type} {f : RItem → Option β} {r : β → Res}
    (hf : ∀ it x, f it = some x → it.wfRes → wf (r x) = true) {acc : List RItem} (h : ∀ it ∈ acc, it.wfRes) :
    ∀ x ∈ acc.filterMap f, wf (r x) = true := by
  intro x hx
  obtain ⟨it, hit, he⟩ := List.mem_filterMap.mp hx
  exact hf it x he (h it hit)

/-- the recomputed totals (vectors, YkModel/Recover.lean) are the pointwise sums -/
theorem tot_getD (acc : List RItem) (h : ∀ it ∈ acc, it.wfRes) (id k : String) :
    (totAppAllocated acc id).getD k = SAr acc id k ∧ (totAppPlaceholder acc id).getD k = SAp acc id k ∧
    (totAppPending acc id).getD k = SQ acc id k ∧ (totNodeAllocated acc id).getD k = SN acc id k ∧
    (totNodeOccupied acc id).getD k = SO acc id k := by
  have ha : ∀ x ∈ allocsOf acc, wf x.res = true :=
    wfRes_filterMap (fun it x he hi => by cases it <;> simp at he; subst he; exact hi) h
  have hq : ∀ x ∈ asksOf acc, wf x.res = true :=
    wfRes_filterMap (fun it x he hi => by cases it <;> simp at he; subst he; exact hi) h
  have hf : ∀ f ∈ foreignOf acc, wf f.2.2 = true :=
    wfRes_filterMap (fun it x he hi => by cases it <;> simp at he; subst he; exact hi) h
  exact ⟨sumRes_filter_getD _ _ _ ha k, sumRes_filter_getD _ _ _ ha k, sumRes_filter_getD _ _ _ hq k,
    sumRes_filter_getD _ _ _ ha k, sumRes_filter_getD _ _ _ hf k⟩

theorem sums_perm {items items' : List RItem} (h : items.Perm items') (id k : String) :
    SAr items id k = SAr items' id k ∧ SAp items id k = SAp items' id k ∧ SQ items id k = SQ items' id k ∧
    SN items id k = SN items' id k ∧ SO items id k = SO items' id k := by
  unfold SAr SAp SQ SN SO allocsOf asksOf foreignOf
  exact ⟨perm_sumIf (h.filterMap _) _ _, perm_sumIf (h.filterMap _) _ _, perm_sumIf (h.filterMap _) _ _,
         perm_sumIf (h.filterMap _) _ _, perm_sumIf (h.filterMap _) _ _⟩

end Yk
