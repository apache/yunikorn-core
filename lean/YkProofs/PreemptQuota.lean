/- Quota-change preemption (YkModel/Preempt.lean): the selection loop and when preemption is due. -/
import YkProofs.PreemptRes
namespace Yk
namespace Pre
open Res

/-! ### quota change preemption: the selection loop -/

def withinPlan (plan total : Res) : Prop := ∀ p ∈ plan, ∀ v, total.get? p.1 = some v → v ≤ p.2

theorem strictlyOnlyExisting_le {plan total : Res} (h : strictlyOnlyExisting (some plan) (some total) true = true) :
    withinPlan plan total := by
  -- only the first test of internalStrictlyOnlyExisting matters: no type of `total` exceeds the plan
  have hany : ¬ (plan.any fun p => match total.get? p.1 with | some v => decide (v > p.2) | none => false) = true := by
    revert h
    -- case1 is the first branch of `strictlyOnlyExisting` (that test succeeds, the answer is `false`); a new branch there renumbers them
    fun_cases strictlyOnlyExisting (some plan) (some total) true
    case case1 => exact fun h => nomatch h
    all_goals exact fun _ => by assumption
  intro p hp v hv
  have := fun hc => hany (List.any_eq_true.mpr ⟨p, hp, hc⟩)
  rw [hv] at this
  exact Int.not_lt.mp fun hlt => this (decide_eq_true hlt)

/-- holds for EVERY order of the candidates (the order is float valued in the code) -/
theorem quotaSelect_spec (plan : Res) (cands : List PAlloc) :
    withinPlan plan (quotaSelect plan cands).2 ∧
    (quotaSelect plan cands).2 = sumRes ((quotaSelect plan cands).1.map (·.res)) ∧
    (∀ v ∈ (quotaSelect plan cands).1, v ∈ cands ∧ fitInMaxUndef (some plan) (some v.res) = true) := by
  unfold quotaSelect
  refine List.foldlRecOn (motive := fun st : List PAlloc × Res => withinPlan plan st.2 ∧ st.2 = sumRes (st.1.map (·.res)) ∧
      ∀ v ∈ st.1, v ∈ cands ∧ fitInMaxUndef (some plan) (some v.res) = true) _ _
    ⟨fun p _ v hv => by simp at hv, rfl, fun _ h => nomatch h⟩ fun st ⟨h1, h2, h3⟩ a ha => ?_
  split
  · exact ⟨h1, h2, h3⟩
  · rename_i hfit
    simp only
    split
    · rename_i hsoe
      refine ⟨strictlyOnlyExisting_le hsoe, ?_, forall_mem_snoc h3 ⟨ha, by simpa using hfit⟩⟩
      rw [List.map_append, List.map_singleton, sumRes_append_one, ← h2]
    · exact ⟨h1, h2, h3⟩

theorem quotaFilter_true {plan : Res} {leaf : Nat} {a : PAlloc} (h : quotaFilter plan leaf a = true) :
    a.q = leaf ∧ matchAny (some plan) (some a.res) false = true ∧ a.req = false ∧ a.released = false ∧ a.preempted = false := by
  simpa [quotaFilter, and_assoc] using h

/-- usage of queue i as setPreemptableResources sees it: allocated minus preempting -/
def quotaUsed (w : World) (i : Nat) : Res := (subOE (some (allocatedOf w i)) (some (preemptingOf w i))).getD []

/-! ### quota change preemption is never due before (first lowering still in force) + (delay in force) -/

theorem timingOK_iff (s : QuotaT) : timingOK s = true ↔
    (s.start = none ∧ s.base = none) ∨ (∃ t b, s.start = some t ∧ s.base = some b ∧ t = b + s.delay) := by
  unfold timingOK
  cases hs : s.start <;> cases hb : s.base <;> simp

theorem timingOK_some {mx : ORes} {d t b : Int} (h : t = b + d) :
    timingOK { max := mx, delay := d, start := some t, base := some b } = true := by
  simpa [timingOK] using h

theorem timingOK_ite {c : Prop} [Decidable c] {a b : QuotaT} (ha : c → timingOK a = true) (hb : ¬c → timingOK b = true) :
    timingOK (if c then a else b) = true := by
  split
  · exact ha ‹_›
  · exact hb ‹_›

theorem setPreemptionTime_keeps (alloc : Res) (s : QuotaT) (m : ORes) (d now : Int) (h : timingOK s = true)
    (hc : goodStep s (.conf m d) = true) : timingOK (setPreemptionTime alloc s m d now) = true := by
  obtain ⟨mx, dl, start, base⟩ := s
  unfold setPreemptionTime
  -- three guards clear the schedule
  refine timingOK_ite (fun _ => rfl) fun _ => timingOK_ite (fun _ => rfl) fun _ => timingOK_ite (fun _ => rfl) fun _ => ?_
  cases start with
  | none =>
    -- nothing pending: it stays so, or the fresh start is now + delay, based now
    cases base with
    | some b => cases h
    | none =>
      exact timingOK_ite (fun _ => timingOK_ite (fun _ => timingOK_some rfl) fun _ => rfl) fun _ =>
        timingOK_ite (fun _ => timingOK_some rfl) fun _ => timingOK_ite (fun _ => rfl) fun _ => rfl
  | some t =>
    cases base with
    | none => cases h
    | some b =>
      have ht : t = b + dl := by simpa [timingOK] using h
      -- a pending start moves by the change of the delay
      have hshift : timingOK (if (dl != d) = true then
          { max := m, delay := d, start := (some t).map (· + (d - dl)), base := some b }
          else { max := m, delay := d, start := some t, base := some b }) = true :=
        timingOK_ite (fun _ => timingOK_some (show t + (d - dl) = b + d by omega)) fun hd =>
          timingOK_some (by simp only [bne_iff_ne, ne_eq, Decidable.not_not] at hd; omega)
      refine timingOK_ite (fun _ => hshift) fun he => timingOK_ite (fun _ => hshift) fun hl =>
        timingOK_ite (fun _ => hshift) fun hg => ?_
      -- incomparable change of the maximum: only allowed with an unchanged delay
      simp only [goodStep, comparableMax, Bool.or_eq_true, Option.isNone_iff_eq_none, beq_iff_eq] at hc
      rcases hc with (hc | (hc | hc) | hc) | hc
      · cases hc
      · exact absurd hc he
      · exact absurd hc hl
      · exact absurd hc hg
      · exact timingOK_some (hc ▸ ht)

theorem tryAcquire_keeps (managed : Bool) (alloc : Res) (s : QuotaT) (now : Int) (h : timingOK s = true) :
    timingOK (tryAcquire managed alloc s now).1 = true := by
  -- case2 and case5 are the two branches of `tryAcquire` (in the order of its text) that clear the timer; a new branch there renumbers them
  fun_cases tryAcquire managed alloc s now
  case case2 | case5 => rfl
  all_goals exact h

theorem quotaStep_keeps (managed : Bool) (alloc : Res) (st : QuotaT × Int) (step : QuotaStep) (h : timingOK st.1 = true)
    (hg : goodStep st.1 step = true) : timingOK (quotaStep managed alloc st step).1.1 = true := by
  cases step with
  | conf m d => exact setPreemptionTime_keeps alloc st.1 m d st.2 h hg
  | advance d => exact h
  | «try» => exact tryAcquire_keeps managed alloc st.1 st.2 h

theorem runQuota_keeps (managed : Bool) (alloc : Res) : ∀ (steps : List QuotaStep) (st : QuotaT × Int),
    timingOK st.1 = true → goodHist managed alloc st steps = true → timingOK (runQuota managed alloc st steps).1 = true := by
  intro steps
  induction steps with
  | nil => intro st h _; exact h
  | cons s t ih =>
    intro st h hg
    simp only [goodHist, Bool.and_eq_true] at hg
    unfold runQuota
    rw [List.foldl_cons]
    exact ih _ (quotaStep_keeps managed alloc st s h hg.1) hg.2

end Pre
end Yk
