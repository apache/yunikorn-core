/-
  C18 — Resource arithmetic and quantity parsing are exact or saturate, never wrap.
  Property theorems only; the proofs about `parseQ` are in YkProofs/Quantity.lean.  The calculators `goAddVal … goMulValRatio` are
  REGENERATED from pkg/common/resources/resources.go on every run (extract T1), so these statements are
  re-checked against what the code says now.
-/
import YkProofs.Res
import YkProofs.Quantity
import YkModel.Generated.Consts
namespace Yk.C18
open Yk Yk.Res

/-- addVal: exact or clamped to the int64 range, for all int64 inputs. -/
theorem addVal_exact_or_saturates (a b : Int) (ha : inR a) (hb : inR b) :
    goAddVal a b = clamp (a + b) := goAddVal_spec ha hb

/-- subVal: exact or clamped, including b = MinInt64 (the case the code got wrong before the fix). -/
theorem subVal_exact_or_saturates (a b : Int) (ha : inR a) (hb : inR b) :
    goSubVal a b = clamp (a - b) := goSubVal_spec ha hb

/-- mulVal: exact or clamped, including MinInt64 * -1. -/
theorem mulVal_exact_or_saturates (a b : Int) (ha : inR a) (hb : inR b) :
    goMulVal a b = clamp (a * b) := goMulVal_spec ha hb

/-- mulValRatio: with `p` the truncation of the float64 product (the IEEE product itself is trusted),
    the result is `p` clamped; a zero value or ratio gives 0. -/
theorem mulValRatio_exact_or_saturates (v p : Int) (rz : Bool) :
    goMulValRatio v rz p = if v = 0 ∨ rz = true then 0 else clamp p := by
  unfold goMulValRatio clamp conv64 minI maxI
  simp only [decide_eq_true_eq, Bool.or_eq_true]
  split
  · rfl
  · omega

/-- the calculators never leave the int64 range (closure: layers compose) -/
theorem calculators_closed (a b : Int) (ha : inR a) (hb : inR b) (p : Int) (rz : Bool) :
    inR (goAddVal a b) ∧ inR (goSubVal a b) ∧ inR (goMulVal a b) ∧ inR (goMulValRatio a rz p) :=
  ⟨goAddVal_spec ha hb ▸ clamp_inR _, goSubVal_inR a b, goMulVal_spec ha hb ▸ clamp_inR _, by
    rw [mulValRatio_exact_or_saturates]; split
    · decide
    · exact clamp_inR _⟩

/-- Add behaves like the sparse integer vector sum, saturating per type; the result defines exactly
    the union of the types. -/
theorem add_pointwise (l r : Res) (hw : wf r = true) (hl : allInR l) (hr : allInR r) (k : String) :
    (add (some l) (some r)).getD k = clamp (l.getD k + r.getD k) ∧
    (add (some l) (some r)).has k = (l.has k || r.has k) := by
  refine ⟨?_, add_has l r k⟩
  rw [add_getD l r hw k]
  by_cases h : has r k = true
  · rw [if_pos h]; exact goAddVal_spec (getD_inR hl k) (getD_inR hr k)
  · rw [if_neg h, getD_of_not_has (r := r) (Bool.not_eq_true _ ▸ h), Int.add_zero, clamp_of_inR (getD_inR hl k)]

theorem sub_pointwise (l r : Res) (hw : wf r = true) (hl : allInR l) (hr : allInR r) (k : String) :
    (sub (some l) (some r)).getD k = clamp (l.getD k - r.getD k) ∧
    (sub (some l) (some r)).has k = (l.has k || r.has k) := by
  refine ⟨?_, sub_has l r k⟩
  rw [sub_getD l r hw k]
  by_cases h : has r k = true
  · rw [if_pos h]; exact goSubVal_spec (getD_inR hl k) (getD_inR hr k)
  · rw [if_neg h, getD_of_not_has (r := r) (Bool.not_eq_true _ ▸ h), Int.sub_zero, clamp_of_inR (getD_inR hl k)]

/-- nil operands: Add/Sub treat nil as the empty vector and return a fresh vector -/
theorem add_sub_nil (l : ORes) : add l none = orZero l ∧ sub l none = orZero l ∧
    add none (some []) = [] ∧ sub none (some []) = [] := by
  refine ⟨rfl, rfl, rfl, rfl⟩

/-- The three fit predicates agree with their documented component-wise meaning: every type of `smaller`
    is ≤ the receiver's value (negative receiver values count as 0 unless `actual`); a type the receiver
    does not define is 0 (`FitIn`) or unlimited (`FitInMaxUndef`, `FitInActual`). nil receiver = empty;
    nil `smaller` always fits. -/
theorem fitIn_iff (r s : ORes) (skipUndef actual : Bool) :
    fitIn r s skipUndef actual = specFitIn r s skipUndef actual := by
  cases s with
  | none => rfl
  | some s =>
    rw [Bool.eq_iff_iff, fitIn_some]; unfold specFitIn
    simp only [List.all_eq_true, Bool.or_eq_true, Bool.and_eq_true, Bool.not_eq_true', decide_eq_true_eq]

/-- readable form of the previous theorem for a non-nil `smaller` -/
theorem fitIn_forall (r : ORes) (s : Res) (skipUndef actual : Bool) :
    fitIn r (some s) skipUndef actual = true ↔
      ∀ p ∈ s, (skipUndef = true ∧ (orZero r).has p.1 = false) ∨
        p.2 ≤ (if actual then (orZero r).getD p.1 else max 0 ((orZero r).getD p.1)) :=
  fitIn_some r s skipUndef actual

/-- Multiply by an integer: pointwise saturating product on exactly the base's types -/
theorem multiply_pointwise (b : Res) (ratio : Int) (hr : inR ratio) (hb : allInR b) (h0 : ratio ≠ 0) :
    multiply (some b) ratio = b.map (fun p => (p.1, clamp (p.2 * ratio))) := by
  unfold multiply
  have : (ratio == 0) = false := by simp [h0]
  simp only [this, Bool.false_eq_true, if_false]
  apply List.map_congr_left
  intro p hp
  rw [goMulVal_spec (hb p hp) hr]

/-- the multiplier in force is the table entry (×1000 for milli-units unless the suffix is `m`), and positive -/
theorem scaleOf_spec (sfx : String) (milli : Bool) (sc : Int) (h : scaleOf sfx milli = some sc) :
    ∃ base, multipliers.lookup sfx = some base ∧ ¬ (sfx = "m" ∧ milli = false) ∧
      sc = base * (if milli = true ∧ sfx ≠ "m" then 1000 else 1) ∧ 0 < sc :=
  Yk.scaleOf_spec sfx milli sc h

/-- Quantity parsing: a well-formed string whose exact value number × multiplier fits in an int64 is accepted with
    that value; one whose exact value does not fit is rejected (overflow), never returned wrapped. -/
theorem parse_complete (s : String) (milli : Bool) (ds suf : List Char) (sc : Int)
    (hm : matchLegal (trimSpace s.toList) = some (ds, suf))
    (hs : scaleOf (String.ofList suf) milli = some sc) :
    parseQ s milli = if (digitsVal ds : Int) * sc ≤ maxI then .ok ((digitsVal ds : Int) * sc) else .error .overflow :=
  parseQ_complete s milli ds suf sc hm hs

/-- … and conversely a successful parse returns exactly number × multiplier, and that value is a
    non-negative int64: never truncated, never wrapped. -/
theorem parse_exact (s : String) (milli : Bool) (v : Int) (h : parseQ s milli = .ok v) :
    ∃ ds suf sc, matchLegal (trimSpace s.toList) = some (ds, suf) ∧
      scaleOf (String.ofList suf) milli = some sc ∧
      v = (digitsVal ds : Int) * sc ∧ 0 ≤ v ∧ inR v :=
  parseQ_exact s milli v h

/-- tie (T5, regenerated): the multiplier table and the regular expression of the source are the ones modelled -/
theorem consts_tie :
    (∀ p ∈ Gen.multipliers, p ∈ multipliers) ∧ (∀ p ∈ multipliers, p ∈ Gen.multipliers) ∧
    Gen.multipliers.length = multipliers.length ∧
    Gen.quantityLegalRe = "^(?P<Number>[0-9]+)\\s*(?P<Suffix>([mkKMGTPE]i?)?)$" := by decide +kernel

/-- non-vacuity: the hypotheses above are met by concrete inputs (and the extremes are handled) -/
example : parseQ " 8Ei" false = .error .overflow ∧ parseQ "7 Ei " false = .ok 8070450532247928832 ∧
    parseQ "500m" true = .ok 500 ∧ parseQ "10" true = .ok 10000 ∧ parseQ "9223372036854775807" false = .ok maxI ∧
    parseQ "9223372036854775808" false = .error .overflow ∧ parseQ "1m" false = .error .suffix := by decide +kernel
example : goSubVal 0 minI = maxI ∧ goMulVal minI (-1) = maxI ∧ goAddVal maxI 1 = maxI ∧
    goMulValRatio maxI false 9223372036854775808 = maxI := by decide
example : wf [("a", 1), ("b", 2)] = true ∧ allInR [("a", 1), ("b", 2)] := by
  refine ⟨by decide, ?_⟩; intro p hp; simp at hp; rcases hp with h | h <;> subst h <;> decide

end Yk.C18
