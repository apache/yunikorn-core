/-
  The placeholder swap (application.go tryPlaceholderAllocate, partition.go removeAllocation with
  PLACEHOLDER_REPLACED, node.go ReplaceAllocation): `swapStart` and `swapConfirm` preserve the books and the
  well-formedness of the state; the C06 clause (the placeholder is gone, usage reflects the real allocation and never
  grows); a concrete state that shows that the side condition "the placeholder's node is registered" matters.
-/
import YkProofs.Core2Repl
namespace Yk
open Res Core

/-! ### `swapStart` -/

/-- the application after tryPlaceholderAllocate chose real ask `r` for placeholder `phKey` on `node` -/
def swapStartApp (realKey phKey node : String) (r : CItem) (a : CApp) : CApp :=
  { a with
    items := updItem phKey (fun x => { x with released := true, release := some realKey })
               (updItem realKey (fun x => { x with allocated := true, node := node, release := some phKey }) a.items),
    pending := prune (subX a.pending r.res) }

/-- when the real half goes to another node than the placeholder's, that node lists it at once -/
theorem shape_swapStart (s s' : Core) (app realKey phKey node : String) (hw : CoreWF s)
    (h : s.swapStart app realKey phKey node = some s') :
    ∃ a r p, a.items.find? (fun i => i.key == realKey && i.inReq && !i.allocated) = some r ∧
      a.items.find? (fun i => i.key == phKey && i.bound && i.ph) = some p ∧
      Shape s s' app a (swapStartApp realKey phKey node r a) (onChain (pathChain s a.queue) (qDecPend r.res))
        (if (p.node != node) = true then
          onNodeId node (addAllocNode { key := realKey, app := app, res := r.res, foreign := false, ph := false })
        else fun n => n) := by
  unfold swapStart at h
  split at h
  · cases h
  · rename_i a hfind
    split at h
    · rename_i r p hr hp
      dsimp only at h
      split at h
      · cases h
      · simp only [Option.some.injEq] at h
        subst h
        refine ⟨a, r, p, hr, hp, ?_⟩
        cases hc : (p.node != node)
        · exact Shape.of_lists' (f := swapStartApp realKey phKey node r) hw hfind rfl rfl rfl rfl rfl rfl (fun _ => rfl)
        · exact Shape.of_lists (f := swapStartApp realKey phKey node r) hw hfind rfl rfl rfl rfl rfl rfl (fun _ => rfl)
            (fun _ => rfl)
    · cases h

theorem swapStartApp_items (realKey phKey node : String) (r : CItem) (a : CApp) :
    (swapStartApp realKey phKey node r a).items = a.items.map (fun x =>
      (fun y : CItem => if (y.key == phKey) = true then { y with released := true, release := some realKey } else y)
        (if (x.key == realKey) = true then { x with allocated := true, node := node, release := some phKey } else x)) := by
  unfold swapStartApp
  simp only [updItem_eq, List.map_map]
  rfl

theorem appWF_swapStartApp (realKey phKey node : String) (r : CItem) (a : CApp) (hwa : AppWF a) :
    AppWF (swapStartApp realKey phKey node r a) := by
  obtain ⟨hwp, hwal, hwh⟩ := hwa.appRes
  refine appWF_map_items _ ?_ (swapStartApp_items realKey phKey node r a) ⟨prune_wf _ (subX_wf _ _ hwp), hwal, hwh⟩ hwa
  intro x
  by_cases h1 : (x.key == realKey) = true
  · by_cases h2 : (x.key == phKey) = true <;> simp [h1, h2]
  · by_cases h2 : (x.key == phKey) = true <;> simp [h1, h2]

theorem appBooks_swapStartApp (realKey phKey node : String) (r : CItem) (a : CApp) (hba : AppBooks a) (hwa : AppWF a)
    (hrm : r ∈ a.items) (hrk : r.key = realKey) (hreq : r.inReq = true) (hnal : r.allocated = false) :
    AppBooks (swapStartApp realKey phKey node r a) := by
  obtain ⟨hwp, _, _⟩ := hwa.appRes
  obtain ⟨hwr, _⟩ := hwa.itemRes r hrm
  have hnb : r.bound = false := by
    cases hbd : r.bound with
    | false => rfl
    | true => rw [hwa.boundAllocated r hrm hbd] at hnal; cases hnal
  refine ⟨?_, ?_, ?_⟩ <;> intro k
  · show a.allocated.getD k = itemSum (updItem phKey _ (updItem realKey _ a.items)) _ k
    rw [itemSum_updItem_irrel, updItem_eq, itemSum_upd _ hwa.itemKeys realKey _ r hrm hrk, hba.allocated k]
    · simp [hnb]
    · intro x _; exact ⟨rfl, rfl⟩
  · show a.allocatedPh.getD k = itemSum (updItem phKey _ (updItem realKey _ a.items)) _ k
    rw [itemSum_updItem_irrel, updItem_eq, itemSum_upd _ hwa.itemKeys realKey _ r hrm hrk, hba.allocatedPh k]
    · simp [hnb]
    · intro x _; exact ⟨rfl, rfl⟩
  · show (prune (subX a.pending r.res)).getD k = itemSum (updItem phKey _ (updItem realKey _ a.items)) _ k
    rw [itemSum_updItem_irrel, updItem_eq, itemSum_upd _ hwa.itemKeys realKey _ r hrm hrk,
      prune_subX_getD _ _ hwp hwr, hba.pending k]
    · simp [hreq, hnal]
    · intro x _; exact ⟨rfl, rfl⟩

/-- `hfresh`: the node the real half is parked on does not list an allocation with the key of the real ask yet
    (node.allocations is a map: needed for `NWF.allocKeys` only). -/
theorem swapStart_props (s s' : Core) (app realKey phKey node : String) (hw : CoreWF s) (hb : Books s)
    (h : s.swapStart app realKey phKey node = some s')
    (hfresh : ∀ n, s.findNode node = some n → ∀ x ∈ n.allocs, x.key ≠ realKey) : Books s' ∧ CoreWF s' := by
  obtain ⟨a, r, p, hr, _, sh⟩ := shape_swapStart s s' app realKey phKey node hw h
  obtain ⟨ham, hl, _⟩ := sh.mem
  obtain ⟨hrm, hrk, hreq, hnal⟩ := find_outstanding hr
  have hwa := hw.app ham hl
  obtain ⟨hwp, _, _⟩ := hwa.appRes
  obtain ⟨hwr, _⟩ := hwa.itemRes r hrm
  constructor
  · refine sh.books_chain (chain_iff s a.queue) hw hb
      (fun _ => appBooks_swapStartApp realKey phKey node r a (hb.apps a ham hl) hwa hrm hrk hreq hnal)
      (fun q hq hun => .decPend (hw.queue hq) hwr (fun k' => ?_)) (fun k => ?_) (fun k => ?_) ?_
    · have := hb.item_pending_le hw ham hl hrm (by simp [hreq, hnal]) hq hun k'
      omega
    · show 0 = _ - (if a.live = true then a.allocated.getD k + a.allocatedPh.getD k else 0)
      simp only [hl, if_true]; omega
    · show _ = _ - (if a.live = true then (prune (subX a.pending r.res)).getD k else 0)
      simp only [hl, if_true, prune_subX_getD _ _ hwp hwr]; omega
    · intro m hm hmb
      split
      · exact onNodeId_keeps (fun _ => nodeBooks_addAlloc _ m rfl (hw.node hm).nodeRes.2.2.2 hwr hmb) hmb
      · exact hmb
  · refine sh.wf_chain hw (fun _ => appWF_swapStartApp realKey phKey node r a hwa) (fun q hq _ => qDecPend_wf _ _ (hw.queue hq)) ?_
    intro m hm hmw
    split
    · exact onNodeId_keeps (fun hmid => nwf_addAlloc _ m hmw hwr (hfresh m (by rw [← hmid]; exact findNode_of_mem hw hm))) hmw
    · exact hmw

/-! ### `swapConfirm`: the size difference the queue chain is given back -/

theorem swapTotal_wf (p r : CItem) : wf (swapTotal p r) = true := by
  unfold swapTotal
  dsimp only
  split
  · exact subX_wf _ _ rfl
  · rfl

theorem swapTotal_getD (p r : CItem) (hp : wf p.res = true) (hr : wf r.res = true)
    (hle : ∀ k, r.res.getD k ≤ p.res.getD k) (k : String) :
    (swapTotal p r).getD k = p.res.getD k - r.res.getD k := by
  have hd : wf (subX r.res p.res) = true := subX_wf _ _ hr
  have hg : (subX r.res p.res).getD k = r.res.getD k - p.res.getD k := subX_getD _ _ hp k
  have := hle k
  unfold swapTotal
  dsimp only
  cases hn : hasNegativeValue (some (subX r.res p.res)) with
  | true =>
    simp only [if_true]
    rw [subX_getD _ _ hd, hg]; simp; omega
  | false =>
    simp only [Bool.false_eq_true, if_false]
    have h0 := hasNeg_false_getD hn k
    rw [hg] at h0
    simp; omega

def swapQ0 (p r : CItem) (b : Bool) (q : CQueue) : CQueue :=
  let total := swapTotal p r
  let q1 := if b && strictlyGreaterThanZero (some total) then qDecAlloc total q else q
  if b && p.preempted && strictlyGreaterThanZero (some p.res) then qDecPreempting p.res q1 else q1

theorem swapQ_eq (p r : CItem) (a' : CApp) (b : Bool) (q : CQueue) :
    swapQ p r a' b q = if a'.live = true then swapQ0 p r b q else qLeave a' (swapQ0 p r b q) := rfl

theorem swapQ_path_reserved (p r : CItem) (a' : CApp) (b : Bool) (q : CQueue) :
    (swapQ p r a' b q).path = q.path ∧ (swapQ p r a' b q).reserved = q.reserved := by
  have h1 : (swapQ0 p r b q).path = q.path ∧ (swapQ0 p r b q).reserved = q.reserved := decQ_path_reserved _ _ _ _ q
  have h2 := qLeaveIf_path_reserved a' (swapQ0 p r b q)
  exact ⟨h2.1.trans h1.1, h2.2.trans h1.2⟩

theorem swapQ0_move (p r : CItem) {q : CQueue} (hq : QWF q) (hp : wf p.res = true) (hr : wf r.res = true)
    (hle : ∀ k, r.res.getD k ≤ p.res.getD k) :
    QMove q (swapQ0 p r true q) (fun k => p.res.getD k - r.res.getD k) (fun _ => 0) := by
  have ht := swapTotal_getD p r hp hr hle
  refine (decQ_move _ (swapTotal p r) _ p.res hq (swapTotal_wf p r) (sgtz_false_of_nonNeg ?_)).congr ht (fun _ => rfl)
  exact nonNeg_of_getD (swapTotal_wf p r) (fun k' => by rw [ht k']; have := hle k'; omega)

/-! ### the placeholder's node after the confirmed swap -/

theorem nodeSwap_id (app : String) (p r : CItem) (n : CNode) : (nodeSwap app p r n).id = n.id := rfl

theorem nodeSwap_books (app : String) (p r : CItem) (m : CNode) (hm : NWF m) (hmb : NodeBooks m)
    (hwp : wf p.res = true) (hwr : wf r.res = true)
    (x : CNodeAlloc) (hx : x ∈ m.allocs) (hxk : x.key = p.key) (hxf : x.foreign = false)
    (hxr : ∀ k, x.res.getD k = p.res.getD k) : NodeBooks (nodeSwap app p r m) := by
  obtain ⟨_, ho, hma, hv⟩ := hm.nodeRes
  have hd : wf (subX r.res p.res) = true := subX_wf _ _ hwr
  constructor
  · intro k
    show (addX m.allocated (subX r.res p.res)).getD k = allocSum (m.allocs.filter (fun (y : CNodeAlloc) => y.key != p.key) ++ [_]) k
    rw [addX_getD _ _ hd, subX_getD _ _ hwp, allocSum_append, allocSum_rm _ hm.allocKeys p.key x hx hxk, hmb.allocated k, hxr k]
    simp [hxf, allocSum, sumIf_single]; omega
  · intro k
    show (prune (subX m.available (subX r.res p.res))).getD k =
      m.total.getD k - (addX m.allocated (subX r.res p.res)).getD k - m.occupied.getD k
    rw [prune_subX_getD _ _ hv hd, addX_getD _ _ hd, subX_getD _ _ hwp, hmb.available k]; omega

theorem nodeSwap_wf (app : String) (p r : CItem) (m : CNode) (hm : NWF m) (hwr : wf r.res = true)
    (hfresh : ∀ x ∈ m.allocs, x.key ≠ r.key) : NWF (nodeSwap app p r m) := by
  obtain ⟨ht, ho, hma, hv⟩ := hm.nodeRes
  refine ⟨?_, ⟨ht, ho, addX_wf _ _ hma, prune_wf _ (subX_wf _ _ hv)⟩, ?_⟩
  · show (m.allocs.filter (fun (y : CNodeAlloc) => y.key != p.key) ++ [_]).Pairwise _
    rw [List.pairwise_append]
    refine ⟨hm.allocKeys.filter _, List.pairwise_singleton _ _, ?_⟩
    intro x hx y hy
    rw [List.mem_singleton] at hy
    subst hy
    exact hfresh x (List.mem_filter.mp hx).1
  · intro x hx
    rcases List.mem_append.mp hx with h | h
    · exact hm.allocRes x (List.mem_filter.mp h).1
    · rw [List.mem_singleton] at h; subst h; exact hwr

/-! ### `swapConfirm` -/

/-- the confirmed swap before the placeholder's ask is removed (`askRemoveT`) -/
def swapMain (s : Core) (app phKey : String) (a : CApp) (p r : CItem) : Core :=
  let a' := replApp p r a
  let onNode := (s.findNode p.node).isSome
  let sA := updApp s app (fun _ => a')
  let sN := if r.node == p.node then updNode sA p.node (nodeSwap app p r) else updNode sA p.node (nodeRm phKey p.res)
  let sQ := updQueues sN (pathChain s a.queue) (swapQ p r a' onNode)
  { sQ with phAllocations := sQ.phAllocations - 1 }

/-- the main path of `swapConfirm`: `p` is the bound placeholder `phKey` of the live application `a`, linked to the real
    allocation `r` -/
structure SwapCase (s : Core) (app phKey : String) (a : CApp) (p r : CItem) : Prop where
  app : s.findApp app = some a
  item : a.items.find? (·.key == phKey) = some p
  isPh : (p.bound && p.ph) = true
  real : p.release.bind (findReal s a) = some r

theorem swapConfirm_main (s : Core) (app phKey : String) (a : CApp) (p r : CItem) (hc : SwapCase s app phKey a p r) :
    s.swapConfirm app phKey = askRemoveT (swapMain s app phKey a p r) app phKey (pathChain s a.queue) := by
  unfold swapConfirm
  simp only [hc.app, hc.item, hc.isPh, if_true, hc.real]
  rfl

theorem shape_swapMain (s : Core) (app phKey : String) (a : CApp) (p r : CItem) (hfind : s.findApp app = some a) :
    Shape s (swapMain s app phKey a p r) app a (replApp p r a)
      (onChain (pathChain s a.queue) (swapQ p r (replApp p r a) (s.findNode p.node).isSome))
      (onNodeId p.node (if (r.node == p.node) = true then nodeSwap app p r else nodeRm phKey p.res)) := by
  refine ⟨hfind, ?_, ?_, ?_, replApp_id p r a, replApp_queue p r a, onChain_path (fun q => (swapQ_path_reserved p r _ _ q).1),
    onNodeId_id (fun m => by split <;> rfl), ?_⟩
  all_goals unfold swapMain; cases (r.node == p.node) <;> rfl

/-- The side conditions under which `swapConfirm` is the modelled confirmation of a placeholder swap. -/
structure SwapOK (s : Core) (app phKey : String) : Prop where
  /-- the placeholder is where the application says it is: if the item `phKey` names is a bound allocation, its node is
      registered and lists it (non-foreign, same size).  Needed on both paths: the fallback path is a plain release
      (`releaseKeyT_props`), on the main path node.ReplaceAllocation / node.RemoveAllocation and the queue update are
      skipped by the implementation when the node is unknown (`swapConfirm_books_refuted_without_node`). -/
  rel : ReleaseOK s app phKey
  /-- the linked real allocation can enter application.allocations -/
  repl : ∀ a p r, SwapCase s app phKey a p r → ReplOK a p r
  /-- the real allocation is not larger than the placeholder — the guard of tryPlaceholderAllocate (`C06.swap_not_larger`,
      YkProps/C06.lean).  The queue is only ever given back the difference, it is never charged one. -/
  notLarger : ∀ a p r, SwapCase s app phKey a p r → ∀ k, r.res.getD k ≤ p.res.getD k
  /-- same-node swap: the node does not list the real allocation yet (node.allocations is a map) -/
  fresh : ∀ a p r, SwapCase s app phKey a p r → r.node = p.node →
    ∀ n, s.findNode p.node = some n → ∀ x ∈ n.allocs, x.key ≠ r.key

theorem books_swapMain (s : Core) (app phKey : String) (a : CApp) (p r : CItem) (hw : CoreWF s) (hb : Books s)
    (hok : SwapOK s app phKey) (hc : SwapCase s app phKey a p r) : Books (swapMain s app phKey a p r) := by
  have sh := shape_swapMain s app phKey a p r hc.app
  obtain ⟨ham, hl, _⟩ := sh.mem
  obtain ⟨him, hkey⟩ := find_key_some hc.item
  have hbp := hc.isPh
  simp only [Bool.and_eq_true] at hbp
  obtain ⟨n, hn, x, hxm, hxk, hxf, hxr⟩ := hok.rel.onNode a p hc.app hc.item hbp.1
  have hrepl := hok.repl a p r hc
  have hle := hok.notLarger a p r hc
  have hwa := hw.app ham hl
  obtain ⟨hwp, hwal, hwh⟩ := hwa.appRes
  obtain ⟨hwpr, hnnp⟩ := hwa.itemRes p him
  obtain ⟨hwrr, hnnr⟩ := hrepl.rRes
  rw [hn] at sh
  refine sh.books_release (g := swapQ0 p r true) (lv := qLeaveIf _) hw hb
    (fun q => ⟨(qLeaveIf_path_reserved _ q).1, rfl, rfl⟩) (onNodeId_found hw hn (fun hm hmb => ?_))
    (appBooks_replApp a p r (hb.apps a ham hl) hwa hrepl) (appWF_replApp a p r hwa hrepl)
    (fun q hq _ => swapQ0_move p r (hw.queue hq) hwpr hwrr hle)
    (fun k => ?_) (fun k => by rw [replApp_pending]; exact (Int.sub_zero _).symm)
  · split
    · exact nodeSwap_books app p r n (hw.node hm) hmb hwpr hwrr x hxm (hxk.trans hkey.symm) hxf hxr
    · exact nodeRm_books phKey p.res n (hw.node hm) hmb hwpr x hxm hxk hxf hxr
  · rw [replApp_allocated, replApp_allocatedPh, prune_subX_getD _ _ hwh hwpr, addX_getD _ _ hwrr]
    omega

theorem wf_swapMain (s : Core) (app phKey : String) (a : CApp) (p r : CItem) (hw : CoreWF s)
    (hok : SwapOK s app phKey) (hc : SwapCase s app phKey a p r) : CoreWF (swapMain s app phKey a p r) := by
  have sh := shape_swapMain s app phKey a p r hc.app
  obtain ⟨ham, hl, _⟩ := sh.mem
  have hrepl := hok.repl a p r hc
  refine sh.wf_chain hw (fun _ => appWF_replApp a p r (hw.app ham hl) hrepl)
    (fun q hq _ => qLeaveIf_wf _ (swapQ0 p r _ q) (decQ_wf _ (swapTotal p r) _ p.res q (hw.queue hq)))
    (fun m hm hmw => onNodeId_keeps (fun hmid => ?_) hmw)
  split
  · rename_i hsame
    exact nodeSwap_wf app p r m hmw hrepl.rRes.1
      (hok.fresh a p r hc (by simpa using hsame) m (by rw [← hmid]; exact findNode_of_mem hw hm))
  · exact nodeRm_wf phKey p.res m hmw

theorem swapConfirm_cases (s : Core) (app phKey : String) :
    s.swapConfirm app phKey = s ∨ s.swapConfirm app phKey = releaseKeyT s .replaced app phKey ∨
    ∃ a p r, SwapCase s app phKey a p r := by
  cases hfind : s.findApp app with
  | none => left; unfold swapConfirm; simp only [hfind]
  | some a =>
    cases hitem : a.items.find? (·.key == phKey) with
    | none => left; unfold swapConfirm; simp only [hfind, hitem]
    | some p =>
      cases hreal : (if (p.bound && p.ph) = true then p.release else none).bind (findReal s a) with
      | none => right; left; unfold swapConfirm; simp only [hfind, hitem, hreal]
      | some r =>
        have hbp : (p.bound && p.ph) = true := by
          cases h : (p.bound && p.ph) with
          | true => rfl
          | false => rw [h] at hreal; simp at hreal
        rw [hbp] at hreal
        exact Or.inr (Or.inr ⟨a, p, r, hfind, hitem, hbp, hreal⟩)

/-- partition.removeAllocation(app, phKey, PLACEHOLDER_REPLACED).  The application may leave the partition in this step
    (Failing → Failed). -/
theorem swapConfirm_props (s : Core) (app phKey : String) (hw : CoreWF s) (hb : Books s) (hok : SwapOK s app phKey) :
    Books (s.swapConfirm app phKey) ∧ CoreWF (s.swapConfirm app phKey) := by
  rcases swapConfirm_cases s app phKey with h | h | ⟨a, p, r, hc⟩
  · rw [h]; exact ⟨hb, hw⟩
  · rw [h]; exact releaseKeyT_props s .replaced app phKey hw hb hok.rel
  · rw [swapConfirm_main s app phKey a p r hc]
    exact askRemoveT_props _ app phKey _ (wf_swapMain s app phKey a p r hw hok hc)
      (books_swapMain s app phKey a p r hw hb hok hc) ((shape_swapMain s app phKey a p r hc.app).chain_after hw)

/-- both steps of the main path: the application becomes `replApp p r a`, possibly without the placeholder's ask; node
    and chain as after `swapMain`, up to the reservation bookkeeping of `askRemoveT` -/
theorem swapConfirm_shape (s : Core) (app phKey : String) (a : CApp) (p r : CItem) (hw : CoreWF s) (hok : SwapOK s app phKey)
    (hc : SwapCase s app phKey a p r) :
    ∃ (a1 : CApp) (gq : CQueue → CQueue) (gn : CNode → CNode),
      (a1 = replApp p r a ∨ ∃ x, a1 = askAppT phKey x (replApp p r a)) ∧
      (∀ q, (gq q).path = q.path ∧ (gq q).allocated = q.allocated) ∧ NodeIrrel gn ∧
      Shape s (s.swapConfirm app phKey) app a a1
        (fun q => gq (onChain (pathChain s a.queue) (swapQ p r (replApp p r a) (s.findNode p.node).isSome) q))
        (fun n => gn (onNodeId p.node (if (r.node == p.node) = true then nodeSwap app p r else nodeRm phKey p.res) n)) := by
  have sh := shape_swapMain s app phKey a p r hc.app
  rw [swapConfirm_main s app phKey a p r hc]
  rcases shape_askRemoveT (swapMain s app phKey a p r) app phKey (pathChain s a.queue)
    (wf_swapMain s app phKey a p r hw hok hc) with h | ⟨a1, x, _, sh2⟩
  · rw [h]
    exact ⟨_, fun q => q, fun n => n, Or.inl rfl, fun _ => ⟨rfl, rfl⟩, nodeIrrel_id, sh⟩
  · obtain rfl := sh.found_after hw sh2.find
    have sh3 := sh.trans sh2
    refine ⟨_, fun q => askResvQ app phKey (replApp p r a) (onChain (pathChain s a.queue) (askQT x) q),
      askResvN phKey (replApp p r a), Or.inr ⟨x, rfl⟩, fun q => ?_, askResvN_irrel phKey _, sh3⟩
    obtain ⟨h1, h2, _⟩ := askResvQ_irrel app phKey (replApp p r a) (onChain (pathChain s a.queue) (askQT x) q)
    rw [h1, h2]
    exact ⟨onChain_path (fun q => (askQT_path_reserved x q).1) q, onChain_keeps (P := fun q' => q'.allocated = q.allocated) (askQT_allocated x q) rfl⟩

/-! ### C06: after the confirmed swap the placeholder is gone and usage reflects the real allocation -/

theorem swapConfirm_findNode {s : Core} {app phKey : String} {a : CApp} {p r : CItem} (hw : CoreWF s)
    (hok : SwapOK s app phKey) (hc : SwapCase s app phKey a p r)
    {n' : CNode} (hn' : (s.swapConfirm app phKey).findNode p.node = some n') :
    ∃ n0 ∈ s.nodes, n0.id = p.node ∧
      n'.allocs = ((if (r.node == p.node) = true then nodeSwap app p r else nodeRm phKey p.res) n0).allocs ∧
      n'.allocated = ((if (r.node == p.node) = true then nodeSwap app p r else nodeRm phKey p.res) n0).allocated := by
  obtain ⟨_, _, gn, _, _, hgn, sh⟩ := swapConfirm_shape s app phKey a p r hw hok hc
  obtain ⟨hn'm, hn'id⟩ := findNode_some hn'
  rw [sh.nodes] at hn'm
  obtain ⟨n0, hn0, rfl⟩ := List.mem_map.mp hn'm
  rw [sh.nid] at hn'id
  obtain ⟨_, hgal, _, _, hgalloc, _⟩ := hgn (onNodeId p.node
    (if (r.node == p.node) = true then nodeSwap app p r else nodeRm phKey p.res) n0)
  have e : onNodeId p.node (if (r.node == p.node) = true then nodeSwap app p r else nodeRm phKey p.res) n0 = _ :=
    if_pos (by simpa using hn'id)
  exact ⟨n0, hn0, hn'id, hgal.trans (congrArg CNode.allocs e), hgalloc.trans (congrArg CNode.allocated e)⟩

/-- C06 (a): after the confirmed swap the record of the application lists no bound item with the placeholder's key, and
    the placeholder's node does not list the placeholder.  (About the state after `swapConfirm`, including the removal
    of the placeholder's ask.) -/
theorem swapConfirm_placeholder_gone (s : Core) (app phKey : String) (a : CApp) (p r : CItem) (hw : CoreWF s)
    (hok : SwapOK s app phKey) (hc : SwapCase s app phKey a p r) :
    (∃ a1, (s.swapConfirm app phKey).apps = updApps s.apps app (fun _ => a1) ∧
      ∀ x ∈ a1.items, x.key = phKey → x.bound = false) ∧
    (∀ n', (s.swapConfirm app phKey).findNode p.node = some n' → ∀ x ∈ n'.allocs, x.key ≠ phKey) := by
  obtain ⟨_, hkey⟩ := find_key_some hc.item
  have hrk := (hok.repl a p r hc).rKey
  obtain ⟨a1, _, _, ha1, _, _, sh⟩ := swapConfirm_shape s app phKey a p r hw hok hc
  have hrepl : ∀ x ∈ (replApp p r a).items, x.key = phKey → x.bound = false := by
    intro x hx hxk
    rw [replApp_items] at hx
    exact replItems_unbound hrk hx (hxk.trans hkey.symm)
  constructor
  · refine ⟨a1, sh.apps, ?_⟩
    rcases ha1 with h | ⟨x, h⟩
    · rw [h]; exact hrepl
    · rw [h]
      intro y hy hyk
      rw [askAppT_items] at hy
      obtain ⟨z, hz, hk, _, _, hbd⟩ := mem_askItems hy
      rw [hbd]; exact hrepl z hz (hk ▸ hyk)
  · intro n' hn' x hx
    obtain ⟨n0, _, _, hal, _⟩ := swapConfirm_findNode hw hok hc hn'
    rw [hal] at hx
    split at hx
    · rcases List.mem_append.mp hx with h | h
      · have := (List.mem_filter.mp h).2
        rw [hkey] at this
        simpa using this
      · rw [List.mem_singleton] at h
        rw [h, ← hkey]; exact hrk
    · have := (List.mem_filter.mp hx).2
      simpa using this

theorem swapConfirm_placeholder_unbound (s : Core) (app phKey : String) (a : CApp) (p r : CItem) (hw : CoreWF s)
    (hok : SwapOK s app phKey) (hc : SwapCase s app phKey a p r) :
    ∀ a1, (s.swapConfirm app phKey).findApp app = some a1 → ∀ x ∈ a1.items, x.key = phKey → x.bound = false := by
  obtain ⟨ham, hl, hid⟩ := findApp_some hc.app
  obtain ⟨⟨a2, e1, h2⟩, _⟩ := swapConfirm_placeholder_gone s app phKey a p r hw hok hc
  intro a1 h1
  obtain ⟨h1m, h1l, h1id⟩ := findApp_some h1
  rw [e1] at h1m
  rcases mem_updApps hw.appIds ham hl hid h1m with h | ⟨_, hnd⟩
  · rw [h]; exact h2
  · exact absurd (by simp [h1l, h1id]) hnd

/-- C06 (b), node: the placeholder's node is charged the real allocation instead of the placeholder (same node) or
    relieved of the placeholder (the real allocation lives on another node); never more than before. -/
theorem swapConfirm_node_usage (s : Core) (app phKey : String) (a : CApp) (p r : CItem) (hw : CoreWF s)
    (hok : SwapOK s app phKey) (hc : SwapCase s app phKey a p r) (n n' : CNode)
    (hn : s.findNode p.node = some n) (hn' : (s.swapConfirm app phKey).findNode p.node = some n') (k : String) :
    n'.allocated.getD k = n.allocated.getD k - p.res.getD k + (if r.node = p.node then r.res.getD k else 0) ∧
    n'.allocated.getD k ≤ n.allocated.getD k := by
  obtain ⟨ham, hl, _⟩ := findApp_some hc.app
  obtain ⟨him, _⟩ := find_key_some hc.item
  obtain ⟨hnm, hnid⟩ := findNode_some hn
  obtain ⟨hwpr, hnnp⟩ := (hw.app ham hl).itemRes p him
  obtain ⟨hwrr, _⟩ := (hok.repl a p r hc).rRes
  have hle := hok.notLarger a p r hc k
  have hp0 := nonNeg_getD hnnp k
  obtain ⟨_, _, hma, _⟩ := (hw.node hnm).nodeRes
  obtain ⟨n0, hn0, hid0, _, halloc⟩ := swapConfirm_findNode hw hok hc hn'
  have : n0 = n := nodeIds_eq hw hnm hn0 (hid0.trans hnid.symm)
  subst this
  rw [halloc]
  by_cases hsame : r.node = p.node
  · have hs : (r.node == p.node) = true := by simpa using hsame
    rw [if_pos hs, if_pos hsame]
    show (addX n0.allocated (subX r.res p.res)).getD k = _ ∧ (addX n0.allocated (subX r.res p.res)).getD k ≤ _
    rw [addX_getD _ _ (subX_wf _ _ hwrr), subX_getD _ _ hwpr]
    constructor <;> omega
  · have hs : ¬ (r.node == p.node) = true := by simpa using hsame
    rw [if_neg hs, if_neg hsame]
    show (prune (subX n0.allocated p.res)).getD k = _ ∧ (prune (subX n0.allocated p.res)).getD k ≤ _
    rw [prune_subX_getD _ _ hma hwpr]
    constructor <;> omega

/-- C06 (b), queues: while the application stays in the partition every queue on its chain is given back the size
    difference placeholder − real (nothing when they are equal), never charged; the other queues keep their totals.
    (Queue paths are not assumed unique, hence the statement about the list.) -/
theorem swapConfirm_queue_usage (s : Core) (app phKey : String) (a : CApp) (p r : CItem) (hw : CoreWF s)
    (hok : SwapOK s app phKey) (hc : SwapCase s app phKey a p r) (hlive : (replApp p r a).live = true) :
    ∃ F : CQueue → CQueue, (s.swapConfirm app phKey).queues = s.queues.map F ∧ ∀ q ∈ s.queues,
      (F q).path = q.path ∧
      (under a.queue q.path = true → ∀ k,
        (F q).allocated.getD k = q.allocated.getD k - (p.res.getD k - r.res.getD k) ∧
        (F q).allocated.getD k ≤ q.allocated.getD k) ∧
      (under a.queue q.path = false → (F q).allocated = q.allocated) := by
  obtain ⟨ham, hl, _⟩ := findApp_some hc.app
  obtain ⟨him, _⟩ := find_key_some hc.item
  have hbp := hc.isPh
  simp only [Bool.and_eq_true] at hbp
  obtain ⟨n, hn, _⟩ := hok.rel.onNode a p hc.app hc.item hbp.1
  obtain ⟨hwpr, _⟩ := (hw.app ham hl).itemRes p him
  obtain ⟨hwrr, _⟩ := (hok.repl a p r hc).rRes
  have hle := hok.notLarger a p r hc
  obtain ⟨_, gq, _, _, hgq, _, sh⟩ := swapConfirm_shape s app phKey a p r hw hok hc
  rw [hn] at sh
  refine ⟨_, sh.queues, ?_⟩
  · intro q hq
    obtain ⟨h1, h2⟩ := hgq (onChain (pathChain s a.queue) (swapQ p r (replApp p r a) true) q)
    dsimp only [Option.isSome_some] at h1 h2 ⊢
    rw [h1, h2]
    refine ⟨onChain_path (fun q => (swapQ_path_reserved _ _ _ _ q).1) q, ?_, ?_⟩
    · intro hun k
      rw [onChain, if_pos ((chain_iff s a.queue q hq).mpr hun), swapQ_eq, if_pos hlive,
        (swapQ0_move p r (hw.queue hq) hwpr hwrr hle).allocated k]
      have := hle k
      constructor <;> omega
    · intro hun
      have : ¬ (pathChain s a.queue).contains q.path = true := by
        intro h; rw [(chain_iff s a.queue q hq).mp h] at hun; cases hun
      rw [onChain, if_neg this]

/-! ### the placeholder's node must be registered: a concrete witness -/

def swapWPh : CItem :=
  { key := "ph", res := [("cpu", 4)], ph := true, tg := "tg", allocated := true, node := "n0", bound := true,
    inReq := true, released := true, preempted := false, release := some "real", reqNode := "" }

def swapWReal : CItem :=
  { key := "real", res := [("cpu", 2)], ph := false, tg := "tg", allocated := true, node := "n0",
    bound := false, inReq := true, released := false, preempted := false, release := some "ph", reqNode := "" }

def swapWApp : CApp :=
  { id := "app", live := true, queue := "root", state := "Running", user := "u", pending := [], allocated := [],
    allocatedPh := [("cpu", 4)], phAsk := [("cpu", 4)], items := [swapWPh, swapWReal],
    reservations := [], phData := [("tg", 1, 0, 0)], log := ["Running"] }

/-- One node, the root queue, one application with a bound placeholder `ph` (cpu 4) linked to the allocated real ask
    `real` (cpu 2, same node).  The books balance — but the placeholder names a node (`n0`) the partition does not know. -/
def swapW : Core :=
  { nodes := [{ id := "n1", total := [("cpu", 10)], occupied := [], allocated := [("cpu", 4)], available := [("cpu", 6)],
                schedulable := true,
                allocs := [{ key := "ph", app := "app", res := [("cpu", 4)], foreign := false, ph := true }],
                reservations := [] }],
    queues := [{ path := "root", parent := none, leaf := true, managed := true, max := none, guaranteed := none,
                 allocated := [("cpu", 4)], pending := [], preempting := [], maxApps := 0, running := 1, allocating := [],
                 apps := ["app"], reserved := [] }],
    apps := [swapWApp],
    total := [("cpu", 10)], allocations := 1, phAllocations := 1, reservations := 0, foreign := [], users := [], groups := [] }

theorem books_swapW : Books swapW := by
  refine ⟨?_, ?_, ?_⟩
  · intro a ha _
    simp only [swapW, List.mem_singleton] at ha
    subst ha
    refine ⟨?_, ?_, ?_⟩ <;> intro k <;> simp [swapWApp, swapWPh, swapWReal, itemSum, sumIf, getD_cons]
  · intro q hq
    simp only [swapW, List.mem_singleton] at hq
    subst hq
    refine ⟨?_, ?_⟩ <;> intro k <;> simp [swapW, swapWApp, qsum, sumIf, under, getD_cons]
  · intro n hn
    simp only [swapW, List.mem_singleton] at hn
    subst hn
    refine ⟨?_, ?_⟩ <;> intro k <;> simp [allocSum, sumIf, getD_cons]
    split <;> omega

theorem wf_swapW : CoreWF swapW := by
  have hpp : ∀ p ∈ [("cpu", (4 : Int))], (0 : Int) ≤ p.2 := by
    intro p hp; simp only [List.mem_singleton] at hp; subst hp; decide
  have hpr : ∀ p ∈ [("cpu", (2 : Int))], (0 : Int) ≤ p.2 := by
    intro p hp; simp only [List.mem_singleton] at hp; subst hp; decide
  refine CoreWF.of_parts (List.pairwise_singleton _ _) (List.pairwise_singleton _ _) ?_ ?_ ?_
  · intro a ha _
    simp only [swapW, List.mem_singleton] at ha
    subst ha
    refine ⟨by decide, ⟨by decide, by decide, by decide⟩, ?_, ?_⟩
    · intro i hi
      simp only [swapWApp, List.mem_cons, List.not_mem_nil, or_false] at hi
      rcases hi with rfl | rfl
      · exact ⟨by decide, hpp⟩
      · exact ⟨by decide, hpr⟩
    · intro i hi
      simp only [swapWApp, List.mem_cons, List.not_mem_nil, or_false] at hi
      rcases hi with rfl | rfl <;> decide
  · intro q hq
    simp only [swapW, List.mem_singleton] at hq
    subst hq
    exact ⟨by decide, by decide, fun p hp => by cases hp⟩
  · intro n hn
    simp only [swapW, List.mem_singleton] at hn
    subst hn
    refine ⟨List.pairwise_singleton _ _, ⟨by decide, by decide, by decide, by decide⟩, ?_⟩
    intro x hx
    simp only [List.mem_singleton] at hx
    subst hx
    decide

/-- Without "the placeholder's node is registered" (`SwapOK.rel`) the confirmed swap breaks the books: in `swapW` the
    books balance, the placeholder `ph` is bound and linked to `real`, but its node `n0` is unknown; the implementation
    skips node.ReplaceAllocation and the queue update, the application is charged the real allocation (cpu 2) while the
    root queue still carries the placeholder (cpu 4).  The state is well-formed and every other condition of `SwapOK`
    holds (`ReplOK`, real ≤ placeholder; `fresh` is vacuous as the node is unknown): only `SwapOK.rel` fails. -/
theorem swapConfirm_books_refuted_without_node :
    CoreWF swapW ∧ Books swapW ∧
    (∃ a p r, SwapCase swapW "app" "ph" a p r ∧ swapW.findNode p.node = none ∧
      r.node = p.node ∧ (∀ k, r.res.getD k ≤ p.res.getD k) ∧ ReplOK a p r) ∧
    ¬ Books (swapW.swapConfirm "app" "ph") := by
  refine ⟨wf_swapW, books_swapW, ?_, ?_⟩
  · refine ⟨swapWApp, swapWPh, swapWReal, ⟨by decide, by decide, by decide, by decide⟩, by decide, by decide, ?_, ?_⟩
    · intro k; simp only [swapWPh, swapWReal, getD_cons, getD_nil]; split <;> omega
    · exact ⟨by decide, by decide, by decide, by decide, by decide, by decide,
        ⟨by decide, fun x hx => by simp only [swapWReal, List.mem_singleton] at hx; subst hx; decide⟩, Or.inl ⟨by decide, by decide⟩⟩
  · intro hb
    have hq : ∀ q ∈ (swapW.swapConfirm "app" "ph").queues, q.allocated.getD "cpu" =
        qsum (swapW.swapConfirm "app" "ph").apps q.path (fun a => a.allocated.getD "cpu" + a.allocatedPh.getD "cpu") :=
      fun q hq => (hb.queues q hq).allocated "cpu"
    revert hq
    decide

end Yk
