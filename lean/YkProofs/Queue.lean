/- The queue-tree model (YkModel/Queue.lean) behind YkProps/C02 and C11: well-formed trees, folds along the ancestor chain,
   TryIncAllocatedResource against every ancestor's maximum; effective maximum and headroom are ComponentWiseMin with the
   parent's value. -/
import YkModel.Queue
import YkProofs.Res
namespace Yk
open Res QTree

/-! ### well-formed trees -/

def qWf (i : Nat) (q : Q) : Bool :=
  (match q.parent with | none => true | some p => decide (p < i)) &&
    wf q.allocated && oresWf q.max && oresWf q.guaranteed

def treeWfAux : Nat → List Q → Bool
  | _, [] => true
  | i, q :: t => qWf i q && treeWfAux (i + 1) t

/-- parents come first, every resource vector of every queue has unique keys -/
def TreeWF (t : QTree) : Prop := treeWfAux 0 t = true

instance (t : QTree) : Decidable (TreeWF t) := inferInstanceAs (Decidable (treeWfAux 0 t = true))

theorem treeWfAux_get : ∀ (t : List Q) (n : Nat), treeWfAux n t = true →
    ∀ i q, t[i]? = some q → qWf (n + i) q = true := by
  intro t
  induction t with
  | nil => intro n _ i q h; simp at h
  | cons a t ih =>
    intro n h i q hq
    simp only [treeWfAux, Bool.and_eq_true] at h
    cases i with
    | zero => simp at hq; subst hq; exact h.1
    | succ j =>
      simp at hq
      have := ih (n + 1) h.2 j q hq
      have e : n + (j + 1) = n + 1 + j := by omega
      rw [e]; exact this

theorem TreeWF.get {t : QTree} (hw : TreeWF t) {i : Nat} {q : Q} (h : t[i]? = some q) :
    (∀ p, q.parent = some p → p < i) ∧ wf q.allocated = true ∧ oresWf q.max = true ∧ oresWf q.guaranteed = true := by
  have := treeWfAux_get t 0 hw i q h
  simp only [qWf, Bool.and_eq_true, Nat.zero_add] at this
  obtain ⟨⟨⟨h1, h2⟩, h3⟩, h4⟩ := this
  refine ⟨?_, h2, h3, h4⟩
  intro p hp
  rw [hp] at h1
  simpa using h1

theorem TreeWF.parent_lt {t : QTree} (hw : TreeWF t) {i p : Nat} {q : Q} (h : t[i]? = some q)
    (hp : q.parent = some p) : p < i := (hw.get h).1 p hp

/-! ### the ancestor chain -/

namespace QTree

theorem chainAux_succ (t : QTree) (f i : Nat) :
    chainAux t (f + 1) i =
      match t[i]? with
      | none => []
      | some q => i :: (match q.parent with | none => [] | some p => chainAux t f p) := rfl

theorem chainAux_fuel (t : QTree) (hw : TreeWF t) :
    ∀ f1 f2 i, i < f1 → i < f2 → chainAux t f1 i = chainAux t f2 i := by
  intro f1
  induction f1 with
  | zero => intro f2 i h; omega
  | succ a ih =>
    intro f2 i h1 h2
    cases f2 with
    | zero => omega
    | succ b =>
      rw [chainAux_succ, chainAux_succ]
      cases hq : t[i]? with
      | none => rfl
      | some q =>
        cases hpar : q.parent with
        | none => simp only [hpar]
        | some p =>
          have := hw.parent_lt hq hpar
          simp only [hpar]
          rw [ih b p (by omega) (by omega)]

theorem chain_none {t : QTree} {i : Nat} (h : t[i]? = none) : chain t i = [] := by
  unfold chain
  cases hn : t.length with
  | zero => rfl
  | succ n => rw [chainAux_succ, h]

theorem chain_root {t : QTree} {i : Nat} {q : Q} (h : t[i]? = some q) (hp : q.parent = none) :
    chain t i = [i] := by
  unfold chain
  have := lt_length_of_getElem? h
  cases hn : t.length with
  | zero => omega
  | succ n => rw [chainAux_succ, h]; simp only [hp]

theorem chain_cons {t : QTree} (hw : TreeWF t) {i p : Nat} {q : Q} (h : t[i]? = some q)
    (hp : q.parent = some p) : chain t i = i :: chain t p := by
  unfold chain
  have hl := lt_length_of_getElem? h
  have hpi := hw.parent_lt h hp
  cases hn : t.length with
  | zero => omega
  | succ n =>
    rw [chainAux_succ t n i, h]; simp only [hp]
    rw [chainAux_fuel t hw n (n + 1) p (by omega) (by omega)]

theorem chain_cases {t : QTree} (hw : TreeWF t) (i : Nat) :
    (t[i]? = none ∧ chain t i = []) ∨
    (∃ q, t[i]? = some q ∧ q.parent = none ∧ chain t i = [i]) ∨
    (∃ q p, t[i]? = some q ∧ q.parent = some p ∧ p < i ∧ chain t i = i :: chain t p) := by
  cases hq : t[i]? with
  | none => exact Or.inl ⟨rfl, chain_none hq⟩
  | some q =>
    cases hp : q.parent with
    | none => exact Or.inr (Or.inl ⟨q, rfl, hp, chain_root hq hp⟩)
    | some p => exact Or.inr (Or.inr ⟨q, p, rfl, hp, hw.parent_lt hq hp, chain_cons hw hq hp⟩)

theorem chain_le {t : QTree} (hw : TreeWF t) (i : Nat) : ∀ j ∈ chain t i, j ≤ i := by
  induction i using Nat.strongRecOn with
  | ind i ih =>
    rcases chain_cases hw i with ⟨_, hc⟩ | ⟨q, _, _, hc⟩ | ⟨q, p, _, _, hlt, hc⟩
    · rw [hc]; intro j hj; cases hj
    · rw [hc]; intro j hj; simp at hj; omega
    · rw [hc]; intro j hj
      rcases List.mem_cons.mp hj with h | h
      · omega
      · have := ih p hlt j h; omega

theorem chain_nodup {t : QTree} (hw : TreeWF t) (i : Nat) : (chain t i).Nodup := by
  induction i using Nat.strongRecOn with
  | ind i ih =>
    rcases chain_cases hw i with ⟨_, hc⟩ | ⟨q, _, _, hc⟩ | ⟨q, p, _, _, hlt, hc⟩
    · rw [hc]; exact List.nodup_nil
    · rw [hc]; simp
    · rw [hc, List.nodup_cons]
      refine ⟨?_, ih p hlt⟩
      intro hmem
      have := chain_le hw p i hmem
      omega

/-! ### applyChain -/

theorem updAt_getElem? (t : QTree) (a : Nat) (f : Q → Q) (j : Nat) :
    (updAt t a f)[j]? = if a = j then t[j]?.map f else t[j]? := by
  unfold updAt
  rw [List.getElem?_modify]
  by_cases h : a = j
  · simp [h]
  · simp [h]

theorem applyChain_nil (t : QTree) (f : Q → Q) : applyChain t [] f = t := rfl
theorem applyChain_cons (t : QTree) (a : Nat) (c : List Nat) (f : Q → Q) :
    applyChain t (a :: c) f = applyChain (updAt t a f) c f := rfl

theorem applyChain_length (f : Q → Q) : ∀ (c : List Nat) (t : QTree), (applyChain t c f).length = t.length := by
  intro c
  induction c with
  | nil => intro t; rfl
  | cons a c ih => intro t; rw [applyChain_cons, ih]; exact List.length_modify _ _ _

theorem applyChain_getElem? (f : Q → Q) : ∀ (c : List Nat) (t : QTree), c.Nodup → ∀ j,
    (applyChain t c f)[j]? = if j ∈ c then t[j]?.map f else t[j]? := by
  intro c
  induction c with
  | nil => intro t _ j; simp [applyChain_nil]
  | cons a c ih =>
    intro t hn j
    rw [List.nodup_cons] at hn
    rw [applyChain_cons, ih _ hn.2, updAt_getElem?]
    by_cases h : a = j
    · subst h; simp [hn.1]
    · have h' : ¬ j = a := fun e => h e.symm
      simp [h, h']

theorem applyChain_forall (f : Q → Q) (P : Q → Prop) (hf : ∀ q, P q → P (f q)) :
    ∀ (c : List Nat) (t : QTree), (∀ q ∈ t, P q) → ∀ q ∈ applyChain t c f, P q := by
  intro c
  induction c with
  | nil => intro t h; exact h
  | cons a c ih =>
    intro t h
    rw [applyChain_cons]
    apply ih
    intro q hq
    obtain ⟨j, hj⟩ := List.mem_iff_getElem?.mp hq
    rw [updAt_getElem?] at hj
    by_cases e : a = j
    · simp only [e, if_true] at hj
      cases hq' : t[j]? with
      | none => rw [hq'] at hj; cases hj
      | some q0 =>
        rw [hq'] at hj; simp at hj; subst hj
        exact hf _ (h q0 (List.mem_iff_getElem?.mpr ⟨j, hq'⟩))
    · simp only [e, if_false] at hj
      exact h q (List.mem_iff_getElem?.mpr ⟨j, hj⟩)

/-! ### C02: TryIncAllocatedResource -/

theorem overMax_congr {q q' : Q} {k : String} (hm : q'.max = q.max) (hp : q'.parent = q.parent)
    (ha : q'.allocated.getD k = q.allocated.getD k) : overMax q' k = overMax q k := by
  unfold overMax; rw [hm, hp, ha]

theorem fits_not_overMax {q : Q} {alloc : Res} (ha : wf alloc = true) (hf : fits q alloc = true)
    {e : String × Int} (he : e ∈ alloc) :
    overMax { q with allocated := addX q.allocated alloc } e.1 = false := by
  have hsum : (e.1, e.2 + q.allocated.getD e.1) ∈ addOnlyExistingX alloc q.allocated :=
    List.mem_map_of_mem (f := fun p => (p.1, p.2 + q.allocated.getD p.1)) he
  have hnew : (addX q.allocated alloc).getD e.1 = q.allocated.getD e.1 + e.2 := by
    rw [addX_getD _ _ ha, getD_of_mem ha he]
  unfold fits fitInStd fitInMaxUndef at hf
  unfold overMax
  simp only [hnew]
  cases hp : q.parent with
  | none =>
    simp only [hp, Option.isNone_none, if_true] at hf
    have h := ((fitIn_some q.max _ false false).mp hf _ hsum).resolve_left (fun h => Bool.noConfusion h.1)
    cases hm : q.max with
    | none => rw [hm] at h; simp [orZero] at h ⊢; omega
    | some m => rw [hm] at h; simp [orZero] at h ⊢; omega
  | some p =>
    simp only [hp, Option.isNone_some, Bool.false_eq_true, if_false] at hf
    cases hm : q.max with
    | none => simp
    | some m =>
      rw [hm] at hf
      rcases (fitIn_some (some m) _ true false).mp hf _ hsum with ⟨-, hh⟩ | h
      · simp [show m.has e.1 = false from hh]
      · simp [orZero] at h ⊢; omega

theorem tryInc_some {t t' : QTree} {i : Nat} {alloc : Res} (h : tryInc t i alloc = some t') :
    (∀ j ∈ chain t i, ∃ q, t[j]? = some q ∧ fits q alloc = true) ∧
    t' = applyChain t (chain t i) (fun q => { q with allocated := addX q.allocated alloc }) := by
  unfold tryInc at h
  simp only at h
  split at h
  · rename_i hc
    refine ⟨?_, (Option.some.inj h).symm⟩
    intro j hj
    have := List.all_eq_true.mp hc j hj
    cases hq : t[j]? with
    | none => rw [hq] at this; cases this
    | some q => rw [hq] at this; exact ⟨q, rfl, this⟩
  · cases h

theorem tryInc_getElem? {t t' : QTree} {i : Nat} {alloc : Res} (hw : TreeWF t)
    (h : tryInc t i alloc = some t') (j : Nat) :
    t'[j]? = if j ∈ chain t i then t[j]?.map (fun q => { q with allocated := addX q.allocated alloc }) else t[j]? := by
  rw [(tryInc_some h).2, applyChain_getElem? _ _ _ (chain_nodup hw i)]

/-! ### C02: effective maximum and headroom along the chain -/

/-- an invariant of the accumulator of a walk down a chain (`getMax`, `headRoom`) -/
theorem chainFold_inv {t : QTree} {step : Q → ORes → ORes} {P : ORes → Prop}
    (hs : ∀ (j : Nat) q acc, t[j]? = some q → P acc → P (step q acc)) :
    ∀ (c : List Nat) (acc : ORes), P acc →
      P (c.foldl (fun acc j => match t[j]? with | some q => step q acc | none => acc) acc) := by
  intro c
  induction c with
  | nil => exact fun _ h => h
  | cons j c ih =>
    intro acc h
    rw [List.foldl_cons]
    apply ih
    cases hq : t[j]? with
    | none => exact h
    | some q => exact hs j q acc hq h

theorem getMax_cons {t : QTree} (hw : TreeWF t) {i p : Nat} {q : Q} (h : t[i]? = some q)
    (hp : q.parent = some p) : getMax t i = internalGetMax q (getMax t p) := by
  unfold getMax; rw [chain_cons hw h hp, List.reverse_cons, List.foldl_append]
  simp only [List.foldl_cons, List.foldl_nil, h]

theorem internalGetMax_eq (q : Q) (pl : ORes) : internalGetMax q pl = componentWiseMin pl q.max := by
  unfold internalGetMax; cases pl <;> cases q.max <;> rfl

theorem getMax_wf {t : QTree} (hw : TreeWF t) (i : Nat) : oresWf (getMax t i) = true :=
  chainFold_inv (P := fun o => oresWf o = true) (fun _ _ _ hq h => internalGetMax_eq .. ▸ cwm_wf h (hw.get hq).2.2.1) _ _ rfl

theorem headRoom_cons {t : QTree} (hw : TreeWF t) {i p : Nat} {q : Q} (h : t[i]? = some q)
    (hp : q.parent = some p) : headRoom t i = internalHeadRoom q (headRoom t p) := by
  unfold headRoom; rw [chain_cons hw h hp, List.reverse_cons, List.foldl_append]
  simp only [List.foldl_cons, List.foldl_nil, h]

theorem internalHeadRoom_eq (q : Q) (ph : ORes) :
    internalHeadRoom q ph = componentWiseMin (q.max.map (subOnlyExistingX · q.allocated)) ph := by
  unfold internalHeadRoom; cases q.max <;> cases ph <;> rfl

theorem ownHeadRoom_wf {q : Q} (hq : oresWf q.max = true) : oresWf (q.max.map (subOnlyExistingX · q.allocated)) = true := by
  revert hq
  cases q.max with
  | none => exact fun _ => rfl
  | some mm => exact map_val_wf _ mm

theorem headRoom_wf {t : QTree} (hw : TreeWF t) (i : Nat) : oresWf (headRoom t i) = true :=
  chainFold_inv (P := fun o => oresWf o = true) (fun _ _ _ hq h => internalHeadRoom_eq .. ▸ cwm_wf (ownHeadRoom_wf (hw.get hq).2.2.1) h) _ _ rfl

end QTree
end Yk
