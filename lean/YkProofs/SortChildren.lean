/-
  Proofs for C19, op `children`: the candidates a parent queue offers (Queue.sortQueues) — the fair max each candidate is
  compared on (the lookup in the slice built from GetFairMaxResource), the fair comparators on a child's own keys as a
  lexicographic order — and the priority key of a queue and of an application.
-/
import YkProofs.Sort
import YkProofs.Res
namespace Yk
open Res

/-! ### the slice built by sortQueues and the lookup by queue -/

theorem lookup_zip_map {β : Type} (f : Child → β) (cands : List Child) (hnd : (cands.map (·.name)).Nodup) (c : Child) (hc : c ∈ cands) :
    ((cands.map (·.name)).zip (cands.map f)).lookup c.name = some (f c) := by
  rw [List.zip_map']
  exact (lookup_iff_mem (by rw [List.map_map]; exact hnd) _ _).mpr (List.mem_map_of_mem hc)

/-- The fair max the comparator reads for a candidate is the candidate's own: the parent's chain merged with the
    candidate's own max — whatever the other candidates are and wherever the candidate stands in the slice. -/
theorem fairMaxByQueue_slice (pf : ORes) (cands : List Child) (hnd : (cands.map (·.name)).Nodup) (c : Child) (hc : c ∈ cands) :
    fairMaxByQueue cands (fairMaxSlice pf cands) c = fairMaxMerge pf c.max := by
  unfold fairMaxByQueue fairMaxSlice
  rw [lookup_zip_map (fun c => fairMaxMerge pf c.max) cands hnd c hc]; rfl

theorem offeredCands_names_nodup (cs : List Child) (hnd : (cs.map (·.name)).Nodup) : ((offeredCands cs).map (·.name)).Nodup :=
  nodup_map_filter _ _ hnd

/-! ### sortQueues compares children on their own keys -/

theorem offeredSorted_eq_own (rootMax : ORes) (anc : List ORes) (fair prio : Bool) (cs : List Child)
    (hnd : (cs.map (·.name)).Nodup) :
    offeredSorted rootMax anc fair prio cs = stableSort (ownLess rootMax anc fair prio) (offeredCands cs) := by
  unfold offeredSorted
  apply stableSort_congr
  intro x hx y hy
  have hn := offeredCands_names_nodup cs hnd
  unfold ownLess childLess
  rw [fairMaxByQueue_slice _ _ hn x hx, fairMaxByQueue_slice _ _ hn y hy]
  rfl

/-! ### shares: exact fractions with a positive denominator -/

theorem shareForDen_den_pos (k : String) (a : Int) (d : ORes) (s : Share) (h : shareForDen k a d = some s) : 0 < s.den := by
  unfold shareForDen at h
  split at h
  · cases h
  · split at h
    · split at h
      · split at h <;> (cases h; decide)
      · cases h; simp only; omega
    · cases h

theorem fairShare_den_pos (a g f : ORes) : 0 < (fairShare a g f).den := by
  unfold fairShare
  refine List.foldlRecOn (motive := fun s : Share => 0 < s.den) _ _ (by decide) (fun mx h p _ => ?_)
  split
  · exact h
  · split
    next s hs =>
      split
      · cases h1 : shareForDen p.1 p.2 g with
        | some s1 =>
          rw [h1] at hs; simp at hs; subst hs
          exact shareForDen_den_pos _ _ _ _ h1
        | none =>
          rw [h1] at hs; simp at hs
          exact shareForDen_den_pos _ _ _ _ hs
      · exact h
    · exact h

theorem ownShare_den_pos (rootMax : ORes) (anc : List ORes) (c : Child) : 0 < (ownShare rootMax anc c).den :=
  fairShare_den_pos _ _ _

/-! ### the fair comparators on own keys: a lexicographic order whose last key is the pending tie-break -/

theorem ownLess_fifo_iff (rootMax : ORes) (anc : List ORes) (l r : Child) :
    ownLess rootMax anc false true l r = true ↔ l.prio > r.prio := by
  simp [ownLess, childLess]

theorem ownLess_prioFair_iff (rootMax : ORes) (anc : List ORes) (l r : Child) :
    ownLess rootMax anc true true l r = true ↔
      (l.prio > r.prio ∨ (l.prio = r.prio ∧
        (shareLt (ownShare rootMax anc l) (ownShare rootMax anc r) = true ∨
         (shareEq (ownShare rootMax anc l) (ownShare rootMax anc r) = true ∧ cPendingGt l r = true)))) := by
  unfold ownLess childLess ownShare
  simp only [if_true]
  rw [lexBool_iff, shareTie_iff]

theorem ownLess_fairPrio_iff (rootMax : ORes) (anc : List ORes) (l r : Child) :
    ownLess rootMax anc true false l r = true ↔
      (shareLt (ownShare rootMax anc l) (ownShare rootMax anc r) = true ∨
       (shareEq (ownShare rootMax anc l) (ownShare rootMax anc r) = true ∧
         (l.prio > r.prio ∨ (l.prio = r.prio ∧ cPendingGt l r = true)))) := by
  unfold ownLess childLess ownShare
  simp only [if_true, Bool.false_eq_true, if_false]
  rw [shareTie_iff, lexBool_iff]

/-- what the fair policies need of the pending tie-break on a set of candidates: irreflexive, and transitive inside a
    group of equal priority and equal share (the only place it is consulted) -/
def PendingTieOrder (rootMax : ORes) (anc : List ORes) (L : List Child) : Prop :=
  (∀ x ∈ L, cPendingGt x x = false) ∧
  (∀ x ∈ L, ∀ y ∈ L, ∀ z ∈ L, x.prio = y.prio → y.prio = z.prio →
     shareEq (ownShare rootMax anc x) (ownShare rootMax anc y) = true →
     shareEq (ownShare rootMax anc y) (ownShare rootMax anc z) = true →
     cPendingGt x y = true → cPendingGt y z = true → cPendingGt x z = true)

theorem pendingTieOrder_perm (rootMax : ORes) (anc : List ORes) (L₁ L₂ : List Child) (h : L₁.Perm L₂)
    (hp : PendingTieOrder rootMax anc L₁) : PendingTieOrder rootMax anc L₂ :=
  ⟨fun x hx => hp.1 x (h.mem_iff.mpr hx),
   fun x hx y hy z hz => hp.2 x (h.mem_iff.mpr hx) y (h.mem_iff.mpr hy) z (h.mem_iff.mpr hz)⟩

theorem ownLess_fair_irrefl (rootMax : ORes) (anc : List ORes) (prio : Bool) (x : Child) (hp : cPendingGt x x = false) :
    ownLess rootMax anc true prio x x = false := by
  rw [← Bool.not_eq_true]
  cases prio
  · rw [ownLess_fairPrio_iff]; simp [shareLt_irrefl, hp]
  · rw [ownLess_prioFair_iff]; simp [shareLt_irrefl, hp]

theorem ownLess_fair_trans (rootMax : ORes) (anc : List ORes) (prio : Bool) {L : List Child}
    (hp : PendingTieOrder rootMax anc L) {x y z : Child} (hx : x ∈ L) (hy : y ∈ L) (hz : z ∈ L)
    (h1 : ownLess rootMax anc true prio x y = true) (h2 : ownLess rootMax anc true prio y z = true) :
    ownLess rootMax anc true prio x z = true := by
  have hP := hp.2 x hx y hy z hz
  have dx := ownShare_den_pos rootMax anc x
  have dy := ownShare_den_pos rootMax anc y
  have dz := ownShare_den_pos rootMax anc z
  cases prio
  · rw [ownLess_fairPrio_iff] at *
    exact share_lex_trans (ownShare rootMax anc)
      (fun a b => a.prio > b.prio ∨ (a.prio = b.prio ∧ cPendingGt a b = true)) x y z dx dy dz
      (fun e1 e2 => prio_lex_trans (·.prio) (fun a b => cPendingGt a b = true) x y z (fun p1 p2 => hP p1 p2 e1 e2))
      h1 h2
  · rw [ownLess_prioFair_iff] at *
    exact prio_lex_trans (·.prio)
      (fun a b => shareLt (ownShare rootMax anc a) (ownShare rootMax anc b) = true ∨
        (shareEq (ownShare rootMax anc a) (ownShare rootMax anc b) = true ∧ cPendingGt a b = true)) x y z
      (fun p1 p2 => share_lex_trans (ownShare rootMax anc) (fun a b => cPendingGt a b = true) x y z dx dy dz
        (hP p1 p2)) h1 h2

theorem ownLess_order_on (rootMax : ORes) (anc : List ORes) (fair prio : Bool) (L : List Child)
    (hp : fair = true → PendingTieOrder rootMax anc L) :
    (∀ a ∈ L, ownLess rootMax anc fair prio a a = false) ∧
    (∀ a ∈ L, ∀ b ∈ L, ∀ c ∈ L, ownLess rootMax anc fair prio a b = true → ownLess rootMax anc fair prio b c = true →
      ownLess rootMax anc fair prio a c = true) := by
  cases fair
  · cases prio
    · exact ⟨fun a _ => by simp [ownLess, childLess], fun a _ b _ c _ h => by simp [ownLess, childLess] at h⟩
    · refine ⟨fun a _ => ?_, fun a _ b _ c _ h1 h2 => ?_⟩
      · rw [← Bool.not_eq_true, ownLess_fifo_iff]; omega
      · rw [ownLess_fifo_iff] at *; omega
  · exact ⟨fun a ha => ownLess_fair_irrefl rootMax anc prio a ((hp rfl).1 a ha),
      fun a ha b hb c hc => ownLess_fair_trans rootMax anc prio (hp rfl) ha hb hc⟩

/-- sortQueues, all policies: exactly the candidates, no inversion with respect to the comparator on OWN keys -/
theorem offeredSorted_spec (rootMax : ORes) (anc : List ORes) (fair prio : Bool) (cs : List Child)
    (hnd : (cs.map (·.name)).Nodup) (hp : fair = true → PendingTieOrder rootMax anc (offeredCands cs)) :
    (offeredSorted rootMax anc fair prio cs).Perm (offeredCands cs) ∧
    sortedBy (ownLess rootMax anc fair prio) (offeredSorted rootMax anc fair prio cs) = true := by
  rw [offeredSorted_eq_own rootMax anc fair prio cs hnd]
  obtain ⟨hi, ht⟩ := ownLess_order_on rootMax anc fair prio (offeredCands cs) hp
  exact ⟨stableSort_perm _ _, stableSort_sorted_on _ _ hi ht⟩

/-! ### the pending tie-break on children is that of the `queues` model (for `C19.own_keys_are_queue_keys`) -/

theorem cPendingGt_eq (rank : Child → Int) (l r : Child) : cPendingGt l r = pendingGt (toQKey rank l) (toQKey rank r) := by
  unfold cPendingGt pendingGt toQKey
  cases hr : r.pending with
  | none => simp [sub, orZero, zipFold]
  | some rp => simp [sub, orZero]

/-! ### the priority key of a queue -/

theorem clampPrio_bounds (x : Int) : minPrio ≤ clampPrio x ∧ clampPrio x ≤ maxPrio := by
  unfold clampPrio minPrio maxPrio; omega

theorem clampPrio_mono {x y : Int} (h : x ≤ y) : clampPrio x ≤ clampPrio y := by
  unfold clampPrio minPrio maxPrio; omega

theorem priorityValue_default (offset prio : Int) (hp : prio ≠ minPrio) :
    priorityValue false offset prio = clampPrio (offset + prio) := by
  unfold priorityValue; simp [hp]

theorem maxPriority_foldl (items : List Int) (acc : Int) :
    acc ≤ items.foldl (fun curr v => max v curr) acc ∧ (∀ v ∈ items, v ≤ items.foldl (fun curr v => max v curr) acc) ∧
    (items.foldl (fun curr v => max v curr) acc = acc ∨ items.foldl (fun curr v => max v curr) acc ∈ items) := by
  induction items generalizing acc with
  | nil => simp
  | cons x t ih =>
    simp only [List.foldl_cons, List.mem_cons]
    obtain ⟨h1, h2, h3⟩ := ih (max x acc)
    refine ⟨by omega, ?_, ?_⟩
    · intro v hv
      rcases hv with rfl | hv
      · omega
      · exact h2 v hv
    · rcases h3 with h3 | h3
      · rw [h3]
        by_cases hx : x ≤ acc
        · left; omega
        · right; left; omega
      · right; right; exact h3

/-! ### the priority key of an application -/

theorem outstanding_ignores_allocated (e₁ e₂ : List (Int × Bool)) (p : Int) :
    outstanding (e₁ ++ [(p, true)] ++ e₂) = outstanding (e₁ ++ e₂) := by
  simp [outstanding]

end Yk
