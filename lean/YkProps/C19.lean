/-
  C19 — Scheduling order is a deterministic function of the documented sort keys.
  `stableSort` models sort.SliceStable; the comparators are those of sorters.go over the sort keys (float-valued
  keys by rank).  The driver presents every candidate set to the real sort functions in two permutations and checks
  (1) agreement with this model whenever the comparator is a strict weak order on the set, (2) the statement itself:
  every pair the policy distinguishes comes out in the same relative order.
-/
import YkProofs.SortChildren
import YkProofs.SortNodes
namespace Yk.C19
open Yk

/-- A stable sort by an irreflexive, transitive comparator returns the candidates (a permutation of any presentation
    of them) with no inversion: no element comes after one it is strictly less than.
    (Irreflexivity is needed: with `lt := fun _ _ => true`, which is transitive, `stableSort lt [a, a] = [a, a]` and
    `sortedBy lt [a, a] = false`.) -/
theorem sorted_permutation {α} (lt : α → α → Bool) (hirr : ∀ a, lt a a = false)
    (htr : ∀ a b c, lt a b = true → lt b c = true → lt a c = true) (l : List α) :
    (stableSort lt l).Perm l ∧ sortedBy lt (stableSort lt l) = true :=
  ⟨stableSort_perm lt l, stableSort_sorted_on lt l (fun a _ => hirr a) (fun a _ b _ c _ => htr a b c)⟩

/-- Hence the order does not depend on how the candidates were stored: for two presentations l₁ ~ l₂ of the same
    candidates, every pair (x, y) the policy distinguishes (lt x y, with an asymmetric lt) has x before y in both results —
    there is no position pair i < j with y at i and x at j. -/
theorem permutation_invariant {α} (lt : α → α → Bool) (hirr : ∀ a, lt a a = false)
    (htr : ∀ a b c, lt a b = true → lt b c = true → lt a c = true)
    (l₁ l₂ : List α) (hp : l₁.Perm l₂) :
    (stableSort lt l₁).Perm (stableSort lt l₂) ∧
    (∀ out ∈ [stableSort lt l₁, stableSort lt l₂], ∀ (i j : Nat) (x y : α), i < j → out[i]? = some y → out[j]? = some x → lt x y = false) := by
  obtain ⟨hp1, hs1⟩ := sorted_permutation lt hirr htr l₁
  obtain ⟨hp2, hs2⟩ := sorted_permutation lt hirr htr l₂
  exact ⟨hp1.trans (hp.trans hp2.symm),
    List.forall_mem_cons.2 ⟨sortedBy_no_inversion hs1, List.forall_mem_singleton.2 (sortedBy_no_inversion hs2)⟩⟩

/-- The comparators over totally ordered keys are strict weak orders (irreflexive, transitive, incomparability
    transitive): queue priority, and the four application policies. -/
theorem comparators_strict_weak_order :
    (∀ l : List QKey, isSWO qLessPrio l = true) ∧
    (∀ l : List AKey, isSWO aLessFairPrio l = true ∧ isSWO aLessPrioFair l = true ∧
                      isSWO aLessSubmitPrio l = true ∧ isSWO aLessPrioSubmit l = true) := by
  refine ⟨fun l => ?_, fun l => ⟨?_, ?_, ?_, ?_⟩⟩
  · exact isSWO_lex _ (fun k => -k.prio) (fun _ => 0) l (fun x _ y _ => by rw [qLessPrio_iff]; omega)
  · exact isSWO_lex _ (fun k => k.share) (fun k => -k.prio) l (fun x _ y _ => by rw [aLessFairPrio_iff]; omega)
  · exact isSWO_lex _ (fun k => -k.prio) (fun k => k.share) l (fun x _ y _ => by rw [aLessPrioFair_iff]; omega)
  · exact isSWO_lex _ (fun k => k.submit) (fun k => -k.prio) l (fun x _ y _ => by rw [aLessSubmitPrio_iff]; omega)
  · exact isSWO_lex _ (fun k => -k.prio) (fun k => k.submit) l (fun x _ y _ => by rw [aLessPrioSubmit_iff]; omega)

/-- … and so are the two fair queue policies as long as the pending tie-break is not reached (no two candidates agree on
    both priority and share). -/
theorem fair_queue_swo_without_tiebreak (l : List QKey)
    (h : ∀ x ∈ l, ∀ y ∈ l, x.prio = y.prio → x.share = y.share → x = y) (hp : ∀ x ∈ l, pendingGt x x = false) :
    isSWO qLessPrioFair l = true ∧ isSWO qLessFairPrio l = true := by
  -- the tie-break is never reached between different candidates: both policies are lexicographic in (priority, share)
  have ht : ∀ x ∈ l, ∀ y ∈ l, pendingGt x y = true → ¬ (x.prio = y.prio ∧ x.share = y.share) :=
    fun x hx y hy hg he => by rw [← h x hx y hy he.1 he.2, hp x hx] at hg; cases hg
  constructor
  · refine isSWO_lex _ (fun k => -k.prio) (fun k => k.share) l (fun x hx y hy => ?_)
    rw [qLessPrioFair_iff]
    cases hg : pendingGt x y with
    | false => simp only [Bool.false_eq_true, and_false, or_false]; omega
    | true => have := ht x hx y hy hg; simp only [and_true]; omega
  · refine isSWO_lex _ (fun k => k.share) (fun k => -k.prio) l (fun x hx y hy => ?_)
    rw [qLessFairPrio_iff]
    cases hg : pendingGt x y with
    | false => simp only [Bool.false_eq_true, and_false, or_false]; omega
    | true => have := ht x hx y hy hg; simp only [and_true]; omega

/-- The unrestricted statement is false for the fair queue policies: the pending tie-break is a product order, its
    incomparability is not transitive (KNOWN_FINDINGS C19 queues-pending-tiebreak-not-weak-order). -/
theorem pending_tiebreak_not_weak_order :
    ∃ a b c : QKey, isSWO qLessPrioFair [a, b, c] = false ∧
      qLessPrioFair a b = false ∧ qLessPrioFair b a = false ∧ qLessPrioFair b c = false ∧ qLessPrioFair c b = false ∧
      qLessPrioFair c a = true :=
  ⟨⟨"a", 0, 0, [("cpu", 1), ("mem", 0)]⟩, ⟨"b", 0, 0, [("cpu", 0), ("mem", 1)]⟩, ⟨"c", 0, 0, [("cpu", 2), ("mem", 0)]⟩, by decide⟩

/-- Asks of an application: inserting into a list that is in the documented order (priority descending, creation time
    ascending) keeps it in that order and keeps exactly the asks; removing an ask removes exactly one entry. -/
theorem asks_stay_sorted (s : List AskKey) (a : AskKey) (hs : sortedBy askBefore s = true) :
    sortedBy askBefore (askInsert s a) = true ∧ (askInsert s a).Perm (a :: s) := by
  unfold askInsert
  split
  next last hlast =>
    split
    next hlt =>
      rw [askLessThan_iff] at hlt
      refine ⟨?_, List.perm_append_singleton a s⟩
      obtain ⟨ys, rfl⟩ := List.getLast?_eq_some_iff.mp hlast
      rw [sortedBy_iff] at hs ⊢
      rw [List.pairwise_append]
      refine ⟨hs, by simp, ?_⟩
      intro w hw b hb
      rcases List.mem_singleton.mp hb with rfl
      -- w ≤ last ≤ b
      have hwl : askBefore last w = false := by
        rw [List.pairwise_append] at hs
        rcases List.mem_append.mp hw with hw1 | hw2
        · exact hs.2.2 w hw1 last (by simp)
        · rcases List.mem_singleton.mp hw2 with rfl
          rw [askBefore_false_iff]; omega
      exact askBefore_false_trans w last b hwl hlt
    next hlt =>
      show sortedBy askBefore (s.take ((s.findIdx? _).getD s.length) ++ [a] ++ s.drop ((s.findIdx? _).getD s.length)) = true ∧
        (s.take ((s.findIdx? _).getD s.length) ++ [a] ++ s.drop ((s.findIdx? _).getD s.length)).Perm (a :: s)
      rw [insBefore_eq_take_drop]
      exact ⟨askInsert_middle_sorted a s hs, insBefore_perm _ a s⟩
  next hnone =>
    exact ⟨by simp [sortedBy], by
      have : s = [] := by simpa using hnone
      subst this; exact List.Perm.refl _⟩

theorem asks_remove (s : List AskKey) (key : String) (hs : sortedBy askBefore s = true) :
    sortedBy askBefore (askRemove s key) = true ∧ (askRemove s key).length ≤ s.length := by
  unfold askRemove
  split
  next i hi =>
    rw [← List.eraseIdx_eq_take_drop_succ]
    have hsub : (s.eraseIdx i).Sublist s := List.eraseIdx_sublist s i
    refine ⟨?_, hsub.length_le⟩
    rw [sortedBy_iff] at hs ⊢
    exact hs.sublist hsub
  next => exact ⟨hs, Nat.le_refl _⟩

example : (stableSort qLessPrio [⟨"a", 1, 0, []⟩, ⟨"b", 3, 0, []⟩, ⟨"c", 1, 0, []⟩]).map (·.id) = ["b", "a", "c"] := by decide
example : sortedBy askBefore (askInsert (askInsert [] ⟨"k1", 1, 5⟩) ⟨"k2", 2, 9⟩) = true := by decide

/-! ### the children a parent queue offers: `Queue.sortQueues()` with `GetFairMaxResource()` per child

`offeredSorted rootMax anc fair prio cs` models sortQueues of a parent whose ancestors below the root have the own
maxima `anc` (top down, the parent last), over the children `cs` in the order the map iteration presented them: filter
(not stopped, pending > 0), the parallel slice of `child.GetFairMaxResource()`, `fairMaxByQueue`, the stable sort.
`ownLess` is the same comparator written on a child's own keys only. -/

/-- The fair max chain, per resource type: a queue's own max wins for the types it names, every other type comes from
    the value handed down by its parent … -/
theorem fair_max_child_wins (limit own : Res) (hw : Res.wf own = true) (ho : own ≠ []) (hl : limit ≠ []) (k : String) :
    (fairMaxMerge (some limit) (some own)).map (fun r => Res.get? r k) = some ((Res.get? own k).or (Res.get? limit k)) := by
  unfold fairMaxMerge isEmpty
  have h1 : own.isEmpty = false := by cases own <;> simp_all
  have h2 : limit.isEmpty = false := by cases limit <;> simp_all
  simp only [h1, h2, Bool.or_self, Bool.false_eq_true, if_false, Option.map_some, orZero, Option.getD_some]
  rw [foldl_set_get? _ (·.2) (fun _ _ => rfl) own hw limit k]
  cases Res.get? own k <;> rfl

/-- … and a queue without own max, or below a parent that hands down nothing (no node registered yet), passes the
    parent's value on unchanged: its own max is ignored. -/
theorem fair_max_passed_on (limit own : ORes) (h : isEmpty own = true ∨ isEmpty limit = true) :
    fairMaxMerge limit own = limit := by
  unfold fairMaxMerge
  rcases h with h | h <;> simp [h]

/-- Sharing is impossible: the fair max sortQueues hands to the comparator for a candidate `c` is
    `fairMaxOf rootMax anc c.max` — a function of the ancestors' maxima and of `c`'s own max. Hence it is the same
    whatever the siblings are (two arbitrary sibling lists `cs₁`, `cs₂`, any order) and wherever `c` stands. -/
theorem fair_max_is_own (rootMax : ORes) (anc : List ORes) (cs₁ cs₂ : List Child)
    (h₁ : (cs₁.map (·.name)).Nodup) (h₂ : (cs₂.map (·.name)).Nodup) (c : Child)
    (hc₁ : c ∈ offeredCands cs₁) (hc₂ : c ∈ offeredCands cs₂) :
    let pf := fairMaxChain rootMax anc
    fairMaxByQueue (offeredCands cs₁) (fairMaxSlice pf (offeredCands cs₁)) c = fairMaxOf rootMax anc c.max ∧
    fairMaxByQueue (offeredCands cs₂) (fairMaxSlice pf (offeredCands cs₂)) c = fairMaxOf rootMax anc c.max :=
  ⟨fairMaxByQueue_slice _ _ (offeredCands_names_nodup cs₁ h₁) c hc₁, fairMaxByQueue_slice _ _ (offeredCands_names_nodup cs₂ h₂) c hc₂⟩

/-- The statement has teeth: with ONE fair-max object shared by the siblings (every child merging its own max into the
    same accumulator — `fairMaxSliceShared`, not the code) a child is compared using its sibling's maximum. -/
theorem shared_fair_max_is_not_own :
    ∃ (pf : ORes) (a b : Child),
      fairMaxByQueue [a, b] (fairMaxSliceShared pf [a, b]) a ≠ fairMaxMerge pf a.max ∧
      fairMaxByQueue [a, b] (fairMaxSlice pf [a, b]) a = fairMaxMerge pf a.max :=
  ⟨some [("cpu", 100)], ⟨"a", some [("cpu", 10)], none, none, none, 0, false⟩, ⟨"b", some [("cpu", 50)], none, none, none, 0, false⟩,
   by decide, by decide⟩

/-- What is offered: exactly the children that are not stopped and have pending resources strictly greater than zero
    (a draining child is still offered), each once. -/
theorem offered_children (rootMax : ORes) (anc : List ORes) (fair prio : Bool) (cs : List Child) :
    (offeredSorted rootMax anc fair prio cs).Perm (cs.filter (fun c => !c.stopped && strictlyGreaterThanZero c.pending)) :=
  stableSort_perm _ _

/-- Clause C19.children-own-fair-max. For EVERY set of siblings `cs` (distinct names) and two candidates `x`, `y` in it:
    if the comparator on their own keys (allocated, guaranteed, own fair max, pending, priority — `ownLess` mentions
    nothing else) puts `x` first, then `x` stands before `y` in what sortQueues returns. The siblings and the
    presentation order do not appear in the condition. For the fair policies the pending tie-break must be an order
    inside each group of equal priority and share (`PendingTieOrder`; see `pending_tiebreak_not_weak_order`). -/
theorem children_order_own_keys (rootMax : ORes) (anc : List ORes) (fair prio : Bool) (cs : List Child)
    (hnd : (cs.map (·.name)).Nodup) (hp : fair = true → PendingTieOrder rootMax anc (offeredCands cs))
    (x y : Child) (hx : x ∈ offeredCands cs) (hy : y ∈ offeredCands cs) (hxy : ownLess rootMax anc fair prio x y = true) :
    ∃ i j : Nat, i < j ∧ (offeredSorted rootMax anc fair prio cs)[i]? = some x ∧ (offeredSorted rootMax anc fair prio cs)[j]? = some y := by
  obtain ⟨hperm, hs⟩ := offeredSorted_spec rootMax anc fair prio cs hnd hp
  exact before_of_sorted _ _ hs x y (hperm.mem_iff.mpr hx) (hperm.mem_iff.mpr hy) hxy
    ((ownLess_order_on rootMax anc fair prio (offeredCands cs) hp).1 x hx)

/-- Presentation invariance lifted to sortQueues: two presentations of the same children (the map iterated in another
    order) offer the same candidates, and neither result has an inversion with respect to the own-key comparator. -/
theorem children_presentation_invariant (rootMax : ORes) (anc : List ORes) (fair prio : Bool) (cs₁ cs₂ : List Child)
    (hperm : cs₁.Perm cs₂) (hnd : (cs₁.map (·.name)).Nodup) (hp : fair = true → PendingTieOrder rootMax anc (offeredCands cs₁)) :
    (offeredSorted rootMax anc fair prio cs₁).Perm (offeredSorted rootMax anc fair prio cs₂) ∧
    (∀ out ∈ [offeredSorted rootMax anc fair prio cs₁, offeredSorted rootMax anc fair prio cs₂],
      ∀ (i j : Nat) (x y : Child), i < j → out[i]? = some y → out[j]? = some x → ownLess rootMax anc fair prio x y = false) := by
  have hc : (offeredCands cs₁).Perm (offeredCands cs₂) := hperm.filter _
  have hnd₂ : (cs₂.map (·.name)).Nodup := (hperm.map _).nodup_iff.mp hnd
  have hp₂ : fair = true → PendingTieOrder rootMax anc (offeredCands cs₂) := fun h => pendingTieOrder_perm _ _ _ _ hc (hp h)
  obtain ⟨p1, s1⟩ := offeredSorted_spec rootMax anc fair prio cs₁ hnd hp
  obtain ⟨p2, s2⟩ := offeredSorted_spec rootMax anc fair prio cs₂ hnd₂ hp₂
  exact ⟨p1.trans (hc.trans p2.symm),
    List.forall_mem_cons.2 ⟨sortedBy_no_inversion s1, List.forall_mem_singleton.2 (sortedBy_no_inversion s2)⟩⟩

/-- `ownLess` IS the comparator of the `queues` model (qLessPrioFair / qLessFairPrio / qLessPrio above) applied to the child
    with the rank of its own share: for any ranking that orders the two shares as the exact fractions do. -/
theorem own_keys_are_queue_keys (rootMax : ORes) (anc : List ORes) (rank : Child → Int) (l r : Child)
    (hlt : rank l < rank r ↔ shareLt (ownShare rootMax anc l) (ownShare rootMax anc r) = true)
    (heq : rank l = rank r ↔ shareEq (ownShare rootMax anc l) (ownShare rootMax anc r) = true) :
    ownLess rootMax anc true true l r = qLessPrioFair (toQKey rank l) (toQKey rank r) ∧
    ownLess rootMax anc true false l r = qLessFairPrio (toQKey rank l) (toQKey rank r) ∧
    ownLess rootMax anc false true l r = qLessPrio (toQKey rank l) (toQKey rank r) := by
  refine ⟨?_, ?_, ?_⟩
  · rw [Bool.eq_iff_iff, ownLess_prioFair_iff, qLessPrioFair_iff, ← cPendingGt_eq rank l r, ← hlt, ← heq]; rfl
  · rw [Bool.eq_iff_iff, ownLess_fairPrio_iff, qLessFairPrio_iff, ← cPendingGt_eq rank l r, ← hlt, ← heq]; rfl
  · rw [Bool.eq_iff_iff, ownLess_fifo_iff, qLessPrio_iff]; rfl

/-- `PendingTieOrder`, the hypothesis of `children_order_own_keys` and `children_presentation_invariant`, holds whenever no two candidates agree on both priority and share
    (`fair_queue_swo_without_tiebreak` lifted to children) … -/
theorem pending_tie_order_without_tie (rootMax : ORes) (anc : List ORes) (L : List Child)
    (hirr : ∀ x ∈ L, cPendingGt x x = false)
    (h : ∀ x ∈ L, ∀ y ∈ L, x.prio = y.prio → shareEq (ownShare rootMax anc x) (ownShare rootMax anc y) = true → x = y) :
    PendingTieOrder rootMax anc L := by
  refine ⟨hirr, ?_⟩
  intro x hx y hy z hz p1 p2 e1 e2 g1 g2
  have := h x hx y hy p1 e1
  subst this
  rw [hirr x hx] at g1; cases g1

/-- … and is false in general, for children as for the `queues` candidates: three children with equal priority and share
    whose pending vectors are (1,0), (0,1), (2,0) (known finding C19.queues-pending-tiebreak-not-weak-order). -/
theorem children_tiebreak_not_weak_order :
    ∃ a b c : Child, isSWO (ownLess none [] true true) [a, b, c] = false ∧
      ownLess none [] true true a b = false ∧ ownLess none [] true true b a = false ∧
      ownLess none [] true true b c = false ∧ ownLess none [] true true c b = false ∧ ownLess none [] true true c a = true :=
  ⟨⟨"a", none, none, none, some [("cpu", 1), ("mem", 0)], 0, false⟩, ⟨"b", none, none, none, some [("cpu", 0), ("mem", 1)], 0, false⟩,
   ⟨"c", none, none, none, some [("cpu", 2), ("mem", 0)], 0, false⟩, by decide⟩

/-- … and without the fair policy nothing is assumed: by priority only, or (fifo, priority off) not sorted at all — the
    candidates stay as the map iteration presented them. -/
theorem children_unsorted (rootMax : ORes) (anc : List ORes) (cs : List Child) :
    offeredSorted rootMax anc false false cs = offeredCands cs := by
  have : childLess false false (fairMaxByQueue (offeredCands cs) (fairMaxSlice (fairMaxChain rootMax anc) (offeredCands cs))) = (fun _ _ => false) := by
    funext l r; simp [childLess]
  unfold offeredSorted
  simp only [this]
  exact stableSort_false _

-- a parent with max {cpu 100} below a root with {cpu 200, mem 400}: child a (own max cpu 10) uses 5/10, child b (no own max) 20/100
example : (offeredSorted (some [("cpu", 200), ("mem", 400)]) [some [("cpu", 100)]] true false
    [⟨"a", some [("cpu", 10)], none, some [("cpu", 5)], some [("cpu", 1)], 0, false⟩,
     ⟨"b", none, none, some [("cpu", 20)], some [("cpu", 1)], 0, false⟩,
     ⟨"c", none, none, some [("cpu", 1)], some [("cpu", 1)], 0, true⟩,
     ⟨"d", none, none, some [("cpu", 1)], none, 0, false⟩]).map (·.name) = ["b", "a"] := by decide
example : fairMaxOf (some [("cpu", 200), ("mem", 400)]) [some [("cpu", 100)]] (some [("gpu", 2), ("cpu", 10)]) =
    some [("cpu", 10), ("mem", 400), ("gpu", 2)] := by decide

/-! ### the priority key of a queue: `GetCurrentPriority()` = `priorityValueByPolicy(policy, offset, currentPriority)`

`PrioQueue.value` computes the key from the policy, the offset and the priorities of the pending asks of the applications
below (a leaf: the largest askMaxPriority; a parent: the largest value its children report) — exact integers. -/

/-- The key saturates at the int32 bounds and never wraps: under the default policy it is offset + priority when that
    sum is an int32, MaxPriority when the sum is larger, MinPriority when it is smaller. -/
theorem priority_key_saturates (offset prio : Int) (hp : prio ≠ minPrio) :
    (offset + prio > maxPrio → priorityValue false offset prio = maxPrio) ∧
    (offset + prio < minPrio → priorityValue false offset prio = minPrio) ∧
    (minPrio ≤ offset + prio → offset + prio ≤ maxPrio → priorityValue false offset prio = offset + prio) := by
  rw [priorityValue_default offset prio hp]
  unfold clampPrio minPrio maxPrio; omega

/-- The key is monotone in offset + priority: a queue whose offset + priority is not smaller never gets a smaller key
    (so the sibling with the highest priority is never sorted behind the others by an overflow). `p₂ ≠ MinPriority`:
    MinPriority means "nothing pending" and is passed through unchanged, whatever the offset. -/
theorem priority_key_monotone (o₁ p₁ o₂ p₂ : Int) (h2 : p₂ ≠ minPrio) (h : o₁ + p₁ ≤ o₂ + p₂) :
    priorityValue false o₁ p₁ ≤ priorityValue false o₂ p₂ := by
  rw [priorityValue_default o₂ p₂ h2]
  by_cases h1 : p₁ = minPrio
  · have : priorityValue false o₁ p₁ = minPrio := by unfold priorityValue; simp [h1]
    rw [this]; exact (clampPrio_bounds _).1
  · rw [priorityValue_default o₁ p₁ h1]; exact clampPrio_mono h

/-- Whatever the policy, the key of a queue with int32 offset is an int32. -/
theorem priority_key_in_range (q : PrioQueue) (ho : minPrio ≤ q.offset ∧ q.offset ≤ maxPrio) :
    minPrio ≤ q.value ∧ q.value ≤ maxPrio := by
  unfold PrioQueue.value priorityValue
  split
  next h => have : q.current = minPrio := by simpa using h
            rw [this]; decide
  next h =>
    split
    · exact ho
    · exact clampPrio_bounds _

/-- currentPriority is the maximum it is documented to be: at least MinPriority, at least every item, and one of them
    (or MinPriority when there is nothing pending below). -/
theorem current_priority_is_max (items : List Int) :
    minPrio ≤ maxPriority items ∧ (∀ v ∈ items, v ≤ maxPriority items) ∧ (maxPriority items = minPrio ∨ maxPriority items ∈ items) :=
  maxPriority_foldl items minPrio

/-- The priority of an application is the maximum over its OUTSTANDING asks: an allocated entry (allocated by the
    scheduler, recovered after a restart or placed by the RM), whatever its priority and wherever it stands in the
    history, leaves `askMaxPriority` unchanged — and with it the current priority of the leaf queue and of its parents,
    which are functions of the applications' values only (`PrioLeaf.current`, `PrioQueue.value`). -/
theorem current_priority_ignores_allocated (e₁ e₂ : List (Int × Bool)) (p : Int) (fence : Bool) (offset : Int)
    (others : List (List Int)) :
    askMaxPriority (e₁ ++ [(p, true)] ++ e₂) = askMaxPriority (e₁ ++ e₂) ∧
    (PrioLeaf.mk fence offset (outstanding (e₁ ++ [(p, true)] ++ e₂) :: others)).value =
      (PrioLeaf.mk fence offset (outstanding (e₁ ++ e₂) :: others)).value := by
  unfold askMaxPriority
  rw [outstanding_ignores_allocated]
  exact ⟨rfl, rfl⟩

-- a recovered allocation of priority 9 next to pending asks of priority 1 and 2: the application's priority is 2
example : askMaxPriority [(9, true), (1, false), (2, false)] = 2 := by decide
example : askMaxPriority [(9, true)] = minPrio := by decide

-- system-critical ask priority below an offset queue: 2000000000 + 1000000000 saturates (a wrapping int32 sum gives -1294967296)
example : (PrioQueue.mk false 1000000000 true [[2000000000, 5], [7]] []).value = 2147483647 := by decide
example : (PrioQueue.mk false (-1000000000) false [] [⟨false, -1000000000, [[-2000000000]]⟩, ⟨true, 5, [[]]⟩]).value = -2147483648 := by decide
example : (PrioQueue.mk false 10 false [] [⟨true, 5, [[1]]⟩, ⟨false, 0, [[3], [2]]⟩]).value = 15 := by decide

/-! ### the score of a node: `ScoreNode` = `absResourceUsage` over `Node.GetResourceUsageShares()`

`nodeScore binpacking weights n` computes the score from the capacity, the allocated and occupied resources of the node
and the (integral) resource weights of the policy, as an exact fraction; `nodeOrder` is the order of the sorted node tree. -/

/-- A usage share is 1 - available/total over the PRUNED available resource: a missing entry means nothing is left, the
    type counts as fully used (share total/total = 1); a present entry v gives (total - v)/total … -/
theorem usage_share_missing_is_fully_used (avail : Res) (k : String) (t : Int) :
    (Res.get? avail k = none → usageShare avail k t = ⟨t, t⟩) ∧
    (∀ v, Res.get? avail k = some v → usageShare avail k t = ⟨t - v, t⟩) :=
  ⟨fun h => by unfold usageShare; rw [Res.getD_eq_get?, h]; simp,
   fun v h => by unfold usageShare; rw [Res.getD_eq_get?, h]; simp⟩

/-- … so pruning is not observable: an explicit zero entry and a pruned entry give the same share. -/
theorem usage_share_ignores_pruning (avail : Res) (hw : Res.wf avail = true) (k : String) (t : Int) :
    usageShare (prune avail) k t = usageShare avail k t := by
  unfold usageShare; rw [prune_getD avail hw k]

/-- The usage of a node (= its fair score) is the weighted mean of its usage shares, as a rational number:
    (Σ weight_k · (1 - available_k / total_k)) / Σ weight_k over the types of the capacity that have a weight other than
    zero, available_k read from total - allocated - occupied with a missing entry as 0. (Positive totals and weights.) -/
theorem node_usage_is_weighted_mean (weights : Res) (n : NodeKey) (hm : nodeModelled weights n = true)
    (h : ((weightedTypes weights n.cap).map (·.1)).foldl (· + ·) 0 ≠ 0) :
    (nodeUsage weights n).toRat =
      (weightedTypes weights n.cap).foldl
        (fun acc t => acc + (t.1 : Rat) * (1 - (((nodeAvail n).getD t.2.1 : Int) : Rat) / (t.2.2 : Rat))) 0 /
      ((((weightedTypes weights n.cap).map (·.1)).foldl (· + ·) 0 : Int) : Rat) := by
  have htw := totalWeight_pos weights n hm h
  have hp : ∀ t ∈ weightedTypes weights n.cap, 0 < t.2.2 := fun t ht => ((nodeModelled_iff weights n).mp hm t ht).2
  obtain ⟨e, p⟩ := weightedUsageSum_foldl (nodeAvail n) _ hp ⟨0, 1⟩ (by decide)
  have h0 : (⟨0, 1⟩ : Share).toRat = 0 := by simp only [Share.toRat]; grind
  rw [h0] at e
  unfold nodeUsage
  simp only
  have hne : (((weightedTypes weights n.cap).map (·.1)).foldl (· + ·) 0 == 0) = false := by simpa using h
  rw [hne]
  simp only [Bool.false_eq_true, if_false]
  rw [← e]
  unfold weightedUsageSum Share.toRat
  simp only [Rat.intCast_mul]
  have h1 := intCast_ne_zero_of_pos p
  have h2 := intCast_ne_zero_of_pos htw
  unfold weightedUsageSum at h1
  grind

/-- The order of the sorted node tree: a permutation of the nodes without inversion — no node stands behind one with a
    larger score, and among equal scores none stands behind a larger node id: ascending score, ties by node id. -/
theorem node_order_ascending (binpacking : Bool) (weights : Res) (nodes : List NodeKey)
    (hm : ∀ n ∈ nodes, nodeModelled weights n = true) :
    (nodeOrder binpacking weights nodes).Perm nodes ∧
    (∀ (i j : Nat) (a b : NodeKey), i < j → (nodeOrder binpacking weights nodes)[i]? = some a →
      (nodeOrder binpacking weights nodes)[j]? = some b →
      shareLt (nodeScore binpacking weights b) (nodeScore binpacking weights a) = false ∧
      (shareEq (nodeScore binpacking weights b) (nodeScore binpacking weights a) = true → ¬ b.id < a.id)) := by
  obtain ⟨hi, ht⟩ := nodeBefore_order_on binpacking weights nodes hm
  have hs := stableSort_sorted_on (nodeBefore binpacking weights) nodes hi ht
  refine ⟨stableSort_perm _ _, ?_⟩
  intro i j a b hij ha hb
  have := sortedBy_no_inversion hs i j b a hij ha hb
  have hn : ¬ (nodeBefore binpacking weights b a = true) := by rw [this]; simp
  rw [nodeBefore_iff] at hn
  constructor
  · cases h : shareLt (nodeScore binpacking weights b) (nodeScore binpacking weights a) with
    | false => rfl
    | true => exact absurd (Or.inl h) hn
  · intro he hlt; exact hn (Or.inr ⟨he, hlt⟩)

/-- Fair sorts ascending in the usage; binpacking (score 1 - usage) descending in it. -/
theorem node_order_fair_binpacking (weights : Res) (a b : NodeKey) :
    nodeScore false weights a = nodeUsage weights a ∧
    shareLt (nodeScore true weights a) (nodeScore true weights b) = shareLt (nodeUsage weights b) (nodeUsage weights a) := by
  refine ⟨by simp [nodeScore], ?_⟩
  -- binpacking sorts by 1 - usage: ascending score is descending usage
  rw [Bool.eq_iff_iff, shareLt_iff, shareLt_iff]
  simp only [nodeScore, if_true]
  constructor <;> intro h <;> grind

-- n1 has its vcores exhausted (no available entry): usage (10/10 + 5/20)/2 = 5/8; n2 is half used on both: 1/2
example : nodeAvail ⟨"n1", [("vcore", 10), ("memory", 20)], [("vcore", 10), ("memory", 5)], []⟩ = [("memory", 15)] := by decide
example : (nodeOrder false [("vcore", 1), ("memory", 1)]
    [⟨"n1", [("vcore", 10), ("memory", 20)], [("vcore", 10), ("memory", 5)], []⟩,
     ⟨"n2", [("vcore", 10), ("memory", 20)], [("vcore", 5)], [("memory", 10)]⟩]).map (·.id) = ["n2", "n1"] := by decide
example : (nodeOrder true [("vcore", 1), ("memory", 1)]
    [⟨"n2", [("vcore", 10), ("memory", 20)], [("vcore", 5)], [("memory", 10)]⟩,
     ⟨"n1", [("vcore", 10), ("memory", 20)], [("vcore", 10), ("memory", 5)], []⟩]).map (·.id) = ["n1", "n2"] := by decide

end Yk.C19
