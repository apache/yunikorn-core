/-
  `Linked` (I8 of C03) is preserved by the two whole-application operations `releaseApp` (partition.removeAllocation
  with an empty key) and `appRemove` (partition.removeApplication), and by the timers `phTimeout` and `stateTimeout`.
  The released application lists no bound item afterwards; every other live application keeps its bound items and each
  of them keeps its node entry: the entries `rmFromNodes` filters out carry the key of a bound item of the RELEASED
  application on that node (`Shape.linked` with every item marked).  The timers leave the allocation lists of the nodes
  alone and the application with at most the bound items it had (`Shape.linked_keep`).
-/
import YkProofs.Core2LinkOps
namespace Yk
open Res Core LinkA

theorem rmN_keep (l : List CItem) : ∀ (n : CNode) (x : CNodeAlloc), x ∈ n.allocs →
    x ∈ (rmN l n).allocs ∨ ∃ i ∈ l, i.node = n.id ∧ i.key = x.key := by
  induction l with
  | nil => intro n x hx; exact Or.inl hx
  | cons i t ih =>
    intro n x hx
    by_cases hd : n.id = i.node ∧ x.key = i.key
    · exact Or.inr ⟨i, List.mem_cons_self, hd.1.symm, hd.2.symm⟩
    · rcases ih _ x (mem_onNodeId (id := i.node) hx (fun h => nodeRm_keep i.key i.res n x hx (fun e => hd ⟨h, e⟩))) with
        h | ⟨j, hj, h1, h2⟩
      · exact Or.inl h
      · exact Or.inr ⟨j, List.mem_cons_of_mem _ hj, h1.trans (onNodeId_id (nodeRm_id i.key i.res) n), h2⟩

/-- in the form `Shape.linked` asks for when every item is marked (`D := fun _ => True`) -/
theorem rmApp_keep (s : Core) (a : CApp) (b : Bool) (n : CNode) (x : CNodeAlloc) (hx : x ∈ n.allocs) :
    x ∈ (unresN b a (rmN (onNodes s a.items) n)).allocs ∨
    ∃ i ∈ a.items, i.bound = true ∧ True ∧ i.node = n.id ∧ i.key = x.key := by
  rw [(unresN_irrel b a _).2.1]
  rcases rmN_keep (onNodes s a.items) n x hx with h | ⟨i, hi, h1, h2⟩
  · exact Or.inl h
  · obtain ⟨him, hc⟩ := List.mem_filter.mp hi
    simp only [Bool.and_eq_true] at hc
    exact Or.inr ⟨i, him, hc.1, trivial, h1, h2⟩

theorem linked_releaseApp {s : Core} (tt : TermType) (app : String) (hw : CoreWF s) (hL : Linked s) :
    Linked (s.releaseApp tt app) := by
  cases hfind : s.findApp app with
  | none => rw [releaseApp_none tt hfind]; exact hL
  | some a =>
    refine (shape_releaseApp s tt app a hfind).linked hw hL (fun _ => True) (fun n _ => rmApp_keep s a _ n)
      (fun _ j hj hjb => ?_)
    -- the released application lists nothing bound
    rw [relAll2_items] at hj
    split at hj
    · cases hj
    · rw [(mem_unboundAll hj).1] at hjb; cases hjb

theorem linked_appRemove {s : Core} (app : String) (hw : CoreWF s) (hL : Linked s) :
    Linked (s.appRemove app) := by
  cases hfind : s.findApp app with
  | none => rw [appRemove_none hfind]; exact hL
  | some a =>
    obtain ⟨e1, _, e3, _⟩ := appRemove_maps s app a hfind
    -- `Linked` reads the live applications only: the application might as well have stayed in the list, dead
    have sh : Shape s { s with apps := updApps s.apps app (fun _ => { a with live := false }), nodes := (s.appRemove app).nodes }
        app a { a with live := false } (fun q => q) (fun n => unresN true a (rmN (onNodes s a.items) n)) :=
      ⟨hfind, rfl, (List.map_id' _).symm, e3, rfl, rfl, fun _ => rfl, fun n => (unresN_irrel true a _).1.trans (rmN_id _ n), rfl⟩
    have h := sh.linked hw hL (fun _ => True) (fun n _ => rmApp_keep s a true n) (fun hlive => by cases hlive)
    intro b hb hbl j hj hjb
    rw [e1] at hb
    obtain ⟨hbs, hc⟩ := List.mem_filter.mp hb
    exact (h b (List.mem_map.mpr ⟨b, hbs, if_neg (fun hd => by rw [hd] at hc; cases hc)⟩) hbl j hj hjb).of_nodes rfl

theorem boundSub_boundOnly (l : List CItem) : BoundSub (Timer.boundOnly l) l := by
  intro j hj _
  unfold Timer.boundOnly at hj
  obtain ⟨x, hx, rfl⟩ := List.mem_map.mp hj
  obtain ⟨hxm, hxb⟩ := List.mem_filter.mp hx
  exact ⟨x, hxm, hxb, rfl, rfl, rfl⟩

theorem keepsSig_released : KeepsSig (fun x => { x with released := true }) := fun _ => ⟨rfl, rfl, rfl, rfl⟩

theorem boundSub_phApp2 (a : CApp) (ev : Option String) : BoundSub (phApp2 a ev).items a.items := by
  have h1 : BoundSub (phApp1 a ev).items a.items := by
    rw [phApp1_items]
    exact BoundSub.map (KeepsSig.ite _ keepsSig_released)
  unfold phApp2
  cases hr : (phApp1 a ev).items.any (·.inReq) with
  | false => rw [dropAsksApp_noreq _ hr]; exact h1
  | true => rw [dropAsksApp_items, if_pos hr]; exact (boundSub_boundOnly _).trans h1

theorem linked_phTimeout {s : Core} (hw : CoreWF s) (h : Linked s) (app : String) (ev : Option String) :
    Linked (s.phTimeout app ev) := by
  cases hfind : s.findApp app with
  | none => rw [phTimeout_none ev hfind]; exact h
  | some a =>
    cases hc : ((a.state == "Running" || a.state == "Completing") && !(isZero (some a.allocatedPh))) with
    | true =>
      exact (shape_phTimeout1 s app ev a hw hfind hc).linked_keep hw h (fun _ _ _ hx => hx) (fun _ => BoundSub.map (KeepsSig.ite _ keepsSig_released))
    | false =>
      exact (shape_phTimeout2 s app ev a hw hfind hc).linked_keep hw h
        (fun n _ x hx => by rw [(unresN_irrel _ a n).2.1]; exact hx) (fun _ => boundSub_phApp2 a ev)

theorem linked_stateTimeout {s : Core} (hw : CoreWF s) (h : Linked s) (app : String) : Linked (s.stateTimeout app) := by
  rcases shape_stateTimeout s app hw with e | ⟨a, _, _, ⟨_, sh⟩ | ⟨_, sh⟩⟩
  · rw [e]; exact h
  · exact sh.linked_keep hw h (fun _ _ _ hx => hx) (fun _ => BoundSub.map (KeepsSig.ite _ keepsSig_released))
  · -- the application completes: what it keeps are its bound items
    exact sh.linked_keep hw h (fun _ _ _ hx => hx) (fun _ => boundSub_boundOnly a.items)

end Yk
