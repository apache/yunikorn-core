/-
  `releaseKeyT` (partition.removeAllocation for a key, every termination type): the books and the well-formedness of the
  state are preserved.  Two steps as in the code: the bound allocation leaves application, node and queue chain
  (`relBoundT`), then the ask leaves the application (`askRemoveT`; skipped for a TIMEOUT confirmation).
-/
import YkProofs.Core2Shape
namespace Yk
open Res Core

/-- `AppBooks.update` when items that are neither allocations nor requests are dropped as well: the three sums do not
    see those -/
theorem AppBooks.update_filter {a b : CApp} (hba : AppBooks a) (hkeys : a.items.Pairwise (fun i j => i.key ≠ j.key))
    {i : CItem} (him : i ∈ a.items) {key : String} (hkey : i.key = key) (g : CItem → CItem)
    (hi : b.items = (updItem key g a.items).filter (fun x => x.bound || x.inReq))
    (h1 : ∀ k, b.allocated.getD k = a.allocated.getD k - (if (i.bound && !i.ph) = true then i.res.getD k else 0)
      + (if ((g i).bound && !(g i).ph) = true then (g i).res.getD k else 0))
    (h2 : ∀ k, b.allocatedPh.getD k = a.allocatedPh.getD k - (if (i.bound && i.ph) = true then i.res.getD k else 0)
      + (if ((g i).bound && (g i).ph) = true then (g i).res.getD k else 0))
    (h3 : ∀ k, b.pending.getD k = a.pending.getD k - (if (i.inReq && !i.allocated) = true then i.res.getD k else 0)
      + (if ((g i).inReq && !(g i).allocated) = true then (g i).res.getD k else 0)) : AppBooks b := by
  have hf : ∀ c : CItem → Bool, (∀ x : CItem, (x.bound || x.inReq) = false → c x = false) → ∀ k,
      itemSum b.items c k = itemSum a.items c k - (if c i = true then i.res.getD k else 0)
        + (if c (g i) = true then (g i).res.getD k else 0) := fun c hc k => by
    rw [hi, itemSum_filter_irrel _ _ _ _ (fun x _ hd => hc x hd), updItem_eq, itemSum_upd _ hkeys key g i him hkey]
  refine ⟨fun k => ?_, fun k => ?_, fun k => ?_⟩
  · rw [hf _ (fun x hd => by simp only [Bool.or_eq_false_iff] at hd; simp [hd.1]), h1, hba.allocated]
  · rw [hf _ (fun x hd => by simp only [Bool.or_eq_false_iff] at hd; simp [hd.1]), h2, hba.allocatedPh]
  · rw [hf _ (fun x hd => by simp only [Bool.or_eq_false_iff] at hd; simp [hd.2]), h3, hba.pending]

/-! ### the application after `relAppT` -/

theorem relAppT_fields (tt : TermType) (key : String) (i : CItem) (a : CApp) :
    (relAppT tt key i a).items = (updItem key (fun x => { x with bound := false }) a.items).filter (fun x => x.bound || x.inReq) ∧
    (relAppT tt key i a).queue = a.queue ∧ (relAppT tt key i a).id = a.id ∧ (relAppT tt key i a).pending = a.pending ∧
    (relAppT tt key i a).allocated = (if i.ph = true then a.allocated else prune (subX a.allocated i.res)) ∧
    (relAppT tt key i a).allocatedPh = (if i.ph = true then prune (subX a.allocatedPh i.res) else a.allocatedPh) := by
  unfold relAppT; cases i.ph <;> simp

theorem relAppT_items (tt : TermType) (key : String) (i : CItem) (a : CApp) :
    (relAppT tt key i a).items = (updItem key (fun x => { x with bound := false }) a.items).filter (fun x => x.bound || x.inReq) :=
  (relAppT_fields tt key i a).1
theorem relAppT_queue (tt : TermType) (key : String) (i : CItem) (a : CApp) : (relAppT tt key i a).queue = a.queue :=
  (relAppT_fields tt key i a).2.1
theorem relAppT_id (tt : TermType) (key : String) (i : CItem) (a : CApp) : (relAppT tt key i a).id = a.id :=
  (relAppT_fields tt key i a).2.2.1
theorem relAppT_pending (tt : TermType) (key : String) (i : CItem) (a : CApp) : (relAppT tt key i a).pending = a.pending :=
  (relAppT_fields tt key i a).2.2.2.1
theorem relAppT_allocated (tt : TermType) (key : String) (i : CItem) (a : CApp) :
    (relAppT tt key i a).allocated = if i.ph = true then a.allocated else prune (subX a.allocated i.res) :=
  (relAppT_fields tt key i a).2.2.2.2.1
theorem relAppT_allocatedPh (tt : TermType) (key : String) (i : CItem) (a : CApp) :
    (relAppT tt key i a).allocatedPh = if i.ph = true then prune (subX a.allocatedPh i.res) else a.allocatedPh :=
  (relAppT_fields tt key i a).2.2.2.2.2

/-- the item list after the allocation `key` left application.allocations -/
def unbound (key : String) (l : List CItem) : List CItem :=
  (updItem key (fun x => { x with bound := false }) l).filter (fun x => x.bound || x.inReq)

theorem mem_unbound {key : String} {l : List CItem} {y : CItem} (hy : y ∈ unbound key l) :
    ∃ x ∈ l, y.key = x.key ∧ y.res = x.res ∧ y.ph = x.ph ∧ y.allocated = x.allocated ∧ y.inReq = x.inReq ∧
      ((x.key = key ∧ y.bound = false) ∨ (x.key ≠ key ∧ y = x)) := by
  obtain ⟨hm, _⟩ := List.mem_filter.mp hy
  obtain ⟨x, hx, h | h⟩ := mem_updItem hm
  · obtain ⟨hk, rfl⟩ := h
    exact ⟨x, hx, rfl, rfl, rfl, rfl, rfl, Or.inl ⟨hk, rfl⟩⟩
  · obtain ⟨hk, rfl⟩ := h
    exact ⟨y, hx, rfl, rfl, rfl, rfl, rfl, Or.inr ⟨hk, rfl⟩⟩

theorem appBooks_relAppT (tt : TermType) (key : String) (i : CItem) (a : CApp) (hba : AppBooks a) (hwa : AppWF a)
    (him : i ∈ a.items) (hkey : i.key = key) (hbd : i.bound = true) : AppBooks (relAppT tt key i a) := by
  obtain ⟨hwp, hwal, hwh⟩ := hwa.appRes
  obtain ⟨hwr, _⟩ := hwa.itemRes i him
  refine hba.update_filter hwa.itemKeys him hkey _ (relAppT_items tt key i a) (fun k => ?_) (fun k => ?_) (fun k => ?_)
  · rw [relAppT_allocated]; cases i.ph <;> simp [hbd, prune_subX_getD _ _ hwal hwr]
  · rw [relAppT_allocatedPh]; cases i.ph <;> simp [hbd, prune_subX_getD _ _ hwh hwr]
  · rw [relAppT_pending]; simp

theorem appWF_relAppT (tt : TermType) (key : String) (i : CItem) (a : CApp) (hwa : AppWF a) : AppWF (relAppT tt key i a) := by
  obtain ⟨hwp, hwal, hwh⟩ := hwa.appRes
  refine hwa.of_sublist (fun x => if (x.key == key) = true then { x with bound := false } else x)
    (by rw [relAppT_items]; exact List.filter_sublist) ?_ (fun x => by split <;> rfl) (fun x hx => ?_)
  · rw [relAppT_pending, relAppT_allocated, relAppT_allocatedPh]
    refine ⟨hwp, ?_, ?_⟩
    · split
      · exact hwal
      · exact prune_wf _ (subX_wf _ _ hwal)
    · split
      · exact prune_wf _ (subX_wf _ _ hwh)
      · exact hwh
  · split
    · exact ⟨hwa.itemRes x hx, fun h => by cases h⟩
    · exact ⟨hwa.itemRes x hx, hwa.boundAllocated x hx⟩

theorem relQT_path_reserved (i : CItem) (a' : CApp) (b : Bool) (q : CQueue) :
    (relQT i a' b q).path = q.path ∧ (relQT i a' b q).reserved = q.reserved := by
  have h1 := decQ_path_reserved (b && strictlyGreaterThanZero (some i.res)) i.res
    (b && i.preempted && strictlyGreaterThanZero (some i.res)) i.res q
  have h2 := qLeaveIf_path_reserved a' (decQ (b && strictlyGreaterThanZero (some i.res)) i.res
    (b && i.preempted && strictlyGreaterThanZero (some i.res)) i.res q)
  exact ⟨h2.1.trans h1.1, h2.2.trans h1.2⟩

theorem relQT_pending_live (i : CItem) (a' : CApp) (b : Bool) (q : CQueue) (h : a'.live = true) :
    (relQT i a' b q).pending = q.pending := by
  unfold relQT
  rw [if_pos h]
  cases (b && strictlyGreaterThanZero (some i.res)) <;> cases (b && i.preempted && strictlyGreaterThanZero (some i.res)) <;> rfl

/-! ### `relBoundT` -/

theorem relBoundT_unbound (s : Core) (tt : TermType) (app key : String) (a : CApp) (i : CItem) (h : i.bound = false) :
    relBoundT s tt app key a i = s := by
  unfold relBoundT; simp [h]

theorem nodeRm_id (key : String) (r : Res) (n : CNode) : (nodeRm key r n).id = n.id := rfl

/-- When the node of the allocation is not registered the node list is untouched (`updNs_none`) and the queues give
    nothing back (`relQT … false`). -/
theorem shape_relBoundT (s : Core) (tt : TermType) (app key : String) (a : CApp) (i : CItem)
    (hfind : s.findApp app = some a) (hbd : i.bound = true) :
    Shape s (relBoundT s tt app key a i) app a (relAppT tt key i a)
      (onChain (pathChain s a.queue) (relQT i (relAppT tt key i a) (s.findNode i.node).isSome))
      (onNodeId i.node (nodeRm key i.res)) := by
  refine ⟨hfind, ?_, ?_, ?_, relAppT_id tt key i a, relAppT_queue tt key i a, onChain_path (fun q => (relQT_path_reserved i _ _ q).1),
    onNodeId_id (nodeRm_id key i.res), ?_⟩
  all_goals unfold relBoundT; simp only [hbd, if_true]
  · cases (s.findNode i.node).isSome <;> rfl
  · cases (s.findNode i.node).isSome <;> rfl
  · cases h : s.findNode i.node with
    | none => exact (updNs_none h _).symm
    | some n => rfl
  · cases (s.findNode i.node).isSome <;> rfl

theorem nodeRm_books (key : String) (r : Res) (m : CNode) (hm : NWF m) (hmb : NodeBooks m) (hr : wf r = true)
    (x : CNodeAlloc) (hx : x ∈ m.allocs) (hxk : x.key = key) (hxf : x.foreign = false) (hxr : ∀ k, x.res.getD k = r.getD k) :
    NodeBooks (nodeRm key r m) := by
  obtain ⟨_, ho, hma, hv⟩ := hm.nodeRes
  constructor
  · intro k
    show (prune (subX m.allocated r)).getD k = allocSum (m.allocs.filter (fun y => y.key != key)) k
    rw [prune_subX_getD _ _ hma hr, allocSum_rm _ hm.allocKeys key x hx hxk, hmb.allocated k, hxr k]
    simp [hxf]
  · intro k
    show (addX m.available r).getD k = m.total.getD k - (prune (subX m.allocated r)).getD k - m.occupied.getD k
    rw [addX_getD _ _ hr, prune_subX_getD _ _ hma hr, hmb.available k]; omega

theorem nodeRm_wf (key : String) (r : Res) (m : CNode) (hm : NWF m) : NWF (nodeRm key r m) := by
  obtain ⟨ht, ho, hma, hv⟩ := hm.nodeRes
  refine ⟨hm.allocKeys.filter _, ⟨ht, ho, prune_wf _ (subX_wf _ _ hma), addX_wf _ _ hv⟩, ?_⟩
  intro x hx
  exact hm.allocRes x (List.mem_filter.mp hx).1

theorem books_relBoundT (s : Core) (tt : TermType) (app key : String) (a : CApp) (i : CItem) (hw : CoreWF s) (hb : Books s)
    (hfind : s.findApp app = some a) (hitem : a.items.find? (·.key == key) = some i) (hok : ReleaseOK s app key) :
    Books (relBoundT s tt app key a i) := by
  cases hbd : i.bound with
  | false => rw [relBoundT_unbound _ _ _ _ _ _ hbd]; exact hb
  | true =>
    have sh := shape_relBoundT s tt app key a i hfind hbd
    obtain ⟨ham, hl, _⟩ := sh.mem
    obtain ⟨him, hkey⟩ := find_key_some hitem
    obtain ⟨n, hn, x, hxm, hxk, hxf, hxr⟩ := hok.onNode a i hfind hitem hbd
    have hwa := hw.app ham hl
    obtain ⟨_, hwal, hwh⟩ := hwa.appRes
    obtain ⟨hwr, hnn⟩ := hwa.itemRes i him
    rw [hn] at sh
    refine sh.books_release (g := decQ _ i.res _ i.res) (lv := qLeaveIf _) hw hb (fun q => ⟨(qLeaveIf_path_reserved _ q).1, rfl, rfl⟩)
      (onNodeId_found hw hn (fun hm hmb => nodeRm_books key i.res n (hw.node hm) hmb hwr x hxm hxk hxf hxr))
      (appBooks_relAppT tt key i a (hb.apps a ham hl) hwa him hkey hbd) (appWF_relAppT tt key i a hwa)
      (fun q hq _ => decQ_move _ i.res _ i.res (hw.queue hq) hwr (sgtz_false_of_nonNeg hnn))
      (fun k => ?_) (fun k => by rw [relAppT_pending]; exact (Int.sub_zero _).symm)
    rw [relAppT_allocated, relAppT_allocatedPh]
    cases i.ph <;>
      simp only [Bool.false_eq_true, if_false, if_true, prune_subX_getD _ _ hwh hwr, prune_subX_getD _ _ hwal hwr] <;> omega

theorem wf_relBoundT (s : Core) (tt : TermType) (app key : String) (a : CApp) (i : CItem) (hw : CoreWF s)
    (hfind : s.findApp app = some a) : CoreWF (relBoundT s tt app key a i) := by
  cases hbd : i.bound with
  | false => rw [relBoundT_unbound _ _ _ _ _ _ hbd]; exact hw
  | true =>
    have sh := shape_relBoundT s tt app key a i hfind hbd
    obtain ⟨ham, hl, _⟩ := sh.mem
    exact sh.wf_chain hw (fun _ => appWF_relAppT tt key i a (hw.app ham hl))
      (fun q hq _ => qLeaveIf_wf _ _ (decQ_wf _ i.res _ i.res q (hw.queue hq)))
      (fun m _ hm => onNodeId_keeps (fun _ => nodeRm_wf key i.res m hm) hm)

/-! ### `askRemoveT` -/

theorem askAppT_fields (key : String) (x : CItem) (a : CApp) :
    (askAppT key x a).items = (updItem key (fun y => { y with inReq := false }) a.items).filter (fun y => y.bound || y.inReq) ∧
    (askAppT key x a).queue = a.queue ∧ (askAppT key x a).id = a.id ∧ (askAppT key x a).live = a.live ∧
    (askAppT key x a).allocated = a.allocated ∧ (askAppT key x a).allocatedPh = a.allocatedPh ∧
    (askAppT key x a).pending = (if x.allocated = true then a.pending else prune (subX a.pending x.res)) := by
  unfold askAppT; simp

theorem askAppT_items (key : String) (x : CItem) (a : CApp) :
    (askAppT key x a).items = (updItem key (fun y => { y with inReq := false }) a.items).filter (fun y => y.bound || y.inReq) :=
  (askAppT_fields key x a).1
theorem askAppT_queue (key : String) (x : CItem) (a : CApp) : (askAppT key x a).queue = a.queue := (askAppT_fields key x a).2.1
theorem askAppT_id (key : String) (x : CItem) (a : CApp) : (askAppT key x a).id = a.id := (askAppT_fields key x a).2.2.1
theorem askAppT_live (key : String) (x : CItem) (a : CApp) : (askAppT key x a).live = a.live := (askAppT_fields key x a).2.2.2.1
theorem askAppT_allocated (key : String) (x : CItem) (a : CApp) : (askAppT key x a).allocated = a.allocated :=
  (askAppT_fields key x a).2.2.2.2.1
theorem askAppT_allocatedPh (key : String) (x : CItem) (a : CApp) : (askAppT key x a).allocatedPh = a.allocatedPh :=
  (askAppT_fields key x a).2.2.2.2.2.1
theorem askAppT_pending (key : String) (x : CItem) (a : CApp) :
    (askAppT key x a).pending = if x.allocated = true then a.pending else prune (subX a.pending x.res) :=
  (askAppT_fields key x a).2.2.2.2.2.2

theorem mem_askItems {key : String} {l : List CItem} {y : CItem}
    (hy : y ∈ (updItem key (fun y => { y with inReq := false }) l).filter (fun y => y.bound || y.inReq)) :
    ∃ x ∈ l, y.key = x.key ∧ y.res = x.res ∧ y.allocated = x.allocated ∧ y.bound = x.bound := by
  obtain ⟨hm, _⟩ := List.mem_filter.mp hy
  obtain ⟨x, hx, h | h⟩ := mem_updItem hm
  · obtain ⟨_, rfl⟩ := h; exact ⟨x, hx, rfl, rfl, rfl, rfl⟩
  · obtain ⟨_, rfl⟩ := h; exact ⟨y, hx, rfl, rfl, rfl, rfl⟩

theorem appBooks_askAppT (key : String) (x : CItem) (a : CApp) (hba : AppBooks a) (hwa : AppWF a)
    (hxm : x ∈ a.items) (hxk : x.key = key) (hxreq : x.inReq = true) : AppBooks (askAppT key x a) := by
  obtain ⟨hwp, _, _⟩ := hwa.appRes
  obtain ⟨hwr, _⟩ := hwa.itemRes x hxm
  refine hba.update_filter hwa.itemKeys hxm hxk _ (askAppT_items key x a) (fun k => ?_) (fun k => ?_) (fun k => ?_)
  · rw [askAppT_allocated]; simp
  · rw [askAppT_allocatedPh]; simp
  · rw [askAppT_pending]
    cases hal : x.allocated
    · simp [hxreq, prune_subX_getD _ _ hwp hwr]
    · simp

theorem appWF_askAppT (key : String) (x : CItem) (a : CApp) (hwa : AppWF a) : AppWF (askAppT key x a) := by
  obtain ⟨hwp, hwal, hwh⟩ := hwa.appRes
  refine hwa.of_sublist (fun y => if (y.key == key) = true then { y with inReq := false } else y)
    (by rw [askAppT_items]; exact List.filter_sublist) ?_ (fun y => by split <;> rfl) (fun y hy => ?_)
  · rw [askAppT_pending, askAppT_allocated, askAppT_allocatedPh]
    refine ⟨?_, hwal, hwh⟩
    split
    · exact hwp
    · exact prune_wf _ (subX_wf _ _ hwp)
  · split <;> exact ⟨hwa.itemRes y hy, hwa.boundAllocated y hy⟩

/-- an allocated ask is not counted in the pending total -/
def askQT (x : CItem) (q : CQueue) : CQueue := if x.allocated then q else qDecPend x.res q

theorem askQT_path_reserved (x : CItem) (q : CQueue) : (askQT x q).path = q.path ∧ (askQT x q).reserved = q.reserved := by
  unfold askQT; split <;> exact ⟨rfl, rfl⟩

theorem askQT_allocated (x : CItem) (q : CQueue) : (askQT x q).allocated = q.allocated := by
  unfold askQT; split <;> rfl

theorem askQT_wf (x : CItem) (q : CQueue) (hq : QWF q) : QWF (askQT x q) := by
  unfold askQT; split
  · exact hq
  · exact qDecPend_wf _ _ hq

theorem askQT_move (x : CItem) {q : CQueue} (hq : QWF q) (hr : wf x.res = true)
    (h : x.allocated = false → ∀ k, 0 ≤ x.res.getD k ∧ x.res.getD k ≤ q.pending.getD k) :
    QMove q (askQT x q) (fun _ => 0) (fun k => if x.allocated = true then 0 else x.res.getD k) := by
  unfold askQT
  cases hal : x.allocated with
  | true => exact .refl hq
  | false => exact .decPend hq hr (h hal)

/-- The frame of an ask that leaves its application (`askRemoveT`; `rel2` of `releaseKey`, YkProofs/Core2Ops.lean): the
    queues above it lose what the record loses from its pending total (`askQT x` along the chain; `fq` may differ from
    that in what the books do not read). -/
theorem books_askLeft {s t : Core} {app : String} {a a' : CApp} {fq : CQueue → CQueue} {fn : CNode → CNode}
    {chain : List String} {x : CItem} (sh : Shape s t app a a' fq fn) (hw : CoreWF s) (hb : Books s)
    (hchain : ∀ q ∈ s.queues, (chain.contains q.path = true ↔ under a.queue q.path = true))
    (hxm : x ∈ a.items) (hxreq : x.inReq = true)
    (hfq : ∀ q, (fq q).allocated = (onChain chain (askQT x) q).allocated ∧ (fq q).pending = (onChain chain (askQT x) q).pending)
    (hfn : ∀ n, NodeBooks n → NodeBooks (fn n)) (hba : AppBooks a') (hlive : a'.live = a.live)
    (h1 : a'.allocated = a.allocated) (h2 : a'.allocatedPh = a.allocatedPh)
    (h3 : a'.pending = if x.allocated = true then a.pending else prune (subX a.pending x.res)) : Books t := by
  obtain ⟨ham, hl, _⟩ := sh.mem
  have hwa := hw.app ham hl
  obtain ⟨hwr, _⟩ := hwa.itemRes x hxm
  refine sh.books hw hb (fun _ => hba) (fun q hq hun k => ?_) (fun q hq hun => ?_) (fun n _ => hfn n)
  · have m := askQT_move x (hw.queue hq) hwr (fun hal k' => by
      have := hb.item_pending_le hw ham hl hxm (by simp [hxreq, hal]) hq hun k'
      omega)
    rw [(hfq q).1, (hfq q).2, onChain, if_pos ((hchain q hq).mpr hun), m.allocated, m.pending, hlive, h1, h2, h3, hl]
    cases x.allocated
    · simp only [Bool.false_eq_true, if_false, if_true, prune_subX_getD _ _ hwa.appRes.1 hwr]
      constructor <;> omega
    · simp only [if_true]
      constructor <;> omega
  · rw [(hfq q).1, (hfq q).2, onChain, if_neg (fun h => hun ((hchain q hq).mp h))]
    exact ⟨rfl, rfl⟩

/-- queue.UnReserve(app) on the queue `path`: one reservation less for `app` (with `dropResvN` the bookkeeping the
    model repeats in `askRemoveT`, `unreserve` and `unreserveOn`) -/
def decResvQ (app path : String) (q : CQueue) : CQueue :=
  if q.path == path then
    { q with reserved := q.reserved.filterMap (fun e => if e.1 == app then (if e.2 ≤ 1 then none else some (e.1, e.2 - 1)) else some e) }
  else q

/-- node.unReserve(key) on the node `id` -/
def dropResvN (key id : String) : CNode → CNode :=
  onNodeId id (fun n => { n with reservations := n.reservations.filter (· != key) })

theorem decResvQ_irrel (app path : String) : QIrrel (decResvQ app path) := by
  intro q; unfold decResvQ; split <;> exact ⟨rfl, rfl, rfl⟩

theorem dropResvN_irrel (key id : String) : NodeIrrel (dropResvN key id) :=
  nodeIrrel_upd id _ (fun _ => ⟨rfl, rfl, rfl, rfl, rfl, rfl⟩)

/-- unReserveInternal + queue.UnReserve for the reservation, if any, of the ask `key` of application `a1`: what
    `askRemoveT` does to the queues and to the nodes after the ask has left -/
def askResvQ (app key : String) (a1 : CApp) (q : CQueue) : CQueue :=
  match a1.reservations.find? (·.1 == key) with
  | none => q
  | some _ => decResvQ app a1.queue q

def askResvN (key : String) (a1 : CApp) (n : CNode) : CNode :=
  match a1.reservations.find? (·.1 == key) with
  | none => n
  | some r => dropResvN key r.2 n

theorem askResvQ_irrel (app key : String) (a1 : CApp) : QIrrel (askResvQ app key a1) := by
  intro q; unfold askResvQ; split
  · exact ⟨rfl, rfl, rfl⟩
  · exact decResvQ_irrel _ _ q

theorem askResvN_irrel (key : String) (a1 : CApp) : NodeIrrel (askResvN key a1) := by
  intro n; unfold askResvN; split
  · exact ⟨rfl, rfl, rfl, rfl, rfl, rfl⟩
  · exact dropResvN_irrel _ _ n

/-- list by list and without `CoreWF`: the application list is updated by the function `askAppT key x`, which
    `Shape.of_maps` turns into the constant update -/
theorem askRemoveT_maps (s1 : Core) (app key : String) (chain : List String) {a1 : CApp} {x : CItem}
    (hfind : s1.findApp app = some a1) (hitem : a1.items.find? (fun x => x.key == key && x.inReq) = some x) :
    (askRemoveT s1 app key chain).apps = updApps s1.apps app (askAppT key x) ∧
    (askRemoveT s1 app key chain).queues = s1.queues.map (fun q => askResvQ app key a1 (onChain chain (askQT x) q)) ∧
    (askRemoveT s1 app key chain).nodes = s1.nodes.map (askResvN key a1) ∧
    (askRemoveT s1 app key chain).reservations = s1.reservations := by
  unfold askRemoveT askResvQ askResvN askQT
  simp only [hfind, hitem]
  cases a1.reservations.find? (·.1 == key) <;> cases x.allocated
  · exact ⟨rfl, rfl, (List.map_id' _).symm, rfl⟩
  · exact ⟨rfl, (updQs_id _ _).symm, (List.map_id' _).symm, rfl⟩
  · exact ⟨rfl, List.map_map, rfl, rfl⟩
  · exact ⟨rfl, congrArg _ (updQs_id _ _).symm |>.trans List.map_map, rfl, rfl⟩

theorem shape_askRemoveT (s1 : Core) (app key : String) (chain : List String) (hw : CoreWF s1) :
    askRemoveT s1 app key chain = s1 ∨
    ∃ a1 x, a1.items.find? (fun x => x.key == key && x.inReq) = some x ∧
      Shape s1 (askRemoveT s1 app key chain) app a1 (askAppT key x a1)
        (fun q => askResvQ app key a1 (onChain chain (askQT x) q)) (askResvN key a1) := by
  cases hfind : s1.findApp app with
  | none => left; unfold askRemoveT; simp only [hfind]
  | some a1 =>
    cases hitem : a1.items.find? (fun x => x.key == key && x.inReq) with
    | none => left; unfold askRemoveT; simp only [hfind, hitem]
    | some x =>
      obtain ⟨h1, h2, h3, h4⟩ := askRemoveT_maps s1 app key chain hfind hitem
      exact Or.inr ⟨a1, x, hitem, .of_maps hw hfind h1 h2 h3 h4 (askAppT_id key x a1) (askAppT_queue key x a1)
        (fun q => ((askResvQ_irrel app key a1 _).1).trans (onChain_path (fun q => (askQT_path_reserved x q).1) q))
        (fun n => (askResvN_irrel key a1 n).1)⟩

theorem askRemoveT_props (s1 : Core) (app key : String) (chain : List String) (hw : CoreWF s1) (hb : Books s1)
    (hchain : ∀ a1, s1.findApp app = some a1 → ∀ q ∈ s1.queues, (chain.contains q.path = true ↔ under a1.queue q.path = true)) :
    Books (askRemoveT s1 app key chain) ∧ CoreWF (askRemoveT s1 app key chain) := by
  rcases shape_askRemoveT s1 app key chain hw with h | ⟨a, x, hitem, sh⟩
  · rw [h]; exact ⟨hb, hw⟩
  · obtain ⟨ham, hl, _⟩ := sh.mem
    obtain ⟨hxm, hxk, hxreq⟩ := find_request hitem
    have hwa := hw.app ham hl
    have hgq := askResvQ_irrel app key a
    constructor
    · exact books_askLeft sh hw hb (hchain a sh.find) hxm hxreq (fun q => ⟨(hgq _).2.1, (hgq _).2.2⟩)
        (fun n hnb => nodeBooks_irrel _ (askResvN_irrel key a) hnb) (appBooks_askAppT key x a (hb.apps a ham hl) hwa hxm hxk hxreq)
        (askAppT_live key x a) (askAppT_allocated key x a) (askAppT_allocatedPh key x a) (askAppT_pending key x a)
    · exact sh.wf hw (fun _ => appWF_askAppT key x a hwa)
        (fun q hq => qwf_irrel _ hgq (onChain_keeps (askQT_wf x q (hw.queue hq)) (hw.queue hq)))
        (fun n hn => nwf_irrel _ (askResvN_irrel key a) (hw.node hn))

/-! ### `releaseKeyT` -/

theorem releaseKeyT_cases (s : Core) (tt : TermType) (app key : String) :
    s.releaseKeyT tt app key = s ∨
    ∃ a i, s.findApp app = some a ∧ a.items.find? (·.key == key) = some i ∧
      s.releaseKeyT tt app key = if (tt == .timeout) = true then relBoundT s tt app key a i
        else askRemoveT (relBoundT s tt app key a i) app key (pathChain s a.queue) := by
  cases hfind : s.findApp app with
  | none => left; unfold releaseKeyT; simp only [hfind]
  | some a =>
    cases hitem : a.items.find? (·.key == key) with
    | none => left; unfold releaseKeyT; simp only [hfind, hitem]
    | some i => right; unfold releaseKeyT; simp only [hfind, hitem]; exact ⟨a, i, rfl, hitem, rfl⟩

theorem releaseKeyT_props (s : Core) (tt : TermType) (app key : String)
    (hw : CoreWF s) (hb : Books s) (hrel : ReleaseOK s app key) :
    Books (s.releaseKeyT tt app key) ∧ CoreWF (s.releaseKeyT tt app key) := by
  rcases releaseKeyT_cases s tt app key with h | ⟨a, i, hfind, hitem, h⟩
  · rw [h]; exact ⟨hb, hw⟩
  · have hb1 := books_relBoundT s tt app key a i hw hb hfind hitem hrel
    have hw1 := wf_relBoundT s tt app key a i hw hfind
    rw [h]
    split
    · exact ⟨hb1, hw1⟩
    · apply askRemoveT_props _ app key _ hw1 hb1
      cases hbd : i.bound with
      | false =>
        rw [relBoundT_unbound _ _ _ _ _ _ hbd]
        intro a1 h1 q hq
        rw [hfind] at h1
        cases h1
        exact chain_iff s _ q hq
      | true => exact (shape_relBoundT s tt app key a i hfind hbd).chain_after hw

theorem books_releaseKeyT (s : Core) (tt : TermType) (app key : String)
    (hw : CoreWF s) (hb : Books s) (hrel : ReleaseOK s app key) : Books (s.releaseKeyT tt app key) :=
  (releaseKeyT_props s tt app key hw hb hrel).1

theorem wf_releaseKeyT (s : Core) (tt : TermType) (app key : String)
    (hw : CoreWF s) (hb : Books s) (hrel : ReleaseOK s app key) : CoreWF (s.releaseKeyT tt app key) :=
  (releaseKeyT_props s tt app key hw hb hrel).2

end Yk
