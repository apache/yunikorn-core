/-
  C02 — Scheduling never takes a queue above its maximum.
  Property theorems only. `QTree` (YkModel/Queue.lean) mirrors the queue hierarchy: TryIncAllocatedResource is the
  only way the scheduler adds usage (application.go tryNode → queue.TryIncAllocatedResource); IncAllocatedResource
  is the RM-forced path the property excludes.
-/
import YkProofs.Queue
namespace Yk.C02
open Yk Yk.Res Yk.QTree

/-- A successful TryIncAllocatedResource leaves no queue on the path over its maximum on any type of the
    allocation: at the root every type counts (a type no node provides cannot be allocated), elsewhere only
    the types the maximum defines (omitted types are unlimited). -/
theorem tryInc_ok_within_max (t t' : QTree) (i : Nat) (alloc : Res) (hw : TreeWF t) (ha : wf alloc = true)
    (h : tryInc t i alloc = some t') :
    ∀ j ∈ chain t i, ∀ q', t'[j]? = some q' → ∀ p ∈ alloc, overMax q' p.1 = false := by
  intro j hj q' hq' p hp
  obtain ⟨q, hq, hf⟩ := (tryInc_some h).1 j hj
  rw [tryInc_getElem? hw h, if_pos hj, hq] at hq'
  simp only [Option.map_some, Option.some.injEq] at hq'
  subst hq'
  exact fits_not_overMax ha hf hp

/-- All-or-nothing, the accepted half: exactly the queues on the path change and only on the types of the allocation. -/
theorem tryInc_frame (t t' : QTree) (i : Nat) (alloc : Res) (hw : TreeWF t) (ha : wf alloc = true)
    (h : tryInc t i alloc = some t') :
    t'.length = t.length ∧
    (∀ j, j ∉ chain t i → t'[j]? = t[j]?) ∧
    (∀ (j : Nat) (q q' : Q), t[j]? = some q → t'[j]? = some q' →
        q'.max = q.max ∧ q'.parent = q.parent ∧ ∀ k, alloc.has k = false → q'.allocated.getD k = q.allocated.getD k) := by
  refine ⟨?_, ?_, ?_⟩
  · rw [(tryInc_some h).2]; exact applyChain_length _ _ _
  · intro j hj; rw [tryInc_getElem? hw h, if_neg hj]
  · intro j q q' hq hq'
    rw [tryInc_getElem? hw h, hq] at hq'
    by_cases hj : j ∈ chain t i
    · rw [if_pos hj] at hq'
      simp only [Option.map_some, Option.some.injEq] at hq'
      subst hq'
      refine ⟨rfl, rfl, ?_⟩
      intro k hk
      simp only [addX_getD _ _ ha, getD_of_not_has hk]; omega
    · rw [if_neg hj] at hq'
      cases hq'
      exact ⟨rfl, rfl, fun _ _ => rfl⟩

/-- All-or-nothing, the refused half: the increment is refused exactly when some queue on the path does not fit it, and
    then nothing is changed (the model returns no new tree). -/
theorem tryInc_refused_iff (t : QTree) (i : Nat) (alloc : Res) :
    tryInc t i alloc = none ↔ ∃ j ∈ chain t i, (match t[j]? with | some q => fits q alloc | none => false) = false := by
  simp only [tryInc, ite_eq_right_iff, reduceCtorEq, imp_false, Bool.not_eq_true, List.all_eq_false]
  exact Iff.rfl

/-- A scheduling decision never creates usage above a maximum: whatever is over its maximum afterwards was
    already over before (through an RM-forced change or a lowered maximum). -/
theorem sched_no_new_overmax (t t' : QTree) (i : Nat) (alloc : Res) (hw : TreeWF t) (ha : wf alloc = true)
    (h : tryInc t i alloc = some t') :
    ∀ (j : Nat) (q q' : Q) (k : String), t[j]? = some q → t'[j]? = some q' → overMax q' k = true → overMax q k = true := by
  intro j q q' k hq hq' hover
  obtain ⟨_, _, hfr⟩ := tryInc_frame t t' i alloc hw ha h
  obtain ⟨hm, hp, hal⟩ := hfr j q q' hq hq'
  by_cases hj : j ∈ chain t i
  · cases hk : alloc.has k with
    | false => rw [← overMax_congr hm hp (hal k hk)]; exact hover
    | true =>
      rw [has_iff_mem_keys] at hk
      simp only [keys, List.mem_map] at hk
      obtain ⟨e, he, hek⟩ := hk
      have := tryInc_ok_within_max t t' i alloc hw ha h j hj q' hq' e he
      rw [hek, hover] at this; cases this
  · rw [tryInc_getElem? hw h, if_neg hj, hq] at hq'
    cases hq'; exact hover

/-- The effective limit of a queue is never looser than its parent's: on every type the parent's effective
    maximum defines, the child's effective maximum defines it too and is not larger. -/
theorem effective_max_le_parent (t : QTree) (i p : Nat) (q : Q) (hw : TreeWF t)
    (hq : t[i]? = some q) (hp : q.parent = some p) :
    ∀ pm, getMax t p = some pm → ∃ cm, getMax t i = some cm ∧ ∀ e ∈ pm, cm.has e.1 = true ∧ cm.getD e.1 ≤ e.2 := by
  intro pm hpm
  have hwpm : oresWf (some pm) = true := hpm ▸ getMax_wf hw p
  rw [getMax_cons hw hq hp, hpm, internalGetMax_eq]
  obtain ⟨cm, hcm⟩ := cwm_some_left pm q.max
  exact ⟨cm, hcm, (hcm ▸ (cwm_le hwpm (hw.get hq).2.2.1).1).entries hwpm⟩

/-- Same for the headroom the scheduler checks asks against. -/
theorem headroom_le_parent (t : QTree) (i p : Nat) (q : Q) (hw : TreeWF t)
    (hq : t[i]? = some q) (hp : q.parent = some p) :
    ∀ ph, headRoom t p = some ph → ∃ ch, headRoom t i = some ch ∧ ∀ e ∈ ph, ch.has e.1 = true ∧ ch.getD e.1 ≤ e.2 := by
  intro ph hph
  have hwph : oresWf (some ph) = true := hph ▸ headRoom_wf hw p
  rw [headRoom_cons hw hq hp, hph, internalHeadRoom_eq]
  obtain ⟨ch, hch⟩ := cwm_some_right (q.max.map (subOnlyExistingX · q.allocated)) ph
  exact ⟨ch, hch, (hch ▸ (cwm_le (ownHeadRoom_wf (hw.get hq).2.2.1) hwph).2).entries hwph⟩

/-- non-vacuity -/
example : TreeWF exTree := by decide +kernel
example : (tryInc exTree 1 [("cpu", 3)]).isSome = true ∧ tryInc exTree 1 [("cpu", 5)] = none ∧
    tryInc exTree 1 [("gpu", 1)] = none ∧ (tryInc exTree 1 [("cpu", 3)] >>= fun t => tryInc t 1 [("cpu", 2)]) = none := by decide +kernel
/-- the forced path does create over-max usage (which is why the property excludes it) -/
example : ((inc exTree 1 [("cpu", 7)])[1]?.map (fun q => overMax q "cpu")) = some true := by decide +kernel

end Yk.C02
