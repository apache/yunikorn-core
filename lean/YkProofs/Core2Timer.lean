/-
  Timers and bookkeeping-only operations of the stepped Core model (YkModel/CoreOps2.lean): `phTimeout`
  (timeoutPlaceholderProcessing), `stateTimeout` (timeoutStateTimer), `leaveApp` / `sweepTerminated` (moveTerminatedApp),
  `markReleased`, `cleanup`, `queuesAdd` / `appAdd`: each with the preservation of `Books` and `CoreWF`.  `phTimeout`,
  `stateTimeout`, `leaveApp` (`sweepTerminated` is its fold) and `markReleased` rewrite one application record and have
  a shape lemma (`shape_phCore2` / `shape_phTimeout1` / `shape_phTimeout2`, `shape_stateTimeout`, `shape_stateTimeout_done`, `shape_leaveApp`,
  `shape_markReleased`).  The others change the length of a list, which no `Shape` describes: `cleanup` drops records that
  are not live (`props_of_live`), `appAdd` appends one with empty ledgers (`apps_props`), `queuesAdd` appends queues with
  empty ledgers (clause by clause).
-/
import YkProofs.Core2App
namespace Yk
open Res Core

theorem Timer.getD_nil (k : String) : Res.getD [] k = 0 := rfl

theorem itemIrrel_released : ItemIrrel (fun x : CItem => { x with released := true }) :=
  fun _ => ⟨rfl, rfl, rfl, rfl, rfl, rfl⟩

theorem itemIrrel_preempted : ItemIrrel (fun x : CItem => { x with preempted := true }) :=
  fun _ => ⟨rfl, rfl, rfl, rfl, rfl, rfl⟩

/-! ### `phTimeout` (timeoutPlaceholderProcessing) -/

/-- case 2, before the asks are dropped: the state the application announced, every allocation marked released, the
    outstanding asks counted as timed out -/
def phApp1 (a : CApp) (ev : Option String) : CApp :=
  let a0 := match ev with | some st => setState a st | none => a
  let timedOut := a.items.filter (fun x => x.inReq && !x.allocated && !x.preempted)
  { a0 with items := a0.items.map (fun x => if x.bound && !x.preempted then { x with released := true } else x),
            phData := timedOut.foldl (fun d x => bumpTimedOut x.tg d) a0.phData }

theorem phApp1_fields (a : CApp) (ev : Option String) :
    (phApp1 a ev).items = a.items.map (fun x => if (x.bound && !x.preempted) = true then { x with released := true } else x) ∧
    (phApp1 a ev).id = a.id ∧ (phApp1 a ev).queue = a.queue ∧ (phApp1 a ev).live = a.live ∧
    (phApp1 a ev).allocated = a.allocated ∧ (phApp1 a ev).allocatedPh = a.allocatedPh ∧ (phApp1 a ev).pending = a.pending := by
  unfold phApp1
  cases ev with
  | none => exact ⟨rfl, rfl, rfl, rfl, rfl, rfl, rfl⟩
  | some st =>
    simp only [setState_items, setState_id, setState_queue, setState_live, setState_allocated, setState_allocatedPh,
      setState_pending, and_self]

theorem phApp1_items (a : CApp) (ev : Option String) :
    (phApp1 a ev).items = a.items.map (fun x => if (x.bound && !x.preempted) = true then { x with released := true } else x) :=
  (phApp1_fields a ev).1

theorem app_phApp1 (a : CApp) (ev : Option String) (h : AppBooks a ∧ AppWF a) :
    AppBooks (phApp1 a ev) ∧ AppWF (phApp1 a ev) := by
  obtain ⟨h1, _, _, _, h5, h6, h7⟩ := phApp1_fields a ev
  have hg := itemIrrel_ite (fun x => x.bound && !x.preempted) _ itemIrrel_released
  exact ⟨appBooks_items_irrel _ hg h1 h5 h6 h7 h.1, appWF_items_irrel _ hg h1 h5 h6 h7 h.2⟩

theorem phApp1_anyReq (a : CApp) (ev : Option String) : (phApp1 a ev).items.any (·.inReq) = a.items.any (·.inReq) := by
  rw [phApp1_items, List.any_map]
  exact congrArg _ (funext fun x => by dsimp only [Function.comp]; split <;> rfl)

def phApp2 (a : CApp) (ev : Option String) : CApp := dropAsksApp (phApp1 a ev)

theorem phApp2_fields (a : CApp) (ev : Option String) :
    (phApp2 a ev).id = a.id ∧ (phApp2 a ev).queue = a.queue ∧ (phApp2 a ev).live = a.live ∧
    (phApp2 a ev).allocated = a.allocated ∧ (phApp2 a ev).allocatedPh = a.allocatedPh ∧
    (phApp2 a ev).pending = if a.items.any (·.inReq) = true then [] else a.pending := by
  obtain ⟨_, h2, h3, h4, h5, h6, h7⟩ := phApp1_fields a ev
  unfold phApp2
  rw [dropAsksApp_id, dropAsksApp_queue, dropAsksApp_live, dropAsksApp_allocated, dropAsksApp_allocatedPh,
    dropAsksApp_pending, phApp1_anyReq, h2, h3, h4, h5, h6, h7]
  exact ⟨rfl, rfl, rfl, rfl, rfl, rfl⟩

theorem phApp2_id (a : CApp) (ev : Option String) : (phApp2 a ev).id = a.id := (phApp2_fields a ev).1
theorem phApp2_queue (a : CApp) (ev : Option String) : (phApp2 a ev).queue = a.queue := (phApp2_fields a ev).2.1
theorem phApp2_live (a : CApp) (ev : Option String) : (phApp2 a ev).live = a.live := (phApp2_fields a ev).2.2.1
theorem phApp2_allocated (a : CApp) (ev : Option String) : (phApp2 a ev).allocated = a.allocated :=
  (phApp2_fields a ev).2.2.2.1
theorem phApp2_allocatedPh (a : CApp) (ev : Option String) : (phApp2 a ev).allocatedPh = a.allocatedPh :=
  (phApp2_fields a ev).2.2.2.2.1
theorem phApp2_pending (a : CApp) (ev : Option String) :
    (phApp2 a ev).pending = if a.items.any (·.inReq) = true then [] else a.pending := (phApp2_fields a ev).2.2.2.2.2

/-- the state after case 2, before the reservations are dropped -/
def phCore2 (s : Core) (app : String) (ev : Option String) (a : CApp) : Core :=
  let sA := updApp s app (fun _ => phApp2 a ev)
  if a.items.any (·.inReq) then updQueues sA (pathChain s a.queue) (qDecPend a.pending) else sA

/-- the "release the placeholders that are not being replaced" item update of the two timers: a flag -/
abbrev relPh (x : CItem) : CItem :=
  if (x.bound && x.ph && !x.released && !x.preempted) = true then { x with released := true } else x

theorem phTimeout_none {s : Core} {app : String} (ev : Option String) (h : s.findApp app = none) :
    s.phTimeout app ev = s := by
  unfold phTimeout; simp only [h]

theorem phTimeout_eq (s : Core) (app : String) (ev : Option String) (a : CApp) (hfind : s.findApp app = some a) :
    s.phTimeout app ev =
      if ((a.state == "Running" || a.state == "Completing") && !(isZero (some a.allocatedPh))) = true then
        updApp s app (fun a => { a with items := a.items.map relPh })
      else if a.items.any (·.inReq) = true then unreserveApp (phCore2 s app ev a) a false
      else phCore2 s app ev a := by
  unfold phTimeout; simp only [hfind]; rfl

theorem shape_phCore2 (s : Core) (app : String) (ev : Option String) (a : CApp) (hw : CoreWF s)
    (hfind : s.findApp app = some a) :
    Shape s (phCore2 s app ev a) app a (phApp2 a ev) (onChain (pathChain s a.queue) (rmQ0 a)) (fun n => n) := by
  obtain ⟨f1, f2, _⟩ := phApp2_fields a ev
  have hq : (phCore2 s app ev a).queues = updQs s.queues (pathChain s a.queue) (rmQ0 a) := by
    unfold phCore2 rmQ0
    cases a.items.any (·.inReq)
    · simp only [Bool.false_eq_true, if_false]
      exact (updQs_id _ _).symm
    · rfl
  refine Shape.of_lists' (f := fun _ => phApp2 a ev) hw hfind ?_ hq ?_ ?_ f1 f2 (fun q => (rmQ0_path_reserved a q).1)
  all_goals unfold phCore2; cases a.items.any (·.inReq) <;> rfl

theorem phCore2_props (s : Core) (app : String) (ev : Option String) (a : CApp) (hw : CoreWF s) (hb : Books s)
    (hfind : s.findApp app = some a) : Books (phCore2 s app ev a) ∧ CoreWF (phCore2 s app ev a) := by
  obtain ⟨ham, hl, _⟩ := findApp_some hfind
  have hwa := hw.app ham hl
  obtain ⟨_, _, f3, f4, f5, f6⟩ := phApp2_fields a ev
  refine (shape_phCore2 s app ev a hw hfind).props_move hw hb
    (fun _ => app_dropAsksApp _ (app_phApp1 a ev ⟨hb.apps a ham hl, hwa⟩))
    (fun q hq hun => rmQ0_move a (hw.queue hq) hwa.appRes.1 (hb.pending_le hw ham hl hq hun)) (fun k => ?_) (fun k => ?_)
    (fun n hn => ⟨hw.node hn, hb.nodes n hn⟩)
  · rw [f3, f4, f5, hl, if_pos rfl]
    exact (Int.sub_self _).symm
  · rw [f3, f6, hl, if_pos rfl]
    split
    · exact (Int.sub_zero _).symm
    · exact (Int.sub_self _).symm

theorem shape_phTimeout1 (s : Core) (app : String) (ev : Option String) (a : CApp) (hw : CoreWF s)
    (hfind : s.findApp app = some a)
    (hc : ((a.state == "Running" || a.state == "Completing") && !(isZero (some a.allocatedPh))) = true) :
    Shape s (s.phTimeout app ev) app a { a with items := a.items.map relPh } (fun q => q) (fun n => n) := by
  rw [phTimeout_eq s app ev a hfind, if_pos hc]
  exact Shape.of_updApp hw hfind rfl rfl

theorem shape_phTimeout2 (s : Core) (app : String) (ev : Option String) (a : CApp) (hw : CoreWF s)
    (hfind : s.findApp app = some a)
    (hc : ((a.state == "Running" || a.state == "Completing") && !(isZero (some a.allocatedPh))) = false) :
    Shape s (s.phTimeout app ev) app a (phApp2 a ev)
      (fun q => unresQ (a.items.any (·.inReq)) a (onChain (pathChain s a.queue) (rmQ0 a) q))
      (unresN (a.items.any (·.inReq)) a) := by
  rw [phTimeout_eq s app ev a hfind, if_neg (by rw [hc]; exact Bool.false_ne_true)]
  exact (shape_phCore2 s app ev a hw hfind).unreserveIf _ a

theorem phTimeout_props (s : Core) (app : String) (ev : Option String) (hw : CoreWF s) (hb : Books s) :
    Books (s.phTimeout app ev) ∧ CoreWF (s.phTimeout app ev) := by
  cases hfind : s.findApp app with
  | none => rw [phTimeout_none ev hfind]; exact ⟨hb, hw⟩
  | some a =>
    cases hc : ((a.state == "Running" || a.state == "Completing") && !(isZero (some a.allocatedPh))) with
    | true =>
      exact (shape_phTimeout1 s app ev a hw hfind hc).props_flag hw hb qIrrel_id (itemIrrel_ite _ _ itemIrrel_released) rfl
        (findApp_some hfind).2.1 rfl rfl rfl
    | false =>
      exact (shape_phCore2 s app ev a hw hfind).props_tail (shape_phTimeout2 s app ev a hw hfind hc) (unresQ_irrel _ a)
        (unresN_irrel _ a) (phCore2_props s app ev a hw hb hfind)

/-- an application leaves the partition: Queue.RemoveApplication along its chain -/
theorem leave_props {s t : Core} {app : String} {a a' : CApp}
    (sh : Shape s t app a a' (onChain (pathChain s a.queue) (qLeave a')) (fun n => n)) (hw : CoreWF s) (hb : Books s)
    (h1 : a'.live = false) (h4 : a'.allocated = a.allocated) (h5 : a'.allocatedPh = a.allocatedPh)
    (h6 : a'.pending = a.pending) : Books t ∧ CoreWF t := by
  obtain ⟨ham, hl, _⟩ := sh.mem
  have hdead : ¬ (a'.live = true) := by rw [h1]; exact Bool.false_ne_true
  refine sh.props_move hw hb (fun h => absurd h hdead) (fun q hq hun => .leave (hw.queue hq)
    (by rw [h4, h5, h6]; exact (hw.app ham hl).appRes) (by rw [h6]; exact hb.pending_le hw ham hl hq hun))
    (fun k => ?_) (fun k => ?_) (fun n hn => ⟨hw.node hn, hb.nodes n hn⟩)
  · rw [if_neg hdead, h4, h5]; exact (Int.sub_zero _).symm
  · rw [if_neg hdead, h6]; exact (Int.sub_zero _).symm

/-! ### `stateTimeout` (timeoutStateTimer) -/

theorem fire_completing : fireState "Completing" .complete = "Completed" := by decide +kernel

/-- what a Completing application without placeholders becomes when its state timer fires -/
def doneApp (a : CApp) : CApp := { setState a "Completed" with live := false, items := Timer.boundOnly a.items }

theorem shape_stateTimeout_done (s : Core) (app : String) (a : CApp) (hw : CoreWF s)
    (hfind : s.findApp app = some a) (hst : a.state = "Completing") (hph : isZero (some a.allocatedPh) = true) :
    Shape s (s.stateTimeout app) app a (doneApp a) (onChain (pathChain s a.queue) (qLeave (doneApp a)))
      (fun n => n) := by
  have e : s.stateTimeout app =
      updQueues (updApp s app (fun _ => doneApp a)) (pathChain s a.queue) (qLeave (doneApp a)) := by
    unfold stateTimeout doneApp
    simp only [hfind, hph, hst, bne_self_eq_false, Bool.not_true, Bool.false_eq_true, if_false, fire_completing, terminated]
    rfl
  exact e ▸ Shape.of_lists' (f := fun _ => doneApp a) hw hfind rfl rfl rfl rfl (setState_id a _) (setState_queue a _)
    (fun _ => rfl)

theorem shape_stateTimeout (s : Core) (app : String) (hw : CoreWF s) :
    s.stateTimeout app = s ∨ ∃ a, s.findApp app = some a ∧ a.state = "Completing" ∧
      ((isZero (some a.allocatedPh) = false ∧ Shape s (s.stateTimeout app) app a
          { a with stateTimer := false, items := a.items.map relPh } (fun q => q) (fun n => n)) ∨
       (isZero (some a.allocatedPh) = true ∧ Shape s (s.stateTimeout app) app a (doneApp a)
          (onChain (pathChain s a.queue) (qLeave (doneApp a))) (fun n => n))) := by
  cases hfind : s.findApp app with
  | none => left; unfold stateTimeout; simp only [hfind]
  | some a =>
    cases hst : (a.state != "Completing") with
    | true => left; unfold stateTimeout; simp only [hfind, hst, if_true]
    | false =>
      have hstate : a.state = "Completing" := by simpa using hst
      refine Or.inr ⟨a, rfl, hstate, ?_⟩
      cases hz : isZero (some a.allocatedPh) with
      | false =>
        refine Or.inl ⟨rfl, ?_⟩
        have e : s.stateTimeout app = updApp s app (fun a => { a with stateTimer := false, items := a.items.map relPh }) := by
          unfold stateTimeout
          simp only [hfind, hst, hz, Bool.not_false, Bool.false_eq_true, if_false, if_true]
        exact e ▸ Shape.of_updApp hw hfind rfl rfl
      | true => exact Or.inr ⟨rfl, shape_stateTimeout_done s app a hw hfind hstate hz⟩

theorem stateTimeout_props (s : Core) (app : String) (hw : CoreWF s) (hb : Books s) :
    Books (s.stateTimeout app) ∧ CoreWF (s.stateTimeout app) := by
  rcases shape_stateTimeout s app hw with e | ⟨a, hfind, _, ⟨_, sh⟩ | ⟨_, sh⟩⟩
  · rw [e]; exact ⟨hb, hw⟩
  · exact sh.props_flag hw hb qIrrel_id (itemIrrel_ite _ _ itemIrrel_released) rfl (findApp_some hfind).2.1 rfl rfl rfl
  · exact leave_props sh hw hb rfl (setState_allocated a _) (setState_allocatedPh a _) (setState_pending a _)

/-! ### `leaveApp`, `sweepTerminated` (moveTerminatedApp) -/

/-- moveTerminatedApp on the application record -/
def leftApp (a : CApp) : CApp := { a with live := false, items := Timer.boundOnly a.items }

theorem leaveApp_cases (c : Core) (app : String) :
    (c.findApp app = none ∧ c.leaveApp app = c) ∨
    ∃ a, c.findApp app = some a ∧ c.leaveApp app =
      updQueues (updApp c app (fun _ => leftApp a)) (pathChain c a.queue) (qLeave (leftApp a)) := by
  unfold leaveApp
  cases c.findApp app with
  | none => exact Or.inl ⟨rfl, rfl⟩
  | some a => exact Or.inr ⟨a, rfl, rfl⟩

theorem shape_leaveApp (c : Core) (app : String) (hw : CoreWF c) :
    (c.findApp app = none ∧ c.leaveApp app = c) ∨
    ∃ a, c.findApp app = some a ∧ Shape c (c.leaveApp app) app a (leftApp a)
      (onChain (pathChain c a.queue) (qLeave (leftApp a))) (fun n => n) := by
  rcases leaveApp_cases c app with h | ⟨a, hfind, e⟩
  · exact Or.inl h
  · exact Or.inr ⟨a, hfind, e ▸ Shape.of_lists' (f := fun _ => leftApp a) hw hfind rfl rfl rfl rfl rfl rfl (fun _ => rfl)⟩

theorem leaveApp_live_mem (c : Core) (id : String)
    (hu : c.apps.Pairwise (fun a b => a.live = true → b.live = true → a.id ≠ b.id)) :
    ∀ b ∈ (c.leaveApp id).apps, b.live = true → b ∈ c.apps ∧ b.id ≠ id := by
  intro b hb hbl
  rcases leaveApp_cases c id with ⟨hfind, e⟩ | ⟨a, hfind, e⟩
  · rw [e] at hb
    exact ⟨hb, findApp_none hfind b hb hbl⟩
  · obtain ⟨ham, hl, hid⟩ := findApp_some hfind
    rw [e] at hb
    rcases mem_updApps hu ham hl hid hb with rfl | ⟨hbs, hne⟩
    · cases hbl
    · exact ⟨hbs, fun e => hne (by simp [hbl, e])⟩

theorem leaveApp_props (c : Core) (app : String) (hw : CoreWF c) (hb : Books c) :
    Books (c.leaveApp app) ∧ CoreWF (c.leaveApp app) := by
  rcases shape_leaveApp c app hw with ⟨_, e⟩ | ⟨a, _, sh⟩
  · rw [e]; exact ⟨hb, hw⟩
  · exact leave_props sh hw hb rfl rfl rfl rfl

theorem sweepFold_keeps {I : Core → Prop} (hstep : ∀ c app, I c → I (c.leaveApp app)) (l : List CApp) (c : Core)
    (h : I c) : I (l.foldl (fun c a => if a.live && terminated a.state then leaveApp c a.id else c) c) := by
  induction l generalizing c with
  | nil => exact h
  | cons a t ih =>
    rw [List.foldl_cons]
    split
    · exact ih _ (hstep c a.id h)
    · exact ih c h

/-- for an invariant `I` (which includes the uniqueness of the ids, `hu`) that `leaveApp` keeps for terminated
    applications only: the live terminated elements of `l` must name terminated applications of the current state -/
theorem sweepFold_inv {I : Core → Prop}
    (hu : ∀ c, I c → c.apps.Pairwise (fun a b => a.live = true → b.live = true → a.id ≠ b.id))
    (hstep : ∀ c app, I c → (∀ a, c.findApp app = some a → terminated a.state = true) → I (c.leaveApp app))
    (l : List CApp) : ∀ c, I c →
    (∀ a ∈ l, (a.live && terminated a.state) = true →
      ∀ b ∈ c.apps, b.live = true → b.id = a.id → terminated b.state = true) →
    I (l.foldl (fun c a => if a.live && terminated a.state then leaveApp c a.id else c) c) := by
  induction l with
  | nil => intro c h _; exact h
  | cons a t ih =>
    intro c h h1
    have h1t := fun a' ha' => h1 a' (List.mem_cons_of_mem _ ha')
    rw [List.foldl_cons]
    by_cases hc : (a.live && terminated a.state) = true
    · rw [if_pos hc]
      have hI := hstep c a.id h (fun a2 hf =>
        let ⟨m, l', i⟩ := findApp_some hf
        h1 a List.mem_cons_self hc a2 m l' i)
      exact ih _ hI (fun a' ha' hc' b hbm hbl =>
        h1t a' ha' hc' b (leaveApp_live_mem c a.id (hu c h) b hbm hbl).1 hbl)
    · rw [if_neg hc]
      exact ih c h h1t

theorem sweepTerminated_inv {I : Core → Prop}
    (hu : ∀ c, I c → c.apps.Pairwise (fun a b => a.live = true → b.live = true → a.id ≠ b.id))
    (hstep : ∀ c app, I c → (∀ a, c.findApp app = some a → terminated a.state = true) → I (c.leaveApp app))
    (c : Core) (h : I c) : I c.sweepTerminated := by
  refine sweepFold_inv hu hstep c.apps c h ?_
  intro a ha hc b hbm hbl hid
  simp only [Bool.and_eq_true] at hc
  have : b = a := (appIds_atMostOne a.id (hu c h)).eq hbm ha (by simp [hbl, hid]) (by simp [hc.1])
  rw [this]; exact hc.2

theorem sweepTerminated_props (c : Core) (hw : CoreWF c) (hb : Books c) :
    Books c.sweepTerminated ∧ CoreWF c.sweepTerminated :=
  sweepFold_keeps (I := fun c => Books c ∧ CoreWF c) (fun c app h => leaveApp_props c app h.2 h.1) c.apps c ⟨hb, hw⟩

/-! ### `markReleased`: flags on the allocation, `preempting` along the chain -/

/-- markAllocationReleased on the application record: the flag of the item `key` -/
def markApp (key : String) (preempted : Bool) (a : CApp) : CApp :=
  { a with items := a.items.map (fun x =>
      if x.key == key then (if preempted then { x with preempted := true } else { x with released := true }) else x) }

/-- the queue of the chain when the allocation `i` is marked: a preemption not yet counted enters `preempting` -/
def markQ (preempted : Bool) (i : CItem) (q : CQueue) : CQueue :=
  if (preempted && !i.preempted) = true then { q with preempting := addX q.preempting i.res } else q

theorem markQ_path_reserved (preempted : Bool) (i : CItem) (q : CQueue) :
    (markQ preempted i q).path = q.path ∧ (markQ preempted i q).reserved = q.reserved := by
  unfold markQ; split <;> exact ⟨rfl, rfl⟩

theorem markQ_irrel (preempted : Bool) (i : CItem) : QIrrel (markQ preempted i) := by
  intro q; unfold markQ; split <;> exact ⟨rfl, rfl, rfl⟩

theorem shape_markReleased (c : Core) (app key : String) (preempted : Bool) (hw : CoreWF c) :
    c.markReleased app key preempted = c ∨
    ∃ a i, c.findApp app = some a ∧ a.items.find? (·.key == key) = some i ∧
      Shape c (c.markReleased app key preempted) app a (markApp key preempted a)
        (onChain (pathChain c a.queue) (markQ preempted i)) (fun n => n) := by
  cases hfind : c.findApp app with
  | none => left; unfold markReleased; simp only [hfind]
  | some a =>
    cases hitem : a.items.find? (·.key == key) with
    | none => left; unfold markReleased; simp only [hfind, hitem]
    | some i =>
      refine Or.inr ⟨a, i, rfl, hitem, ?_⟩
      refine Shape.of_lists' (f := markApp key preempted) hw hfind ?_ ?_ ?_ ?_ rfl rfl (fun q => (markQ_path_reserved preempted i q).1)
      all_goals unfold markReleased; simp only [hfind, hitem]
      case refine_2 =>
        unfold markQ
        cases (preempted && !i.preempted)
        · simp only [Bool.false_eq_true, if_false]
          exact (updQs_id _ _).symm
        · rfl
      all_goals cases (preempted && !i.preempted) <;> rfl

theorem markReleased_props (c : Core) (app key : String) (preempted : Bool) (hw : CoreWF c) (hb : Books c) :
    Books (c.markReleased app key preempted) ∧ CoreWF (c.markReleased app key preempted) := by
  have hgi : ItemIrrel (fun x : CItem => if preempted = true then { x with preempted := true } else { x with released := true }) := by
    cases preempted
    · exact itemIrrel_released
    · exact itemIrrel_preempted
  rcases shape_markReleased c app key preempted hw with e | ⟨a, i, hfind, _, sh⟩
  · rw [e]; exact ⟨hb, hw⟩
  · exact sh.props_flag hw hb (qIrrel_ite _ _ (markQ_irrel preempted i)) (itemIrrel_ite (·.key == key) _ hgi) rfl
      (findApp_some hfind).2.1 rfl rfl rfl

/-! ### `cleanup` (cleanupExpiredApps): dead applications are dropped -/

theorem cleanup_props (s : Core) (hw : CoreWF s) (hb : Books s) : Books s.cleanup ∧ CoreWF s.cleanup :=
  props_of_live (s := s) qIrrel_id nodeIrrel_id
    ((List.filter_filter ..).trans (List.filter_congr (fun x _ => by cases x.live <;> rfl)))
    (List.map_id' _).symm (List.map_id' _).symm hw hb

/-! ### `queuesAdd`, `appAdd`: new queues and a new application, all with empty ledgers -/

/-- The side condition of `queuesAdd` / `appAdd`: a queue that is created now starts with empty ledgers, so no live
    application may already sit at or below its path (in the implementation a dynamic queue is created before the first
    application is placed in it, and a queue that still holds applications is never removed and created again). -/
structure FreshQueuesOK (s : Core) (newQueues : List CQueue) : Prop where
  noApps : ∀ q ∈ newQueues, (s.findQueue q.path).isNone = true →
    ∀ x ∈ s.apps, x.live = true → under x.queue q.path = false

theorem queuesAdd_apps (s : Core) (nq : List CQueue) : (s.queuesAdd nq).apps = s.apps := rfl
theorem Timer.queuesAdd_nodes (s : Core) (nq : List CQueue) : (s.queuesAdd nq).nodes = s.nodes := rfl

theorem mem_queuesAdd {s : Core} {nq : List CQueue} {q : CQueue} (hq : q ∈ (s.queuesAdd nq).queues) :
    q ∈ s.queues ∨ ∃ q0 ∈ nq, (s.findQueue q0.path).isNone = true ∧ q.path = q0.path ∧ q.allocated = [] ∧ q.pending = [] := by
  unfold queuesAdd at hq
  rcases List.mem_append.mp hq with h | h
  · exact Or.inl h
  · right
    obtain ⟨q0, hq0, rfl⟩ := List.mem_map.mp h
    obtain ⟨hm, hf⟩ := List.mem_filter.mp hq0
    exact ⟨q0, hm, hf, rfl, rfl, rfl⟩

theorem queuesAdd_props (s : Core) (nq : List CQueue) (hw : CoreWF s) (hb : Books s) (hok : FreshQueuesOK s nq) :
    Books (s.queuesAdd nq) ∧ CoreWF (s.queuesAdd nq) := by
  constructor
  · refine ⟨hb.apps, ?_, hb.nodes⟩
    intro q hq
    rw [queuesAdd_apps]
    rcases mem_queuesAdd hq with h | ⟨q0, hm, hf, hp, ha, hpd⟩
    · exact hb.queues q h
    · have hz : ∀ g, qsum s.apps q.path g = 0 := by
        intro g
        apply sumIf_none
        intro x hx
        cases hl : x.live with
        | false => rfl
        | true => rw [hp, hok.noApps q0 hm hf x hx hl]; rfl
      exact ⟨fun k => by rw [ha, hz]; rfl, fun k => by rw [hpd, hz]; rfl⟩
  · refine CoreWF.of_parts hw.appIds hw.nodeIds (fun a ha hl => hw.app ha hl) ?_ (fun n hn => hw.node hn)
    intro q hq
    rcases mem_queuesAdd hq with h | ⟨q0, _, _, _, ha, hpd⟩
    · exact hw.queue h
    · exact ⟨by rw [ha]; rfl, by rw [hpd]; rfl, by rw [hpd]; exact fun _ hp => by cases hp⟩

theorem app_append_props (s t : Core) (n : CApp) (hw : CoreWF s) (hb : Books s)
    (hta : t.apps = s.apps ++ [n]) (htq : t.queues = s.queues) (htn : t.nodes = s.nodes)
    (hi : n.items = []) (hp : n.pending = []) (hal : n.allocated = []) (hph : n.allocatedPh = [])
    (hid : ∀ x ∈ s.apps, x.live = true → x.id ≠ n.id) : Books t ∧ CoreWF t := by
  have hnb : AppBooks n := by
    refine ⟨?_, ?_, ?_⟩ <;> intro k
    · rw [hi, hal]; rfl
    · rw [hi, hph]; rfl
    · rw [hi, hp]; rfl
  have hnw : AppWF n := by
    refine ⟨by rw [hi]; exact List.Pairwise.nil, by rw [hp, hal, hph]; exact ⟨rfl, rfl, rfl⟩, ?_, ?_⟩
    · rw [hi]; intro i h; cases h
    · rw [hi]; intro i h; cases h
  have hqs : ∀ (p : String) (g : CApp → Int), g n = 0 → qsum (s.apps ++ [n]) p g = qsum s.apps p g := by
    intro p g hg
    unfold qsum
    rw [sumIf_append, sumIf_single, hg]; simp
  refine apps_props s t hw hb htq htn ?_ ?_ ?_
  · rw [hta, List.pairwise_append]
    refine ⟨hw.appIds, List.pairwise_singleton _ _, ?_⟩
    intro x hx y hy hxl _
    rw [List.mem_singleton.mp hy]
    exact hid x hx hxl
  · rw [hta]
    intro x hx hl
    rcases List.mem_append.mp hx with h | h
    · exact ⟨hb.apps x h hl, hw.app h hl⟩
    · rw [List.mem_singleton.mp h]; exact ⟨hnb, hnw⟩
  · rw [hta]
    exact fun p k => ⟨hqs _ _ (by rw [hal, hph]; rfl), hqs _ _ (by rw [hp]; rfl)⟩

theorem appAdd_props (s : Core) (a : Option CApp) (nq : List CQueue) (hw : CoreWF s) (hb : Books s)
    (hok : FreshQueuesOK s nq) : Books (s.appAdd a nq) ∧ CoreWF (s.appAdd a nq) := by
  obtain ⟨hb1, hw1⟩ := queuesAdd_props s nq hw hb hok
  cases a with
  | none => exact ⟨hb1, hw1⟩
  | some a =>
    cases hc : ((s.findApp a.id).isSome || !((s.queuesAdd nq).queues.any (·.path == a.queue))) with
    | true =>
      have e : s.appAdd (some a) nq = s.queuesAdd nq := by unfold appAdd; simp only [hc, if_true]
      rw [e]; exact ⟨hb1, hw1⟩
    | false =>
      have e : s.appAdd (some a) nq = { s.queuesAdd nq with apps := (s.queuesAdd nq).apps ++
          [{ a with live := true, items := [], pending := [], allocated := [], allocatedPh := [] }] } := by
        unfold appAdd; simp only [hc, Bool.false_eq_true, if_false]
      rw [e]
      simp only [Bool.or_eq_false_iff] at hc
      have hnone : s.findApp a.id = none := by
        cases h : s.findApp a.id with
        | none => rfl
        | some _ => rw [h] at hc; simp at hc
      exact app_append_props (s.queuesAdd nq) _ _ hw1 hb1 rfl rfl rfl rfl rfl rfl rfl
        (fun x hx hl => findApp_none hnone x hx hl)

end Yk
