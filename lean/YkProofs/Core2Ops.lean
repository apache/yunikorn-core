/-
  The operations of the first part of the stepped model (YkModel/CoreOps.lean) behind the description of a step
  (YkProofs/Core2Shape.lean): `ask`, `schedAlloc` (`bindAsk`), and `releaseKey`, cut into the two steps `rel1`, `rel2`
  (the state between them is well-formed), each with its record function, shape lemma, books and `CoreWF`; `CoreWF`
  across the node requests and the foreign allocations (their books are in YkProofs/Core.lean).
-/
import YkProofs.Core2Rel
namespace Yk
open Res Core

theorem wf_updNode_step (s : Core) (id : String) (fn : CNode → CNode) (hw : CoreWF s)
    (hid : ∀ n, (fn n).id = n.id) (h : ∀ n ∈ s.nodes, n.id = id → NWF (fn n)) : CoreWF (updNode s id fn) := by
  obtain ⟨h1, h2⟩ := wf_updNs s.nodes id fn hw.nodeIds (fun n hn => hw.node hn) hid h
  exact CoreWF.of_parts hw.appIds h1 (fun a ha hl => hw.app ha hl) (fun q hq => hw.queue hq) h2

/-! ### the scheduler binds an ask: `schedAlloc` -/

/-- allocateAsk + addAllocationInternal for the outstanding ask `i` (key `key`) -/
def bindApp (key node : String) (i : CItem) (a : CApp) : CApp :=
  let items := a.items.map (fun x => if x.key == key then { x with allocated := true, bound := true, node := node } else x)
  let pending := prune (subX a.pending i.res)
  if i.ph then
    let aph := addX a.allocatedPh i.res
    let st := if equals (some aph) (some a.phAsk) false then fireState a.state .run else a.state
    { a with items := items, pending := pending, allocatedPh := aph, state := st,
             log := if st != a.state then a.log ++ [st] else a.log }
  else
    let st := fireState a.state .run
    { a with items := items, pending := pending, allocated := addX a.allocated i.res, state := st,
             log := if st != a.state then a.log ++ [st] else a.log }

/-- queue.TryIncAllocatedResource: the ledger effect -/
def bindQ (res : Res) (q : CQueue) : CQueue :=
  { q with allocated := addX q.allocated res, pending := decPendingRes q.pending res }

/-- what `Core.schedAlloc` does once its checks have passed -/
def bindAsk (s : Core) (app key node : String) (a : CApp) (i : CItem) : Core :=
  let s3 := updApp (updQueues (updNode s node (addAllocNode { key := key, app := app, res := i.res, foreign := false, ph := i.ph }))
    (pathChain s a.queue) (bindQ i.res)) app (bindApp key node i)
  { s3 with allocations := s3.allocations + 1, phAllocations := if i.ph then s3.phAllocations + 1 else s3.phAllocations }

theorem schedAlloc_def (s : Core) (app key node : String) :
    s.schedAlloc app key node =
      match s.findApp app, s.findNode node with
      | some a, some n =>
        match a.items.find? (fun i => i.key == key && i.inReq && !i.allocated) with
        | none => none
        | some i => if !(fitInStd (some n.available) (some i.res)) then none else some (bindAsk s app key node a i)
      | _, _ => none := rfl

@[simp] theorem bindApp_queue (key node : String) (i : CItem) (a : CApp) : (bindApp key node i a).queue = a.queue := by
  unfold bindApp; cases i.ph <;> rfl
@[simp] theorem bindApp_id (key node : String) (i : CItem) (a : CApp) : (bindApp key node i a).id = a.id := by
  unfold bindApp; cases i.ph <;> rfl
@[simp] theorem bindApp_live (key node : String) (i : CItem) (a : CApp) : (bindApp key node i a).live = a.live := by
  unfold bindApp; cases i.ph <;> rfl
theorem bindApp_items (key node : String) (i : CItem) (a : CApp) : (bindApp key node i a).items =
    a.items.map (fun x => if (x.key == key) = true then { x with allocated := true, bound := true, node := node } else x) := by
  unfold bindApp; cases i.ph <;> rfl
theorem bindApp_pending (key node : String) (i : CItem) (a : CApp) :
    (bindApp key node i a).pending = prune (subX a.pending i.res) := by
  unfold bindApp; cases i.ph <;> rfl
theorem bindApp_allocated (key node : String) (i : CItem) (a : CApp) :
    (bindApp key node i a).allocated = if i.ph = true then a.allocated else addX a.allocated i.res := by
  unfold bindApp; cases i.ph <;> rfl
theorem bindApp_allocatedPh (key node : String) (i : CItem) (a : CApp) :
    (bindApp key node i a).allocatedPh = if i.ph = true then addX a.allocatedPh i.res else a.allocatedPh := by
  unfold bindApp; cases i.ph <;> rfl

theorem appWF_bindApp (key node : String) (i : CItem) (a : CApp) (hwa : AppWF a) : AppWF (bindApp key node i a) := by
  obtain ⟨hwp, hwal, hwh⟩ := hwa.appRes
  refine hwa.of_sublist (fun x => if (x.key == key) = true then { x with allocated := true, bound := true, node := node } else x)
    (by rw [bindApp_items]; exact List.Sublist.refl _) ?_ (fun x => by split <;> rfl) (fun x hx => ?_)
  · rw [bindApp_pending, bindApp_allocated, bindApp_allocatedPh]
    refine ⟨prune_wf _ (subX_wf _ _ hwp), ?_, ?_⟩
    · split
      · exact hwal
      · exact addX_wf _ _ hwal
    · split
      · exact addX_wf _ _ hwh
      · exact hwh
  · split
    · exact ⟨hwa.itemRes x hx, fun _ => rfl⟩
    · exact ⟨hwa.itemRes x hx, hwa.boundAllocated x hx⟩

theorem shape_bindAsk (s : Core) (app key node : String) (a : CApp) (i : CItem) (hw : CoreWF s)
    (hfind : s.findApp app = some a) :
    Shape s (bindAsk s app key node a i) app a (bindApp key node i a) (onChain (pathChain s a.queue) (bindQ i.res))
      (onNodeId node (addAllocNode { key := key, app := app, res := i.res, foreign := false, ph := i.ph })) :=
  Shape.of_lists hw hfind rfl rfl rfl rfl (bindApp_id key node i a) (bindApp_queue key node i a) (fun _ => rfl) (fun _ => rfl)

theorem schedAlloc_some {s s' : Core} {app key node : String} (h : s.schedAlloc app key node = some s') :
    ∃ a n i, s.findApp app = some a ∧ s.findNode node = some n ∧
      a.items.find? (fun i => i.key == key && i.inReq && !i.allocated) = some i ∧
      fitInStd (some n.available) (some i.res) = true ∧ s' = bindAsk s app key node a i := by
  rw [schedAlloc_def] at h
  split at h
  · rename_i a n hfind hnode
    split at h
    · cases h
    · rename_i i hitem
      by_cases hfit : fitInStd (some n.available) (some i.res) = true
      · rw [if_neg (by simp [hfit])] at h
        exact ⟨a, n, i, hfind, hnode, hitem, hfit, (Option.some.inj h).symm⟩
      · rw [if_pos (by simp [hfit])] at h; cases h
  · cases h

theorem books_bindAsk (s : Core) (app key node : String) (a : CApp) (i : CItem) (hw : CoreWF s) (hb : Books s)
    (hfind : s.findApp app = some a) (hitem : a.items.find? (fun i => i.key == key && i.inReq && !i.allocated) = some i) :
    Books (bindAsk s app key node a i) := by
  obtain ⟨ham, hl, hid⟩ := findApp_some hfind
  obtain ⟨him, hkey, hreq, hnal⟩ := find_outstanding hitem
  have hnb : i.bound = false := by
    cases hbd : i.bound with
    | false => rfl
    | true => rw [hw.boundAllocated a ham hl i him hbd] at hnal; cases hnal
  obtain ⟨hwp, hwa, hwh⟩ := hw.appRes a ham hl
  obtain ⟨hwr, _⟩ := hw.itemRes a ham hl i him
  have hpend := prune_subX_getD _ _ hwp hwr
  refine books_move s _ app a (bindApp key node i) _ (bindQ i.res) (fun k => i.res.getD k) (fun k => - i.res.getD k)
    ham hl hid hw.appIds hb rfl rfl ?_ (bindApp_queue ..) ((bindApp_live ..).trans hl) ?_ (chain_iff s a.queue) (fun _ => rfl) ?_ ?_
  · exact books_upd_nodes _ _ _ hb.nodes
      (fun m hm _ hmb => nodeBooks_addAlloc _ m rfl (hw.nodeRes m hm).2.2.2 hwr hmb)
  · refine (hb.apps a ham hl).update (hw.itemKeys a ham hl) him hkey _ (bindApp_items ..) ?_ ?_ ?_
    · intro k; rw [bindApp_allocated]; cases i.ph <;> simp [hnb, addX_getD _ _ hwr]
    · intro k; rw [bindApp_allocatedPh]; cases i.ph <;> simp [hnb, addX_getD _ _ hwr]
    · intro k; rw [bindApp_pending, hpend]; simp [hreq, hnal]
  · intro k
    rw [bindApp_allocated, bindApp_allocatedPh, bindApp_pending, hpend]
    cases i.ph <;> simp [addX_getD _ _ hwr] <;> omega
  · intro q hq hun k
    obtain ⟨_, hqp, hqr⟩ := hw.queueRes q hq
    refine ⟨addX_getD _ _ hwr k, ?_⟩
    show (decPendingRes q.pending i.res).getD k = _
    rw [decPendingRes_getD _ _ hqp hwr hqr (fun k' => ?_)]
    · omega
    · have := hb.item_pending_le hw ham hl him (by simp [hreq, hnal]) hq hun k'
      omega

theorem books_schedAlloc (s s' : Core) (app key node : String)
    (hw : CoreWF s) (hb : Books s) (h : s.schedAlloc app key node = some s') : Books s' := by
  obtain ⟨a, _, i, hfind, _, hitem, _, rfl⟩ := schedAlloc_some h
  exact books_bindAsk s app key node a i hw hb hfind hitem

/-- `hnew`: the node does not list an allocation with this key yet (node.allocations is a map: the new entry would
    replace the old one, the model appends) -/
theorem wf_schedAlloc (s s' : Core) (app key node : String) (hw : CoreWF s)
    (hnew : ∀ n, s.findNode node = some n → ∀ x ∈ n.allocs, x.key ≠ key)
    (h : s.schedAlloc app key node = some s') : CoreWF s' := by
  obtain ⟨a, n, i, hfind, hnode, hitem, _, rfl⟩ := schedAlloc_some h
  have sh := shape_bindAsk s app key node a i hw hfind
  obtain ⟨ham, hl, _⟩ := sh.mem
  obtain ⟨hwr, _⟩ := hw.itemRes a ham hl i (List.mem_of_find?_eq_some hitem)
  exact sh.wf_chain hw (fun _ => appWF_bindApp key node i a (hw.app ham hl))
    (fun q hq _ => ⟨addX_wf _ _ (hw.queue hq).allocated, decPendingRes_wf _ _ (hw.queue hq).pending,
      decPendingRes_allInR _ _ (hw.queue hq).inR⟩)
    (onNodeId_found hw hnode (fun _ hnw => nwf_addAlloc _ n hnw hwr (hnew n hnode)))

/-! ### a new ask: `ask` -/

/-- the entry of application.requests for a new ask -/
def newAsk (key : String) (res : Res) (ph : Bool) (tg reqNode : String) : CItem :=
  { key := key, res := res, ph := ph, tg := tg, allocated := false, node := "", bound := false,
    inReq := true, released := false, preempted := false, release := none, reqNode := reqNode }

/-- what `Core.ask` does to the application it found (`a0`) -/
def askedApp (a0 : CApp) (key : String) (res : Res) (ph : Bool) (tg reqNode : String) (a : CApp) : CApp :=
  let st := if a0.state == "New" || a0.state == "Completing" then fireState a0.state .run else a0.state
  let phData := if ph then
      (if a0.phData.any (·.1 == tg) then a0.phData.map (fun d => if d.1 == tg then (d.1, d.2.1 + 1, d.2.2.1, d.2.2.2) else d)
       else a0.phData ++ [(tg, 1, 0, 0)])
    else a0.phData
  { a with state := st, items := a.items ++ [newAsk key res ph tg reqNode], pending := prune (addX a.pending res),
           phData := phData, log := if st != a.state then a.log ++ [st] else a.log }

theorem ask_def (s : Core) (app key : String) (res : Res) (ph : Bool) (tg reqNode : String) :
    s.ask app key res ph tg reqNode =
      match s.findApp app with
      | none => (s, false)
      | some a =>
        if isZero (some res) || !(strictlyGreaterThanZero (some res)) then (s, false) else
        if a.items.any (fun i => i.key == key && i.inReq) then (s, false) else
        (updQueues (updApp s app (askedApp a key res ph tg reqNode)) (pathChain s a.queue)
          (fun q => { q with pending := addX q.pending res }), true) := rfl

theorem ask_cases (s : Core) (app key : String) (res : Res) (ph : Bool) (tg reqNode : String) :
    s.ask app key res ph tg reqNode = (s, false) ∨
    ∃ a, s.findApp app = some a ∧ s.ask app key res ph tg reqNode =
      (updQueues (updApp s app (askedApp a key res ph tg reqNode)) (pathChain s a.queue)
        (fun q => { q with pending := addX q.pending res }), true) := by
  rw [ask_def]
  cases s.findApp app with
  | none => exact Or.inl rfl
  | some a =>
    by_cases h1 : (isZero (some res) || !(strictlyGreaterThanZero (some res))) = true
    · exact Or.inl (if_pos h1)
    · by_cases h2 : a.items.any (fun i => i.key == key && i.inReq) = true
      · exact Or.inl ((if_neg h1).trans (if_pos h2))
      · exact Or.inr ⟨a, rfl, (if_neg h1).trans (if_neg h2)⟩

theorem ask_true_sgtz {s t : Core} {app key : String} {res : Res} {ph : Bool} {tg reqNode : String}
    (h : s.ask app key res ph tg reqNode = (t, true)) : strictlyGreaterThanZero (some res) = true := by
  rw [ask_def] at h
  cases hz : strictlyGreaterThanZero (some res) with
  | true => rfl
  | false => cases hf : s.findApp app <;> rw [hf] at h <;> simp [hz] at h

structure AskOK (s : Core) (app key : String) (res : Res) : Prop where
  resWf : wf res = true
  /-- no item of the application has the key yet: the model only refuses a key that is still listed as a request
      (`inReq`); an allocation whose ask is gone with the same key is outside the modelled set -/
  newKey : ∀ a, s.findApp app = some a → ∀ i ∈ a.items, i.key ≠ key
  /-- no int64 saturation of the pending totals of the queues on the chain of the application -/
  noSat : ∀ a, s.findApp app = some a → ∀ q ∈ s.queues, under a.queue q.path = true → allInR (addX q.pending res)

theorem shape_ask (s : Core) (app key : String) (res : Res) (ph : Bool) (tg reqNode : String) (hw : CoreWF s) :
    s.ask app key res ph tg reqNode = (s, false) ∨
    ∃ a t, s.ask app key res ph tg reqNode = (t, true) ∧
      Shape s t app a (askedApp a key res ph tg reqNode a) (onChain (pathChain s a.queue) (qIncPend res)) (fun n => n) := by
  rcases ask_cases s app key res ph tg reqNode with h | ⟨a, hfind, h⟩
  · exact Or.inl h
  · exact Or.inr ⟨a, _, h, Shape.of_lists' hw hfind rfl rfl rfl rfl rfl rfl (fun _ => rfl)⟩

/-- of the state only unique application ids and well-formed pending totals are used: the form the replay of
    YkProofs/Recover.lean needs -/
theorem books_ask_of (s : Core) (app key : String) (res : Res) (ph : Bool) (tg reqNode : String)
    (hu : s.apps.Pairwise (fun a b => a.live = true → b.live = true → a.id ≠ b.id))
    (hp : ∀ a ∈ s.apps, a.live = true → wf a.pending = true) (hr : wf res = true) (hb : Books s) :
    Books (s.ask app key res ph tg reqNode).1 := by
  rcases ask_cases s app key res ph tg reqNode with h | ⟨a, hfind, h⟩
  · rw [h]; exact hb
  · rw [h]
    obtain ⟨ham, hl, hid⟩ := findApp_some hfind
    have hpend := fun k => prune_addX_getD _ _ (hp a ham hl) hr k
    refine books_move s _ app a _ _ _ (fun _ => 0) (fun k => res.getD k) ham hl hid hu hb rfl rfl hb.nodes rfl hl ?_
      (chain_iff s a.queue) (fun _ => rfl) (fun k => ⟨(Int.add_zero _).symm, hpend k⟩)
      (fun q _ _ k => ⟨(Int.add_zero _).symm, addX_getD _ _ hr k⟩)
    exact (hb.apps a ham hl).append (newAsk key res ph tg reqNode) rfl (fun _ => (Int.add_zero _).symm)
      (fun _ => (Int.add_zero _).symm) hpend

theorem books_ask (s : Core) (app key : String) (res : Res) (ph : Bool) (tg reqNode : String)
    (hw : CoreWF s) (hr : wf res = true) (hb : Books s) : Books (s.ask app key res ph tg reqNode).1 :=
  books_ask_of s app key res ph tg reqNode hw.appIds (fun a ha hl => (hw.appRes a ha hl).1) hr hb

/-- that the new resource has no negative entry follows from the model's own `strictlyGreaterThanZero` guard -/
theorem wf_ask (s : Core) (app key : String) (res : Res) (ph : Bool) (tg reqNode : String) (hw : CoreWF s)
    (hok : AskOK s app key res) : CoreWF (s.ask app key res ph tg reqNode).1 := by
  rcases shape_ask s app key res ph tg reqNode hw with h | ⟨a, t, h, sh⟩
  · rw [h]; exact hw
  · have hz := ask_true_sgtz h
    rw [h]
    obtain ⟨ham, hl, _⟩ := sh.mem
    have hwa := hw.app ham hl
    obtain ⟨hwp, hwal, hwh⟩ := hwa.appRes
    have hfa : AppWF (askedApp a key res ph tg reqNode a) := by
      refine ⟨pairwise_snoc CItem.key _ _ hwa.itemKeys (hok.newKey a sh.find), ⟨prune_wf _ (addX_wf _ _ hwp), hwal, hwh⟩, ?_, ?_⟩
      · intro y hy
        rcases List.mem_append.mp hy with h | h
        · exact hwa.itemRes y h
        · rw [List.mem_singleton.mp h]; exact ⟨hok.resWf, nonNeg_of_sgtz hz⟩
      · intro y hy hb
        rcases List.mem_append.mp hy with h | h
        · exact hwa.boundAllocated y h hb
        · rw [List.mem_singleton.mp h] at hb; cases hb
    exact sh.wf_chain hw (fun _ => hfa) (fun q hq hc => ⟨(hw.queue hq).allocated, addX_wf _ _ (hw.queue hq).pending,
      hok.noSat a sh.find q hq ((chain_iff s a.queue q hq).mp hc)⟩) (fun _ _ h => h)

/-! ### node requests -/

theorem wf_nil : wf ([] : Res) = true := rfl

theorem wf_nodeCreate (s : Core) (id : String) (cap : Res) (b : Bool) (hw : CoreWF s) (hc : wf cap = true) :
    CoreWF (s.nodeCreate id cap b) := by
  rcases nodeCreate_cases s id cap b with h | ⟨hnone, h⟩
  · rw [h]; exact hw
  · rw [h]
    apply wf_setRootMax
    have hp := prune_wf cap hc
    refine CoreWF.of_parts hw.appIds (pairwise_snoc CNode.id _ _ hw.nodeIds (findNode_none hnone))
      (fun _ ha hl => hw.app ha hl) (fun _ hq => hw.queue hq) ?_
    intro n hn
    rcases List.mem_append.mp hn with h | h
    · exact hw.node h
    · rw [List.mem_singleton.mp h]
      exact ⟨List.Pairwise.nil, ⟨hp, wf_nil, wf_nil, hp⟩, fun x hx => by cases hx⟩

theorem wf_nodeUpdate (s : Core) (id : String) (cap : Res) (hw : CoreWF s) (hc : wf cap = true) :
    CoreWF (s.nodeUpdate id cap) := by
  unfold nodeUpdate
  split
  · exact hw
  · split
    · exact hw
    · apply wf_setRootMax
      refine CoreWF.of_lists (s := updNode s id _) rfl rfl rfl ?_
      refine wf_updNode_step s id _ hw ?_ ?_
      · intro _; rfl
      intro n hn _
      have hnw := hw.node hn
      obtain ⟨_, ho, ha, _⟩ := hnw.nodeRes
      have hp := prune_wf cap hc
      exact ⟨hnw.allocKeys, ⟨hp, ho, ha, prune_wf _ (subX_wf _ _ (subX_wf _ _ hp))⟩, hnw.allocRes⟩

theorem wf_nodeSchedulable (s : Core) (id : String) (b : Bool) (hw : CoreWF s) : CoreWF (s.nodeSchedulable id b) := by
  unfold nodeSchedulable
  refine wf_updNode_step s id _ hw ?_ ?_
  · intro _; rfl
  intro n hn _
  have hnw := hw.node hn
  exact ⟨hnw.allocKeys, hnw.nodeRes, hnw.allocRes⟩

/-! ### foreign allocations -/

/-- `hnew`: the node does not list an allocation with this key yet; the model only looks at the partition's list of
    foreign keys -/
theorem wf_foreignAdd (s : Core) (key node : String) (res : Res) (hw : CoreWF s) (hr : wf res = true)
    (hnew : ∀ n, s.findNode node = some n → ∀ x ∈ n.allocs, x.key ≠ key) : CoreWF (s.foreignAdd key node res) := by
  rcases foreignAdd_cases s key node res with h | ⟨_, _, h⟩
  · rw [h]; exact hw
  · rw [h]
    refine CoreWF.of_lists (s := updNode s node _) rfl rfl rfl (wf_updNode_step s node _ hw (fun _ => rfl) ?_)
    intro n hn hnid
    have hnw := hw.node hn
    obtain ⟨ht, ho, ha, hv⟩ := hnw.nodeRes
    refine ⟨pairwise_snoc CNodeAlloc.key _ _ hnw.allocKeys (hnew n (by rw [← hnid]; exact findNode_of_mem hw hn)),
      ⟨ht, addX_wf _ _ ho, ha, prune_wf _ (subX_wf _ _ hv)⟩, ?_⟩
    intro x hx
    rcases List.mem_append.mp hx with h | h
    · exact hnw.allocRes x h
    · rw [List.mem_singleton.mp h]; exact hr

theorem wf_foreignRemove (s : Core) (key : String) (hw : CoreWF s) : CoreWF (s.foreignRemove key) := by
  unfold foreignRemove
  split
  · exact hw
  · have hw0 : CoreWF { s with foreign := s.foreign.filter (· != key) } := CoreWF.of_lists (s := s) rfl rfl rfl hw
    split
    · exact hw0
    · rename_i n _
      split
      · exact hw0
      · refine wf_updNode_step _ n.id _ hw0 ?_ ?_
        · intro _; rfl
        intro m hm _
        have hmw : NWF m := hw.node hm
        obtain ⟨ht, ho, ha, hv⟩ := hmw.nodeRes
        refine ⟨hmw.allocKeys.filter _, ⟨ht, subX_wf _ _ ho, ha, addX_wf _ _ hv⟩, ?_⟩
        intro x hx
        exact hmw.allocRes x (List.mem_filter.mp hx).1

/-! ### releases: `releaseKey` in two steps, `rel1` then `rel2`

The model has partition.removeAllocation for a key twice, and both are operations of `Op`, so every theorem over the
histories needs both: `releaseKey` (`Op.releaseKey`, YkModel/CoreOps.lean) is the release without a termination type, as
the RM requests it (STOPPED_BY_RM / UNKNOWN): it knows nothing of a linked replacement, of the `preempting` totals or of
reservations, and writes the new state without `setState` (no state timer); `releaseKeyT` (`Op.release tt`,
YkModel/CoreOps2.lean; proofs in YkProofs/Core2Rel.lean) takes every termination type and does all of these.  The driver
(YkDrv/CoreStep.lean, request "release") steps with `releaseKey` a STOPPED_BY_RM / UNKNOWN release of an item that is
still requested, not released, not preempted, not linked to a replacement either way, while the partition's reservation
counter is zero, and every other release of a key with `release tt`. -/

/-- step (1) on a queue of the chain when the application `a'` leaves the partition: Queue.RemoveApplication
    (`qLeave` on path and totals; the queue's two lists of application ids stay) -/
def relQ2 (a' : CApp) (q : CQueue) : CQueue :=
  { q with pending := decPendingRes q.pending a'.pending,
           allocated := prune (subX (subX q.allocated a'.allocated) a'.allocatedPh) }

def rel1 (s : Core) (app key : String) (a : CApp) (i : CItem) : Core :=
  if i.bound then
    let a' := relApp key i a
    let sA := updApp s app (fun _ => a')
    let sN := match s.findNode i.node with
      | none => sA
      | some _ => updNode sA i.node (nodeRm key i.res)
    let sQ := if (s.findNode i.node).isSome && strictlyGreaterThanZero (some i.res) then
        updQueues sN (pathChain s a.queue) (qDecAlloc i.res) else sN
    let sT := if a'.live then sQ else updQueues sQ (pathChain s a.queue) (relQ2 a')
    { sT with allocations := sT.allocations - 1, phAllocations := if i.ph then sT.phAllocations - 1 else sT.phAllocations }
  else s

/-- step (2) on the application: the ask `x` (key `key`) leaves application.requests -/
def askApp (key : String) (x : CItem) (a : CApp) : CApp :=
  let items := a.items.filter (·.key != key)
  let pending := if x.allocated then a.pending else prune (subX a.pending x.res)
  let hasPh := items.any (fun y => y.bound && y.ph)
  let st := if isZero (some pending) && isZero (some a.allocated) && a.state != "Failing" && a.state != "Completing" && !hasPh
            then fireState a.state .complete else a.state
  { a with items := items, pending := pending, state := st, log := if st != a.state then a.log ++ [st] else a.log }

/-- step (2) of `releaseKey`: RemoveAllocationAsk -/
def rel2 (s1 : Core) (app key : String) (chain : List String) : Core :=
  match s1.findApp app with
  | none => s1
  | some a1 =>
    match a1.items.find? (fun x => x.key == key && x.inReq) with
    | none => s1
    | some x =>
      let s2 := updApp s1 app (askApp key x)
      if x.allocated then s2 else
        updQueues s2 chain (fun q => { q with pending := decPendingRes q.pending x.res })

theorem rel1_unbound (s : Core) (app key : String) (a : CApp) (i : CItem) (hbd : i.bound = false) :
    rel1 s app key a i = s := by
  unfold rel1; simp only [hbd, Bool.false_eq_true, if_false]

theorem releaseKey_cases (s : Core) (app key : String) :
    s.releaseKey app key = s ∨
    ∃ a i, s.findApp app = some a ∧ a.items.find? (·.key == key) = some i ∧
      s.releaseKey app key = rel2 (rel1 s app key a i) app key (pathChain s a.queue) := by
  cases hfind : s.findApp app with
  | none => left; unfold releaseKey; simp only [hfind]
  | some a =>
    cases hitem : a.items.find? (·.key == key) with
    | none => left; unfold releaseKey; simp only [hfind, hitem]
    | some i => right; unfold releaseKey; simp only [hfind, hitem]; exact ⟨a, i, rfl, hitem, rfl⟩

/-! ### step (1) -/

theorem relApp_queue (key : String) (i : CItem) (a : CApp) : (relApp key i a).queue = a.queue := by
  unfold relApp; cases i.ph <;> rfl
theorem relApp_id (key : String) (i : CItem) (a : CApp) : (relApp key i a).id = a.id := by
  unfold relApp; cases i.ph <;> rfl
theorem relApp_pending (key : String) (i : CItem) (a : CApp) : (relApp key i a).pending = a.pending := by
  unfold relApp; cases i.ph <;> rfl
theorem relApp_items (key : String) (i : CItem) (a : CApp) :
    (relApp key i a).items = a.items.map (fun x => if (x.key == key) = true then { x with bound := false } else x) := by
  unfold relApp; cases i.ph <;> rfl
theorem relApp_allocated (key : String) (i : CItem) (a : CApp) :
    (relApp key i a).allocated = if i.ph = true then a.allocated else prune (subX a.allocated i.res) := by
  unfold relApp; cases i.ph <;> rfl
theorem relApp_allocatedPh (key : String) (i : CItem) (a : CApp) :
    (relApp key i a).allocatedPh = if i.ph = true then prune (subX a.allocatedPh i.res) else a.allocatedPh := by
  unfold relApp; cases i.ph <;> rfl

theorem appBooks_relApp (key : String) (i : CItem) (a : CApp) (hba : AppBooks a)
    (hkeys : a.items.Pairwise (fun i j => i.key ≠ j.key)) (him : i ∈ a.items) (hkey : i.key = key) (hbd : i.bound = true)
    (hwa : wf a.allocated = true) (hwh : wf a.allocatedPh = true) (hwr : wf i.res = true) :
    AppBooks (relApp key i a) := by
  refine hba.update hkeys him hkey _ (relApp_items key i a) ?_ ?_ ?_
  · intro k; rw [relApp_allocated]; cases i.ph <;> simp [hbd, prune_subX_getD _ _ hwa hwr]
  · intro k; rw [relApp_allocatedPh]; cases i.ph <;> simp [hbd, prune_subX_getD _ _ hwh hwr]
  · intro k; rw [relApp_pending]; simp

theorem appWF_relApp (key : String) (i : CItem) (a : CApp) (hwa : AppWF a) : AppWF (relApp key i a) := by
  obtain ⟨hwp, hwal, hwh⟩ := hwa.appRes
  refine hwa.of_sublist (fun x => if (x.key == key) = true then { x with bound := false } else x)
    (by rw [relApp_items]; exact List.Sublist.refl _) ?_ (fun x => by split <;> rfl) (fun x hx => ?_)
  · rw [relApp_pending, relApp_allocated, relApp_allocatedPh]
    refine ⟨hwp, ?_, ?_⟩
    · split
      · exact hwal
      · exact prune_wf _ (subX_wf _ _ hwal)
    · split
      · exact prune_wf _ (subX_wf _ _ hwh)
      · exact hwh
  · split
    · exact ⟨hwa.itemRes x hx, fun h => by cases h⟩
    · exact ⟨hwa.itemRes x hx, hwa.boundAllocated x hx⟩

/-- step (1) on a queue of the chain (`a'`: the application after the release); when the node of the allocation is
    unknown (`onNode = false`) the allocated total is left alone -/
def relQb (onNode : Bool) (i : CItem) (a' : CApp) (q : CQueue) : CQueue :=
  let q1 := if (onNode && strictlyGreaterThanZero (some i.res)) = true then qDecAlloc i.res q else q
  if a'.live = true then q1 else relQ2 a' q1

theorem relQb_path_reserved (b : Bool) (i : CItem) (a' : CApp) (q : CQueue) :
    (relQb b i a' q).path = q.path ∧ (relQb b i a' q).reserved = q.reserved := by
  unfold relQb relQ2 qDecAlloc
  cases a'.live <;> cases (b && strictlyGreaterThanZero (some i.res)) <;> exact ⟨rfl, rfl⟩

theorem updQs_comp (queues : List CQueue) (chain : List String) (f g : CQueue → CQueue) (hf : ∀ q, (f q).path = q.path) :
    updQs (updQs queues chain f) chain g = updQs queues chain (fun q => g (f q)) := by
  unfold updQs
  rw [List.map_map]
  apply List.map_congr_left
  intro q _
  by_cases hc : chain.contains q.path = true
  · simp only [Function.comp, if_pos hc, hf]
  · simp only [Function.comp, if_neg hc]

theorem relQb_wf (b : Bool) (i : CItem) (a' : CApp) (q : CQueue) (hq : QWF q) : QWF (relQb b i a' q) := by
  have h1 : QWF (if (b && strictlyGreaterThanZero (some i.res)) = true then qDecAlloc i.res q else q) := by
    split
    · exact qDecAlloc_wf i.res q hq
    · exact hq
  unfold relQb
  dsimp only
  split
  · exact h1
  · have := qLeave_wf a' _ h1
    exact ⟨this.allocated, this.pending, this.inR⟩

theorem shape_rel1 (s : Core) (app key : String) (a : CApp) (i : CItem) (hfind : s.findApp app = some a)
    (hbd : i.bound = true) :
    Shape s (rel1 s app key a i) app a (relApp key i a)
      (onChain (pathChain s a.queue) (relQb (s.findNode i.node).isSome i (relApp key i a)))
      (onNodeId i.node (nodeRm key i.res)) := by
  have lists : (rel1 s app key a i).apps = updApps s.apps app (fun _ => relApp key i a) ∧
      (rel1 s app key a i).queues = s.queues.map (onChain (pathChain s a.queue) (relQb (s.findNode i.node).isSome i (relApp key i a))) ∧
      (rel1 s app key a i).nodes = updNs s.nodes i.node (nodeRm key i.res) ∧
      (rel1 s app key a i).reservations = s.reservations := by
    unfold rel1 relQb
    simp only [hbd, if_true]
    -- an unknown node is not touched; the chain is mapped by `relQ2`, by `qDecAlloc`, by both or not at all
    cases hn : s.findNode i.node with
    | none =>
      cases (relApp key i a).live with
      | false => exact ⟨rfl, rfl, (updNs_none hn _).symm, rfl⟩
      | true => exact ⟨rfl, (updQs_id _ _).symm, (updNs_none hn _).symm, rfl⟩
    | some n =>
      cases (relApp key i a).live <;> cases strictlyGreaterThanZero (some i.res)
      · exact ⟨rfl, rfl, rfl, rfl⟩
      · exact ⟨rfl, updQs_comp _ _ (qDecAlloc i.res) _ (fun _ => rfl), rfl, rfl⟩
      · exact ⟨rfl, (updQs_id _ _).symm, rfl, rfl⟩
      · exact ⟨rfl, rfl, rfl, rfl⟩
  exact ⟨hfind, lists.1, lists.2.1, lists.2.2.1, relApp_id key i a, relApp_queue key i a, onChain_path (fun q => (relQb_path_reserved _ i _ q).1),
    onNodeId_id (fun _ => rfl), lists.2.2.2⟩

theorem wf_rel1 (s : Core) (app key : String) (a : CApp) (i : CItem) (hw : CoreWF s) (hfind : s.findApp app = some a) :
    CoreWF (rel1 s app key a i) := by
  cases hbd : i.bound with
  | false => rw [rel1_unbound s app key a i hbd]; exact hw
  | true =>
    have sh := shape_rel1 s app key a i hfind hbd
    obtain ⟨ham, hl, _⟩ := sh.mem
    exact sh.wf_chain hw (fun _ => appWF_relApp key i a (hw.app ham hl)) (fun q hq _ => relQb_wf _ i _ q (hw.queue hq))
      (fun m _ hmw => onNodeId_keeps (fun _ => nodeRm_wf key i.res m hmw) hmw)

/-! ### step (2) -/

theorem appBooks_askApp (key : String) (x : CItem) (a : CApp) (hba : AppBooks a)
    (hkeys : a.items.Pairwise (fun i j => i.key ≠ j.key)) (hxm : x ∈ a.items) (hxk : x.key = key) (hxb : x.bound = false)
    (hxreq : x.inReq = true) (hp : x.allocated = false → wf a.pending = true ∧ wf x.res = true) :
    AppBooks (askApp key x a) := by
  refine ⟨?_, ?_, ?_⟩
  · intro k
    show a.allocated.getD k = itemSum (a.items.filter (fun y => y.key != key)) _ k
    rw [itemSum_rm _ hkeys key x hxm hxk, hba.allocated k]; simp [hxb]
  · intro k
    show a.allocatedPh.getD k = itemSum (a.items.filter (fun y => y.key != key)) _ k
    rw [itemSum_rm _ hkeys key x hxm hxk, hba.allocatedPh k]; simp [hxb]
  · intro k
    show (if x.allocated = true then a.pending else prune (subX a.pending x.res)).getD k =
      itemSum (a.items.filter (fun y => y.key != key)) _ k
    rw [itemSum_rm _ hkeys key x hxm hxk, ← hba.pending k]
    cases hal : x.allocated
    · simp [hxreq, prune_subX_getD _ _ (hp hal).1 (hp hal).2]
    · simp

theorem appWF_askApp (key : String) (x : CItem) (a : CApp) (hwa : AppWF a) : AppWF (askApp key x a) := by
  obtain ⟨hwp, hwal, hwh⟩ := hwa.appRes
  refine hwa.of_sublist (fun y => y) (by rw [List.map_id']; exact List.filter_sublist) ⟨?_, hwal, hwh⟩ (fun _ => rfl)
    (fun y hy => ⟨hwa.itemRes y hy, hwa.boundAllocated y hy⟩)
  show wf (if x.allocated = true then a.pending else prune (subX a.pending x.res)) = true
  split
  · exact hwp
  · exact prune_wf _ (subX_wf _ _ hwp)

theorem shape_rel2 (s1 : Core) (app key : String) (chain : List String) (hw : CoreWF s1) :
    rel2 s1 app key chain = s1 ∨
    ∃ a1 x, a1.items.find? (fun x => x.key == key && x.inReq) = some x ∧
      Shape s1 (rel2 s1 app key chain) app a1 (askApp key x a1) (onChain chain (askQT x)) (fun n => n) := by
  cases hfind : s1.findApp app with
  | none => left; unfold rel2; simp only [hfind]
  | some a1 =>
    cases hitem : a1.items.find? (fun x => x.key == key && x.inReq) with
    | none => left; unfold rel2; simp only [hfind, hitem]
    | some x =>
      refine Or.inr ⟨a1, x, hitem, ?_⟩
      unfold rel2
      simp only [hfind, hitem]
      refine Shape.of_lists' hw hfind ?_ ?_ ?_ ?_ rfl rfl (fun q => (askQT_path_reserved x q).1)
      · cases x.allocated <;> rfl
      · unfold askQT
        cases x.allocated
        · rfl
        · exact (updQs_id _ _).symm
      · cases x.allocated <;> rfl
      · cases x.allocated <;> rfl

theorem wf_rel2 (s1 : Core) (app key : String) (chain : List String) (hw : CoreWF s1) : CoreWF (rel2 s1 app key chain) := by
  rcases shape_rel2 s1 app key chain hw with h | ⟨a, x, _, sh⟩
  · rw [h]; exact hw
  · obtain ⟨ham, hl, _⟩ := sh.mem
    exact sh.wf_chain hw (fun _ => appWF_askApp key x a (hw.app ham hl)) (fun q hq _ => askQT_wf x q (hw.queue hq))
      (fun _ _ h => h)

/-- Neither `ReleaseOK` nor the books are needed: every step keeps the vectors maps, only removes entries from the keyed
    lists and only decreases pending. -/
theorem wf_releaseKey (s : Core) (app key : String) (hw : CoreWF s) : CoreWF (s.releaseKey app key) := by
  rcases releaseKey_cases s app key with h | ⟨a, i, hfind, _, h⟩
  · rw [h]; exact hw
  · rw [h]; exact wf_rel2 _ app key _ (wf_rel1 s app key a i hw hfind)

/-! ### the books after `releaseKey` -/

/-- an instance of `Shape.books_release`: `relQ2` is `qLeave` on path and totals -/
theorem books_rel1 (s : Core) (app key : String) (a : CApp) (i : CItem) (hw : CoreWF s) (hb : Books s)
    (hfind : s.findApp app = some a) (hitem : a.items.find? (·.key == key) = some i) (hok : ReleaseOK s app key) :
    Books (rel1 s app key a i) := by
  cases hbd : i.bound with
  | false => rw [rel1_unbound s app key a i hbd]; exact hb
  | true =>
    have sh := shape_rel1 s app key a i hfind hbd
    obtain ⟨ham, hl, _⟩ := sh.mem
    obtain ⟨him, hkey⟩ := find_key_some hitem
    obtain ⟨n, hn, x, hxm, hxk, hxf, hxr⟩ := hok.onNode a i hfind hitem hbd
    have hwa := hw.app ham hl
    obtain ⟨_, hwal, hwh⟩ := hwa.appRes
    obtain ⟨hwr, hnn⟩ := hwa.itemRes i him
    rw [hn] at sh
    refine sh.books_release (g := decQ (strictlyGreaterThanZero (some i.res)) i.res false [])
      (lv := fun q => if (relApp key i a).live = true then q else relQ2 (relApp key i a) q)
      hw hb ?_ (onNodeId_found hw hn (fun hm hmb => nodeRm_books key i.res n (hw.node hm) hmb hwr x hxm hxk hxf hxr))
      (appBooks_relApp key i a (hb.apps a ham hl) hwa.itemKeys him hkey hbd hwal hwh hwr) (appWF_relApp key i a hwa)
      (fun q hq _ => decQ_move _ i.res false [] (hw.queue hq) hwr (sgtz_false_of_nonNeg hnn))
      ?_ (fun k => by rw [relApp_pending]; exact (Int.sub_zero _).symm)
    · intro q
      unfold qLeaveIf
      cases (relApp key i a).live <;> exact ⟨rfl, rfl, rfl⟩
    · intro k
      rw [relApp_allocated, relApp_allocatedPh]
      cases i.ph <;>
        simp only [Bool.false_eq_true, if_false, if_true, prune_subX_getD _ _ hwh hwr, prune_subX_getD _ _ hwal hwr] <;> omega

/-- `hnb`: the ask step (2) finds is not bound (`askApp` drops the item altogether; after step (1) the released
    allocation is unbound) -/
theorem books_rel2 (s1 : Core) (app key : String) (chain : List String) (hw : CoreWF s1) (hb : Books s1)
    (hnb : ∀ a1 x, s1.findApp app = some a1 → x ∈ a1.items → x.key = key → x.bound = false)
    (hchain : ∀ a1, s1.findApp app = some a1 → ∀ q ∈ s1.queues, (chain.contains q.path = true ↔ under a1.queue q.path = true)) :
    Books (rel2 s1 app key chain) := by
  rcases shape_rel2 s1 app key chain hw with h | ⟨a, x, hitem, sh⟩
  · rw [h]; exact hb
  · obtain ⟨ham, hl, _⟩ := sh.mem
    obtain ⟨hxm, hxk, hxreq⟩ := find_request hitem
    have hwa := hw.app ham hl
    exact books_askLeft sh hw hb (hchain a sh.find) hxm hxreq (fun _ => ⟨rfl, rfl⟩) (fun _ h => h)
      (appBooks_askApp key x a (hb.apps a ham hl) hwa.itemKeys hxm hxk (hnb a x sh.find hxm hxk) hxreq
        (fun _ => ⟨hwa.appRes.1, (hwa.itemRes x hxm).1⟩)) rfl rfl rfl rfl

theorem books_releaseKey (s : Core) (app key : String)
    (hw : CoreWF s) (hb : Books s) (hrel : ReleaseOK s app key) : Books (s.releaseKey app key) := by
  rcases releaseKey_cases s app key with h | ⟨a, i, hfind, hitem, h⟩
  · rw [h]; exact hb
  · rw [h]
    obtain ⟨ham, hl, hid⟩ := findApp_some hfind
    obtain ⟨him, hkey⟩ := find_key_some hitem
    cases hbd : i.bound with
    | false =>
      -- step (1) does nothing; step (2) removes the outstanding ask from the state as it was
      rw [rel1_unbound s app key a i hbd]
      refine books_rel2 s app key _ hw hb (fun a1 x h1 hxm hxk => ?_) (fun a1 h1 => ?_)
      · rw [hfind] at h1; cases h1
        rw [itemKeys_eq (hw.itemKeys a ham hl) hxm him (hxk.trans hkey.symm)]; exact hbd
      · rw [hfind] at h1; cases h1
        exact chain_iff s a.queue
    | true =>
      -- the ask step (2) finds, if the application is still there, is the allocation step (1) has unbound
      have sh := shape_rel1 s app key a i hfind hbd
      refine books_rel2 _ app key _ (wf_rel1 s app key a i hw hfind) (books_rel1 s app key a i hw hb hfind hitem hrel)
        (fun a1 x h1 hxm hxk => ?_) (sh.chain_after hw)
      obtain ⟨h1m, h1l, h1id⟩ := findApp_some h1
      rw [sh.apps] at h1m
      rcases mem_updApps (f := fun _ => relApp key i a) hw.appIds ham hl hid h1m with rfl | ⟨_, hnd⟩
      · rw [relApp_items] at hxm
        obtain ⟨j, _, rfl⟩ := List.mem_map.mp hxm
        by_cases hjk : (j.key == key) = true
        · rw [if_pos hjk]
        · rw [if_neg hjk] at hxk
          exact absurd (by simpa using hxk) hjk
      · exact absurd (by simp [h1l, h1id]) hnd

end Yk
