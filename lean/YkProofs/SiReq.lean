/- C13, the SI validation layer (YkModel/SiReq.lean): no handler panics and every answer has the shape of its verdict
   (`handle_shaped`); an invalid item is refused as the property demands, a valid one never. -/
import YkModel.SiReq
namespace Yk.Si
open Res Core

/-! ### the two unchecked dereferences never panic: their handlers without the error monad -/

/-- ConvertUGI without the error monad (it never panics) -/
def ugiResult (env : Env) (ugi : Option Ugi) (force : Bool) : Except Why Ugi :=
  if (match ugi with | none => true | some u => u.user == "") then
    (if force then (if env.userOK anonymous.user then .ok anonymous else .error .userInvalid) else .error .userEmpty)
  else match ugi with
    | none => .error .userEmpty
    | some u => if u.groups.isEmpty then .ok { u with groups := [u.user] }
                else if env.userOK u.user then .ok u else .error .userInvalid

theorem convertUGI_eq (env : Env) (ugi : Option Ugi) (force : Bool) :
    convertUGI env ugi force = .ok (ugiResult env ugi force) := by
  unfold convertUGI ugiResult
  cases ugi with
  | none =>
    cases force
    · rfl
    · cases h : env.userOK anonymous.user <;> simp [deref, bind, Except.bind, pure, Except.pure, anonymous] <;> exact h
  | some u =>
    cases hu : u.user == ""
    · cases hg : u.groups.isEmpty
      · cases h : env.userOK u.user <;> simp [deref, bind, Except.bind, pure, Except.pure, hu, hg, h]
      · simp [deref, bind, Except.bind, pure, Except.pure, hu, hg]
    · cases force
      · simp [hu]
      · cases h : env.userOK anonymous.user <;> simp [deref, bind, Except.bind, pure, Except.pure, hu, anonymous] <;> exact h

theorem releaseBound_eq (s : Core) (app : CApp) (i : CItem) (r : Release) :
    releaseBound s app i r = .ok (acc .release (if r.ttype == 4 && i.release.isSome then none else
      if simpleRelease s app i r.ttype then some (releaseKey' s r.app r.key) else none)) := by
  unfold releaseBound
  split
  · rename_i h
    obtain ⟨x, hx⟩ := Option.isSome_iff_exists.mp (Bool.and_eq_true_iff.mp h).2
    rw [hx]; rfl
  · rfl

/-- handleAppNew without the error monad -/
def appNewPure (env : Env) (s : Core) (a : AppNew) : Result :=
  if !(env.isPart a.part) then rej s .partition (.rejectedApp a.id .partition)
  else match ugiResult env a.ugi (isForced a.tags) with
    | .error w => rej s w (.rejectedApp a.id w)
    | .ok _ =>
      if (s.findApp a.id).isSome then rej s .duplicateApp (.rejectedApp a.id .duplicateApp)
      else if !(env.place a) then rej s .placement (.rejectedApp a.id .placement)
      else acc .app none [.acceptedApp a.id]

theorem handleAppNew_eq (env : Env) (s : Core) (a : AppNew) : handleAppNew env s a = .ok (appNewPure env s a) := by
  unfold handleAppNew appNewPure
  split
  · rfl
  · rw [convertUGI_eq]
    simp only [bind, Except.bind]
    cases ugiResult env a.ugi (isForced a.tags) with
    | error w => rfl
    | ok u =>
      simp only []
      repeat' split
      all_goals rfl

/-! ### no item panics, and its answer has the shape of its verdict -/

def Ok (P : Result → Prop) : Except Panic Result → Prop
  | .ok r => P r
  | .error _ => False

theorem Ok.intro {P : Result → Prop} {r : Result} (h : P r) : Ok P (.ok r) := h

theorem Ok.of_eq {P : Result → Prop} {x : Except Panic Result} {r : Result} (h : Ok P x) (hx : x = .ok r) : P r := by
  subst hx; exact h

theorem Ok.exists {P : Result → Prop} {x : Except Panic Result} (h : Ok P x) : ∃ r, x = .ok r ∧ P r := by
  cases x with
  | ok r => exact ⟨r, rfl, h⟩
  | error e => exact h.elim

def isRejection : Msg → Bool
  | .rejectedAlloc _ _ _ | .rejectedApp _ _ | .rejectedNode _ _ => true
  | _ => false

/-- the shape of an answer: a refusal changes nothing; a rejection carries exactly the protocol's message for the item,
    silence is only for items the protocol has no rejection for; an acceptance is never answered with a rejection -/
def Shaped (s : Core) (i : Item) (r : Result) : Prop :=
  match r.verdict with
  | .reject w => r.state = some s ∧ ∃ mk, rejection i = some mk ∧ r.msgs = [mk w]
  | .ignore _ => r.state = some s ∧ rejection i = none ∧ r.msgs = []
  | .accept _ => ∀ m ∈ r.msgs, isRejection m = false

theorem shaped_rej {s : Core} {i : Item} {w : Why} (mk : Why → Msg) (h : rejection i = some mk) : Shaped s i (rej s w (mk w)) :=
  ⟨rfl, mk, h, rfl⟩

theorem shaped_ign {s : Core} {i : Item} {w : Why} (h : rejection i = none) : Shaped s i (ign s w) := ⟨rfl, h, rfl⟩

theorem shaped_acc {s : Core} {i : Item} {h : How} {st : Option Core} {msgs : List Msg}
    (hm : msgs.all (fun m => !isRejection m) = true := by rfl) : Shaped s i (acc h st msgs) := by
  simpa [Shaped, acc] using hm

section
variable (env : Env) (s : Core)

theorem handleForeign_shaped (a : Alloc) : Shaped s (.alloc a) (handleForeign s a) := by
  fun_cases handleForeign
  all_goals first
    | exact shaped_rej (Msg.rejectedAlloc a.key a.app) rfl
    | exact shaped_acc

theorem handleAlloc_shaped (a : Alloc) : Shaped s (.alloc a) (handleAlloc env s a) := by
  fun_cases handleAlloc
  all_goals first
    | exact shaped_rej (Msg.rejectedAlloc a.key a.app) rfl
    | exact handleForeign_shaped s a
    | exact shaped_acc

theorem releaseUnbound_shaped (app : CApp) (r : Release) : Shaped s (.release r) (releaseUnbound s app r) := by
  fun_cases releaseUnbound
  all_goals first
    | exact shaped_ign rfl
    | exact shaped_acc

theorem handleRelease_shaped (r : Release) : Ok (Shaped s (.release r)) (handleRelease env s r) := by
  -- the cases are the six branches of `handleRelease` numbered in the order of its text (case2: no application id, a foreign
  -- allocation; case5: the key is bound, `releaseBound`; case6: `releaseUnbound`); a new branch there renumbers them
  fun_cases handleRelease
  case case2 =>
    split
    · exact .intro shaped_acc
    · exact .intro (shaped_ign rfl)
  case case5 =>
    rw [releaseBound_eq]
    exact .intro shaped_acc
  all_goals first
    | exact .intro (shaped_ign rfl)
    | exact .intro shaped_acc
    | exact .intro (releaseUnbound_shaped ..)

theorem handleAppNew_shaped (a : AppNew) : Ok (Shaped s (.appNew a)) (handleAppNew env s a) := by
  rw [handleAppNew_eq]
  fun_cases appNewPure
  all_goals first
    | exact .intro (shaped_rej (Msg.rejectedApp a.id) rfl)
    | exact .intro shaped_acc

theorem handleAppRemove_shaped (r : AppRemove) : Shaped s (.appRemove r) (handleAppRemove env s r) := by
  fun_cases handleAppRemove
  all_goals first
    | exact shaped_ign rfl
    | exact shaped_acc

theorem handleNode_shaped (n : NodeInfo) : Shaped s (.node n) (handleNode env s n) := by
  fun_cases handleNode
  all_goals first
    | exact shaped_rej (Msg.rejectedNode n.id) (if_pos ‹_›)
    | exact shaped_ign (if_neg ‹_›)
    | exact shaped_acc

theorem handle_shaped (i : Item) : Ok (Shaped s i) (handle env s i) := by
  cases i with
  | alloc a => exact .intro (handleAlloc_shaped env s a)
  | release r => exact handleRelease_shaped env s r
  | appNew a => exact handleAppNew_shaped env s a
  | appRemove r => exact .intro (handleAppRemove_shaped env s r)
  | node n => exact .intro (handleNode_shaped env s n)

end

/-! ### what the property demands for an invalid item is a refusal -/

def Verdict.refusal : Verdict → Bool
  | .accept _ => false
  | _ => true

theorem Verdict.accept_of_not_refusal {v : Verdict} (h : v.refusal = false) : ∃ how, v = .accept how := by
  cases v with
  | accept how => exact ⟨how, rfl⟩
  | reject w => cases h
  | ignore w => cases h

theorem refusedAsDemanded_eq {env : Env} {s : Core} {i : Item} {r : Result} (h : handle env s i = .ok r) (hs : Shaped s i r) :
    refusedAsDemanded env s i = r.verdict.refusal := by
  unfold refusedAsDemanded
  unfold Shaped at hs
  rw [h]
  cases hv : r.verdict with
  | reject w =>
    obtain ⟨hst, mk, hmk, hm⟩ := hv ▸ hs
    simp [hmk, hm, hst, hv, Verdict.refusal]
  | ignore w =>
    obtain ⟨hst, hmk, hm⟩ := hv ▸ hs
    simp [hmk, hm, hst, hv, Verdict.refusal]
  | accept how => cases rejection i <;> simp [hv, Verdict.refusal]

/-! ### an invalid item outside the gap classes is refused -/

section
variable (env : Env) (s : Core)

theorem neg_not_sgtz (r : ORes) (h : hasNegativeValue r = true) : strictlyGreaterThanZero (some (resOf r)) = false := by
  cases r with
  | none => simp [hasNegativeValue] at h
  | some l =>
    simp only [hasNegativeValue] at h
    simp [strictlyGreaterThanZero, resOf, h]

theorem alloc_invalid_rejected (a : Alloc) (w : Why)
    (hinv : invalid env s (.alloc a) = some w) (hgap : gapOf env s (.alloc a) = none) :
    ∃ w', (handleAlloc env s a).verdict = .reject w' := by
  unfold invalid at hinv
  unfold gapOf at hgap
  unfold handleAlloc handleForeign
  by_cases hp : env.isPart a.part = true
  · by_cases hq : (a.ph && a.tg == "") = true
    · simp [hp, hq, rej]
    · by_cases hk : (a.key == "") = true
      · simp [hp, hq, hk] at hgap
      · by_cases hf : isForeign a = true
        · by_cases hn : hasNegativeValue a.res = true
          · simp only [hp, hq, hf, Bool.not_true, Bool.false_eq_true, ↓reduceIte]
            by_cases hnode : a.node = ""
            · simp [hnode, rej]
            · cases hfn : s.findNode a.node with
              | none => simp [hnode, rej]
              | some n => simp [hnode, hn, rej]
          · simp [hp, hq, hk, hf, hn] at hgap hinv ⊢
            by_cases hnode : a.node = ""
            · simp [hnode, rej]
            · cases hfn : s.findNode a.node with
              | none => simp [hnode, rej]
              | some n =>
                by_cases hd : keyInUseElsewhere s a = true
                · simp [hd] at hgap
                · by_cases hm : foreignMoved s a = true
                  · simp [hd, hm] at hgap
                  · simp [hnode, hfn, hd, hm] at hinv
        · simp [hp, hq, hk, hf] at hgap hinv ⊢
          cases hfa : s.findApp a.app with
          | none => simp [rej]
          | some app =>
            simp only []
            by_cases hnd : ¬a.node = "" ∧ s.findNode a.node = none
            · simp [hnd, rej]
            · by_cases hz : isZero (some (resOf a.res)) = true
              · simp [hnd, hz, rej]
              · by_cases hng : hasNegativeValue a.res = true
                · simp [hnd, hz, neg_not_sgtz a.res hng, rej]
                · by_cases hd : keyInUseElsewhere s a = true
                  · simp [hd] at hgap
                  · by_cases hm : foreignMoved s a = true
                    · simp [hd, hm] at hgap
                    · have hst : staleAsk s a = true := by
                        simp [hng, hfa, hnd, hz, hd] at hinv
                        exact hinv.1
                      have hub : unboundAsk s a = true := by
                        unfold staleAsk at hst
                        unfold unboundAsk
                        simp [hfa] at hst ⊢
                        refine ⟨by simpa using hf, ?_⟩
                        cases hask : findAsk app a.key with
                        | none => simp [hask] at hst
                        | some ex => simp [hask] at hst ⊢; exact ⟨hst.1.1, hst.1.2⟩
                      simp [hd, hm, hub] at hgap
  · simp [hp, rej]

theorem release_invalid_refusal (r : Release) (w : Why)
    (hinv : invalid env s (.release r) = some w) (hgap : gapOf env s (.release r) = none) :
    Ok (·.verdict.refusal = true) (handleRelease env s r) := by
  -- the cases are the six branches of `handleRelease` numbered in the order of its text (case2: no application id, a foreign
  -- allocation; case5: the key is bound, `releaseBound`; case6: `releaseUnbound`); a new branch there renumbers them
  fun_cases handleRelease
  case case2 =>
    simp_all [invalid]
    exact .intro rfl
  case case5 _ _ app _ _ i hfind =>
    have hany : app.items.any (fun i => i.key == r.key && i.bound) = true :=
      List.any_eq_true.mpr ⟨i, List.mem_of_find?_eq_some hfind, by simpa using List.find?_some hfind⟩
    simp_all [invalid]
  case case6 =>
    fun_cases releaseUnbound
    all_goals first
      | exact .intro rfl
      | simp_all [invalid, gapOf]
  all_goals first
    | exact .intro rfl
    | simp_all [invalid]

theorem ugiResult_isOk (env : Env) (ugi : Option Ugi) (force : Bool) :
    (ugiResult env ugi force).toBool =
      if (match ugi with | none => true | some u => u.user == "") then force && env.userOK anonymous.user
      else match ugi with
        | none => false
        | some u => u.groups.isEmpty || env.userOK u.user := by
  unfold ugiResult
  cases ugi with
  | none => cases force <;> cases env.userOK anonymous.user <;> rfl
  | some u =>
    cases hu : u.user == ""
    · simp only [hu, Bool.false_eq_true, if_false]
      cases u.groups.isEmpty <;> cases env.userOK u.user <;> rfl
    · simp only [hu, if_true]
      cases force <;> cases env.userOK anonymous.user <;> rfl

theorem appNewPure_refusal (a : AppNew) :
    (appNewPure env s a).verdict.refusal =
      !(env.isPart a.part && (ugiResult env a.ugi (isForced a.tags)).toBool && !(s.findApp a.id).isSome && env.place a) := by
  unfold appNewPure
  cases env.isPart a.part <;> cases ugiResult env a.ugi (isForced a.tags) <;> cases (s.findApp a.id).isSome <;>
    cases env.place a <;> rfl

/-- when the code accepts a new application with a non-empty id, the specification calls it valid -/
theorem appNew_invalid_refusal (a : AppNew) (w : Why)
    (hinv : invalid env s (.appNew a) = some w) (hgap : gapOf env s (.appNew a) = none) :
    (appNewPure env s a).verdict.refusal = true := by
  rw [appNewPure_refusal, ugiResult_isOk, Bool.not_eq_true']
  apply Bool.eq_false_iff.mpr
  intro hacc
  simp only [Bool.and_eq_true, Bool.not_eq_true', Option.isSome_eq_false_iff, Option.isNone_iff_eq_none] at hacc
  obtain ⟨⟨⟨hp, hu⟩, hd⟩, hpl⟩ := hacc
  have hid : (a.id == "") = false := by simpa [gapOf, hp] using hgap
  simp only [invalid, hp, hid, hd, hpl, Bool.not_true, Bool.false_eq_true, if_false, Option.isSome_none] at hinv
  cases hugi : a.ugi with
  | none => simp_all
  | some u => cases hu' : u.user == "" <;> simp_all

theorem appRemove_invalid_refusal (r : AppRemove) (w : Why)
    (hinv : invalid env s (.appRemove r) = some w) : (handleAppRemove env s r).verdict.refusal = true := by
  fun_cases handleAppRemove
  all_goals first
    | rfl
    | simp_all [invalid]

theorem node_invalid_refusal (n : NodeInfo) (w : Why)
    (hinv : invalid env s (.node n) = some w) (hgap : gapOf env s (.node n) = none) :
    (handleNode env s n).verdict.refusal = true := by
  fun_cases handleNode
  all_goals first
    | rfl
    | simp_all [invalid, gapOf]

end

/-! ### a valid item is never refused -/

theorem sgtz_of_nonneg_nonzero (l : Res) (hn : hasNegativeValue (some l) = false) (hz : isZero (some l) = false) :
    strictlyGreaterThanZero (some l) = true := by
  simp only [hasNegativeValue] at hn
  simp only [isZero] at hz
  simp only [strictlyGreaterThanZero, hn, Bool.false_eq_true, ↓reduceIte]
  rw [List.any_eq_true]
  rw [List.all_eq_false] at hz
  obtain ⟨p, hp, hp0⟩ := hz
  refine ⟨p, hp, ?_⟩
  have hnn : ¬ p.2 < 0 := by
    have := List.any_eq_false.mp hn p hp
    simpa using this
  have : p.2 ≠ 0 := by simpa using hp0
  simp; omega

/-- every allocated request entry names a registered node (node removal releases what it carried) -/
def AllocatedOnKnownNodes (s : Core) : Prop :=
  ∀ id app key ex, s.findApp id = some app → findAsk app key = some ex → ex.allocated = true → (s.findNode ex.node).isSome = true

section
variable (env : Env) (s : Core)

theorem ite_some_eq_none {α : Type} {c : Prop} [Decidable c] {x : α} {y : Option α} :
    (if c then some x else y) = none ↔ ¬ c ∧ y = none := by
  split <;> simp [*]

theorem hasNegativeValue_resOf (r : ORes) : hasNegativeValue (some (resOf r)) = hasNegativeValue r := by
  cases r <;> rfl

theorem alloc_valid_accepted (a : Alloc) (hwf : AllocatedOnKnownNodes s)
    (hinv : invalid env s (.alloc a) = none) : ∃ h, (handleAlloc env s a).verdict = .accept h := by
  simp only [invalid, ite_some_eq_none] at hinv
  obtain ⟨hp, hk, hq, hng, hinv⟩ := hinv
  unfold handleAlloc
  rw [if_neg hp, if_neg hq]
  by_cases hf : isForeign a = true
  · rw [if_pos hf] at hinv
    simp only [ite_some_eq_none] at hinv
    obtain ⟨hnode, hfn, -⟩ := hinv
    rw [if_pos hf]
    unfold handleForeign
    rw [if_neg hnode]
    cases hfn' : s.findNode a.node with
    | none => simp [hfn'] at hfn
    | some n =>
      simp only [hng, Bool.false_eq_true, ↓reduceIte]
      split <;> exact ⟨_, rfl⟩
  · rw [if_neg hf] at hinv
    simp only [ite_some_eq_none] at hinv
    obtain ⟨hfa, hnd, hz, -⟩ := hinv
    rw [if_neg hf]
    cases hfa' : s.findApp a.app with
    | none => simp [hfa'] at hfa
    | some app =>
      have hg : strictlyGreaterThanZero (some (resOf a.res)) = true :=
        sgtz_of_nonneg_nonzero _ (by simpa [hasNegativeValue_resOf] using hng) (by simpa using hz)
      simp only [hnd, hz, hg, Bool.not_true, Bool.false_eq_true, ↓reduceIte]
      cases hask : findAsk app a.key with
      | none => dsimp only; split <;> exact ⟨_, rfl⟩
      | some ex =>
        have hex : ¬ (ex.allocated && (s.findNode ex.node).isNone) = true := by
          simp only [Bool.and_eq_true, not_and, Option.isNone_iff_eq_none]
          intro hal hn
          simpa [hn] using hwf a.app app a.key ex hfa' hask hal
        dsimp only
        rw [if_neg hex]
        split
        · exact ⟨_, rfl⟩
        · split <;> exact ⟨_, rfl⟩

theorem release_valid_accepted (r : Release)
    (hinv : invalid env s (.release r) = none) : Ok (fun x => ∃ h, x.verdict = .accept h) (handleRelease env s r) := by
  -- the cases are the six branches of `handleRelease` numbered in the order of its text (case2: no application id, a foreign
  -- allocation; case5: the key is bound, `releaseBound`; case6: `releaseUnbound`); a new branch there renumbers them
  fun_cases handleRelease
  case case2 =>
    simp_all [invalid]
    exact .intro ⟨_, rfl⟩
  case case5 => rw [releaseBound_eq]; exact .intro ⟨_, rfl⟩
  case case6 _ _ app _ _ hfind =>
    have hany : app.items.any (fun i => i.key == r.key && i.bound) = false := by simpa using hfind
    fun_cases releaseUnbound
    all_goals first
      | exact .intro ⟨_, rfl⟩
      | simp_all [invalid]
  all_goals first
    | exact .intro ⟨_, rfl⟩
    | simp_all [invalid]

theorem appNew_valid_accepted (a : AppNew) (hanon : env.userOK anonymous.user = true)
    (hinv : invalid env s (.appNew a) = none) : ∃ h, (appNewPure env s a).verdict = .accept h := by
  apply Verdict.accept_of_not_refusal
  simp only [invalid, ite_some_eq_none] at hinv
  obtain ⟨hp, -, hE, hI, hdup, hpl, -⟩ := hinv
  rw [appNewPure_refusal, ugiResult_isOk, hanon]
  cases hugi : a.ugi with
  | none => simp_all
  | some u => cases hu' : u.user == "" <;> simp_all

/-! ### a request made of invalid items only -/

theorem refused_of_demanded (i : Item) (h : refusedAsDemanded env s i = true) :
    ∃ r, handle env s i = .ok r ∧ r.state = some s ∧ r.verdict.refusal = true := by
  obtain ⟨r, hr, hs⟩ := (handle_shaped env s i).exists
  rw [refusedAsDemanded_eq hr hs] at h
  refine ⟨r, hr, ?_, h⟩
  unfold Shaped at hs
  cases hv : r.verdict with
  | reject w => exact (hv ▸ hs).1
  | ignore w => exact (hv ▸ hs).1
  | accept how => simp [hv, Verdict.refusal] at h

theorem foldl_refused (items : List Item) (acc : List (Item × Result))
    (h : ∀ i ∈ items, refusedAsDemanded env s i = true) :
    ∃ rs, items.foldlM (stepItem env) (some s, acc) = .ok (some s, acc ++ rs) ∧
      rs.map (·.1) = items ∧ ∀ p ∈ rs, p.2.state = some s ∧ p.2.verdict.refusal = true := by
  induction items generalizing acc with
  | nil => exact ⟨[], by simp [pure, Except.pure], rfl, by simp⟩
  | cons it rest ih =>
    obtain ⟨r, hr, hst, hv⟩ := refused_of_demanded env s it (h it (by simp))
    obtain ⟨rs, hrs, hmap, hall⟩ := ih (acc ++ [(it, r)]) (fun i hi => h i (by simp [hi]))
    refine ⟨(it, r) :: rs, ?_, by simp [hmap], ?_⟩
    · have hstep : stepItem env (some s, acc) it = .ok (some s, acc ++ [(it, r)]) := by
        simp [stepItem, hr, hst]
      simp only [List.foldlM_cons, bind, Except.bind, hstep]
      simpa using hrs
    · intro p hp
      simp at hp
      rcases hp with rfl | hp
      · exact ⟨hst, hv⟩
      · exact hall p hp

end

end Yk.Si
