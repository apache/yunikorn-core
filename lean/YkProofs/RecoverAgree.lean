/-
  Proofs for YkProps/C12 (restart recovery), second part, on top of the invariant `Rebuilt` of Recover.lean: an item whose
  node / application is registered is accepted (no limit is looked at), the old core against the restarted core
  (`agree_*`), a legal order is accepted completely, and the books across the two steps by which a key replayed as an
  ask is bound later (`bindHeld`, `resizePending`).
-/
import YkProofs.Recover
namespace Yk
open Res Core

/-! ### an item whose node / application is registered is accepted: no limit is looked at -/

theorem recAlloc_accepts (s : Core) (x : RAlloc) (a : CApp) (ha : s.findApp x.app = some a) (hn : (s.findNode x.node).isSome = true)
    (hz : isZero (some x.res) = false) (hp : strictlyGreaterThanZero (some x.res) = true)
    (hk : a.items.any (·.key == x.key) = false) : (s.recAlloc x).2 = true := by
  unfold recAlloc
  simp only [ha]
  have : s.recAllocOK a x = true := by unfold recAllocOK; simp [hn, hz, hp, hk]
  rw [if_pos this]

theorem recForeign_accepts (s : Core) (key node : String) (res : Res) (hn : (s.findNode node).isSome = true)
    (hk : s.foreign.contains key = false) : (s.recForeign key node res).2 = true := by
  unfold recForeign
  rw [if_neg (by rw [hk]; exact Bool.false_ne_true)]
  cases hf : s.findNode node with
  | none => rw [hf] at hn; cases hn
  | some _ => rfl

theorem recAsk_accepts (s : Core) (x : RAlloc) (a : CApp) (ha : s.findApp x.app = some a)
    (hz : isZero (some x.res) = false) (hp : strictlyGreaterThanZero (some x.res) = true)
    (hk : a.items.any (·.key == x.key) = false) : (s.recAsk x).2 = true := by
  have h2 : a.items.any (fun i => i.key == x.key && i.inReq) = false := by
    rw [List.any_eq_false] at hk ⊢
    intro i hi h
    exact hk i hi (Bool.and_eq_true_iff.mp h).1
  unfold recAsk
  simp only [ha, hk, Bool.false_eq_true, if_false]
  rw [ask_def]
  simp only [ha, hz, hp, h2, Bool.not_true, Bool.or_false, Bool.false_eq_true, if_false]

theorem recNode_accepts (s : Core) (id : String) (cap : Res) (b : Bool) (h : s.findNode id = none) : (s.recNode id cap b).2 = true := by
  unfold recNode; simp [h]

theorem appSub_accepts (s : Core) (a : RApp) (q : CQueue) (hn : s.findApp a.id = none) (hq : s.findQueue a.queue = some q)
    (hl : q.leaf = true) (hg : a.forced = true ∨ isZero (some a.phAsk) = true) : (s.appSub a).2 = true := by
  unfold appSub
  have : s.appAddOK a = true := by
    unfold appAddOK gangFits
    rcases hg with hg | hg <;> simp [hn, hq, hl, hg]
  rw [if_pos this]

/-! ### the old core against the restarted core -/

theorem sumIf_flatten {α β : Type} (L : List α) (f : α → List β) (c : β → Bool) (w : β → Int) :
    sumIf ((L.map f).flatten) c w = (L.map (fun a => sumIf (f a) c w)).sum := by
  induction L with
  | nil => rfl
  | cons a t ih => rw [List.map_cons, List.flatten_cons, sumIf_append, ih, List.map_cons, List.sum_cons]

theorem sum_unique {α : Type} (l : List α) (d : α → Bool) (w : α → Int) (a : α) (hu : AtMostOne l d) (ha : a ∈ l) (hd : d a = true)
    (hz : ∀ x ∈ l, d x = false → w x = 0) : (l.map w).sum = w a := by
  have h := sum_filter_rm l d w a hu ha hd
  have h0 : ((l.filter (fun x => !d x)).map w).sum = 0 := by
    have : sumIf l (fun x => !d x) w = 0 := by
      apply sumIf_zero; intro x hx hc; exact hz x hx (by simpa using hc)
    exact this
  omega

theorem liveApps_atMostOne {A : Core} (hw : CoreWF A) (id : String) : AtMostOne A.liveApps (fun ap => ap.id == id) := by
  unfold AtMostOne liveApps
  rw [List.pairwise_filter]
  refine List.Pairwise.imp ?_ hw.appIds
  intro x y hne hx hy dx dy
  simp only [beq_iff_eq] at dx dy
  exact hne hx hy (dx.trans dy.symm)

/-- a sum over what the shim holds (the items selected by `sel`, each sent as `mk ap i`) that only counts entries of
    application `a` is a sum over `a`'s items -/
theorem snap_sum (A : Core) (hw : CoreWF A) (a : CApp) (ha : a ∈ A.liveApps) (sel : CItem → Bool)
    (mk : CApp → CItem → RAlloc) (c : RAlloc → Bool) (w : RAlloc → Int)
    (hc : ∀ ap i, c (mk ap i) = true → ap.id = a.id) :
    sumIf ((A.liveApps.map (fun ap => (ap.items.filter sel).map (mk ap))).flatten) c w =
      sumIf a.items (fun i => sel i && c (mk a i)) (fun i => w (mk a i)) := by
  rw [sumIf_flatten, sum_unique A.liveApps (fun ap => ap.id == a.id) _ a (liveApps_atMostOne hw a.id) ha (by simp)]
  · rw [sumIf_map, sumIf_filter]
  · intro ap _ hd
    rw [sumIf_map, sumIf_filter]
    apply sumIf_zero
    intro i _ hi
    exact absurd (hc ap i (Bool.and_eq_true_iff.mp hi).2) (by simpa using hd)

theorem snapAllocs_sum (A : Core) (hw : CoreWF A) (a : CApp) (ha : a ∈ A.liveApps) (p : Bool → Bool) (k : String) :
    sumIf (snapAllocs A) (fun x => x.app == a.id && p x.ph) (fun x => x.res.getD k) =
      itemSum a.items (fun i => i.bound && p i.ph) k := by
  unfold snapAllocs
  rw [snap_sum A hw a ha _ _ _ _ (fun ap i h => by simpa using (Bool.and_eq_true_iff.mp h).1)]
  exact sumIf_congr _ _ _ _ _ (fun i _ => by simp)

theorem snapAsks_sum (A : Core) (hw : CoreWF A) (a : CApp) (ha : a ∈ A.liveApps) (k : String) :
    sumIf (snapAsks A) (fun x => x.app == a.id) (fun x => x.res.getD k) =
      itemSum a.items (fun i => !i.bound && i.inReq && (!i.allocated || i.inflightReal)) k := by
  unfold snapAsks
  rw [snap_sum A hw a ha _ _ _ _ (fun ap i h => by simpa using h)]
  exact sumIf_congr _ _ _ _ _ (fun i _ => by simp)

/-- the asks the shim holds = the asks the old core counts as pending + the replacements in flight -/
theorem pending_split (A : Core) (hw : CoreWF A) (a : CApp) (ha : a ∈ A.apps) (hl : a.live = true) (k : String) :
    itemSum a.items (fun i => !i.bound && i.inReq && (!i.allocated || i.inflightReal)) k =
      itemSum a.items (fun i => i.inReq && !i.allocated) k + itemSum a.items (fun i => i.inReq && i.inflightReal) k := by
  unfold itemSum
  rw [sumIf_eq, sumIf_eq, sumIf_eq, ← sum_map_add]
  congr 1
  apply List.map_congr_left
  intro i hi
  -- a bound item is allocated and not in flight; an unallocated one is not in flight either
  have hba := hw.boundAllocated a ha hl i hi
  have hfl : i.inflightReal = (i.allocated && !i.bound && (!i.ph && i.release.isSome)) := by
    unfold CItem.inflightReal; simp only [Bool.and_assoc]
  rw [hfl]
  cases hb : i.bound
  · cases i.inReq <;> cases i.allocated <;> cases (!i.ph && i.release.isSome) <;> simp
  · rw [hba hb]; simp

theorem inflightOfApp_getD (A : Core) (hw : CoreWF A) (a : CApp) (ha : a ∈ A.apps) (hl : a.live = true) (k : String) :
    (inflightOfApp a).getD k = itemSum a.items (fun i => i.inReq && i.inflightReal) k := by
  exact sumRes_filter_getD _ _ _ (fun i hi => (hw.itemRes a ha hl i hi).1) k

/-- The sums over a snapshot that holds (in any order) exactly the bound allocations and the asks of the old core are the
    old core's own totals — plus, for pending, the replacements in flight. -/
theorem snapshot_sums (A : Core) (hw : CoreWF A) (hb : Books A) (items : List RItem)
    (hallocs : (allocsOf items).Perm (snapAllocs A)) (hasks : (asksOf items).Perm (snapAsks A))
    (a : CApp) (ha : a ∈ A.apps) (hl : a.live = true) (k : String) :
    SAr items a.id k = a.allocated.getD k ∧ SAp items a.id k = a.allocatedPh.getD k ∧
    SQ items a.id k = a.pending.getD k + (inflightOfApp a).getD k := by
  have hlm : a ∈ A.liveApps := mem_liveApps.mpr ⟨ha, hl⟩
  have hba := hb.apps a ha hl
  refine ⟨?_, ?_, ?_⟩
  · unfold SAr
    rw [perm_sumIf hallocs, snapAllocs_sum A hw a hlm (fun b => !b) k, hba.allocated k]
  · unfold SAp
    rw [perm_sumIf hallocs, snapAllocs_sum A hw a hlm (fun b => b) k, hba.allocatedPh k]
  · unfold SQ
    rw [perm_sumIf hasks, snapAsks_sum A hw a hlm k, pending_split A hw a ha hl k, hba.pending k, inflightOfApp_getD A hw a ha hl k]

theorem qsum_sig (apps : List CApp) (hl : ∀ a ∈ apps, a.live = true) (p : String) (G : String → Int) :
    qsum apps p (fun a => G a.id) = sumIf (apps.map appSig) (fun s => under s.2 p) (fun s => G s.1) := by
  rw [sumIf_map]
  unfold qsum
  apply sumIf_congr
  intro a ha
  show (if (a.live && under a.queue p) = true then G a.id else 0) = (if under a.queue p = true then G a.id else 0)
  rw [hl a ha, Bool.true_and]

theorem agree_app (A : Core) (qs : List CQueue) (items : List RItem) (hw : CoreWF A) (hb : Books A)
    (hi : ∀ it ∈ items, it.wfRes) (hall : ((Core.fresh qs).replay items).2 = items)
    (hallocs : (allocsOf items).Perm (snapAllocs A)) (hasks : (asksOf items).Perm (snapAsks A))
    (a : CApp) (ha : a ∈ A.apps) (hl : a.live = true) (b : CApp) (hbm : b ∈ ((Core.fresh qs).replay items).1.apps)
    (hid : b.id = a.id) (k : String) :
    b.allocated.getD k = a.allocated.getD k ∧ b.allocatedPh.getD k = a.allocatedPh.getD k ∧
    b.pending.getD k = a.pending.getD k + (inflightOfApp a).getD k := by
  have ht := replay_fresh qs items hi
  rw [hall] at ht
  obtain ⟨h1, h2, h3⟩ := ht.app_totals b hbm k
  obtain ⟨g1, g2, g3⟩ := snapshot_sums A hw hb items hallocs hasks a ha hl k
  rw [h1, h2, h3, hid, g1, g2, g3]; exact ⟨rfl, rfl, rfl⟩

theorem agree_queue (A : Core) (qs : List CQueue) (items : List RItem) (hw : CoreWF A) (hb : Books A)
    (hi : ∀ it ∈ items, it.wfRes) (hall : ((Core.fresh qs).replay items).2 = items)
    (hallocs : (allocsOf items).Perm (snapAllocs A)) (hasks : (asksOf items).Perm (snapAsks A))
    (happs : ((appsOf items).map rappSig).Perm (A.liveApps.map appSig))
    (q : CQueue) (hq : q ∈ A.queues) (r : CQueue) (hr : r ∈ ((Core.fresh qs).replay items).1.queues) (hp : r.path = q.path) (k : String) :
    r.allocated.getD k = q.allocated.getD k ∧
    r.pending.getD k = q.pending.getD k + qsum A.apps q.path (fun a => (inflightOfApp a).getD k) := by
  have ht := replay_fresh qs items hi
  have hqB := ht.books.queues r hr
  rw [hall] at ht
  have hsig' := ht.holds.sig
  have hqA := hb.queues q hq
  -- a sum over B's applications of a quantity that is a function `G` of the id, as a sum over A's live applications
  have move : ∀ (g g' : CApp → Int) (G : String → Int), (∀ b ∈ ((Core.fresh qs).replay items).1.apps, g b = G b.id) →
      (∀ a ∈ A.apps, a.live = true → G a.id = g' a) →
      qsum ((Core.fresh qs).replay items).1.apps r.path g = qsum A.apps q.path g' := by
    intro g g' G hg hg'
    have e1 : qsum ((Core.fresh qs).replay items).1.apps r.path g =
        qsum ((Core.fresh qs).replay items).1.apps r.path (fun b => G b.id) :=
      sumIf_congr _ _ _ _ _ (fun b hbm => by rw [hg b hbm])
    rw [e1, qsum_sig _ ht.holds.live, hsig', perm_sumIf happs, sumIf_map, hp, qsum_liveApps]
    exact sumIf_congr _ _ _ _ _ (fun a ham => by
      obtain ⟨ha, hl⟩ := mem_liveApps.mp ham
      show (if under a.queue q.path = true then G a.id else 0) = _
      rw [hg' a ha hl])
  constructor
  · rw [hqB.allocated k, hqA.allocated k]
    refine move _ _ (fun id => SAr items id k + SAp items id k) (fun b hbm => ?_) (fun a ha hl => ?_)
    · rw [(ht.app_totals b hbm k).1, (ht.app_totals b hbm k).2.1]
    · rw [(snapshot_sums A hw hb items hallocs hasks a ha hl k).1, (snapshot_sums A hw hb items hallocs hasks a ha hl k).2.1]
  · rw [hqB.pending k, hqA.pending k]
    rw [move _ (fun a => a.pending.getD k + (inflightOfApp a).getD k) (fun id => SQ items id k)
      (fun b hbm => (ht.app_totals b hbm k).2.2) (fun a ha hl => (snapshot_sums A hw hb items hallocs hasks a ha hl k).2.2)]
    unfold qsum
    rw [sumIf_eq, sumIf_eq, sumIf_eq, ← sum_map_add]
    congr 1
    apply List.map_congr_left
    intro a _
    split <;> simp

theorem agree_node (A : Core) (qs : List CQueue) (items : List RItem)
    (hi : ∀ it ∈ items, it.wfRes) (hall : ((Core.fresh qs).replay items).2 = items)
    (hallocs : (allocsOf items).Perm (snapAllocs A)) (hforeign : (foreignOf items).Perm (snapForeign A))
    (n : CNode) (m : CNode) (hm : m ∈ ((Core.fresh qs).replay items).1.nodes) (hid : m.id = n.id) (k : String)
    (hview : n.allocated.getD k = sumIf (snapAllocs A) (fun x => x.node == n.id) (fun x => x.res.getD k) + (inflightOnNode A n).getD k)
    (hocc : n.occupied.getD k = sumIf (snapForeign A) (fun f => f.2.1 == n.id) (fun f => f.2.2.getD k)) :
    n.allocated.getD k = m.allocated.getD k + (inflightOnNode A n).getD k ∧ n.occupied.getD k = m.occupied.getD k := by
  have ht := replay_fresh qs items hi
  rw [hall] at ht
  obtain ⟨h1, h2⟩ := ht.node_totals m hm k
  rw [h1, h2, hid, hview, hocc]
  unfold SN SO
  rw [perm_sumIf hallocs, perm_sumIf hforeign]
  exact ⟨rfl, rfl⟩

/-! ### a legal order is accepted completely -/

/-- state-based legality: every item finds its node / application registered and its key unused -/
def Ready (s : Core) : RItem → Prop
  | .node id _ _ => s.findNode id = none
  | .app a => s.appAddOK a = true
  | .alloc x => ∃ a, s.findApp x.app = some a ∧ (s.findNode x.node).isSome = true ∧ isZero (some x.res) = false ∧
      strictlyGreaterThanZero (some x.res) = true ∧ a.items.any (·.key == x.key) = false
  | .foreign key node _ => (s.findNode node).isSome = true ∧ s.foreign.contains key = false
  | .ask x => ∃ a, s.findApp x.app = some a ∧ isZero (some x.res) = false ∧ strictlyGreaterThanZero (some x.res) = true ∧
      a.items.any (·.key == x.key) = false
  | .undrain _ => True

theorem ready_accepted (s : Core) (it : RItem) (h : Ready s it) : (s.rstep it).2 = true := by
  cases it with
  | node id cap sched => exact recNode_accepts s id cap sched h
  | app a =>
    have h' : s.appAddOK a = true := h
    show (s.appSub a).2 = true; unfold appSub; rw [if_pos h']
  | alloc x => obtain ⟨a, h1, h2, h3, h4, h5⟩ := h; exact recAlloc_accepts s x a h1 h2 h3 h4 h5
  | foreign key node res => exact recForeign_accepts s key node res h.1 h.2
  | ask x => obtain ⟨a, h1, h3, h4, h5⟩ := h; exact recAsk_accepts s x a h1 h3 h4 h5
  | undrain id => rfl

def Legal (s : Core) : List RItem → Prop
  | [] => True
  | it :: rest => Ready s it ∧ Legal (s.rstep it).1 rest

def validRes (r : Res) : Prop := isZero (some r) = false ∧ strictlyGreaterThanZero (some r) = true

/-- `LegalFrom qs nodes apps keys items`: with `nodes` / `apps` registered and `keys` used so far, every item of `items`
    comes after its node and its application, ids and keys are not reused, resources are valid, and applications are
    placed in a leaf of the queue tree `qs` and are force-created or carry no task-group request. -/
def LegalFrom (qs : List CQueue) (nodes apps keys : List String) : List RItem → Prop
  | [] => True
  | .node id _ _ :: t => id ∉ nodes ∧ LegalFrom qs (id :: nodes) apps keys t
  | .app a :: t => a.id ∉ apps ∧ (∃ q, qs.find? (·.path == a.queue) = some q ∧ q.leaf = true) ∧
      (a.forced = true ∨ isZero (some a.phAsk) = true) ∧
      LegalFrom qs nodes (a.id :: apps) keys t
  | .alloc x :: t => x.node ∈ nodes ∧ x.app ∈ apps ∧ x.key ∉ keys ∧ validRes x.res ∧ LegalFrom qs nodes apps (x.key :: keys) t
  | .foreign key node _ :: t => node ∈ nodes ∧ key ∉ keys ∧ LegalFrom qs nodes apps (key :: keys) t
  | .ask x :: t => x.app ∈ apps ∧ x.key ∉ keys ∧ validRes x.res ∧ LegalFrom qs nodes apps (x.key :: keys) t
  | .undrain _ :: t => LegalFrom qs nodes apps keys t

/-- the registry the order argument keeps: which nodes / applications the state knows, which keys are in use -/
structure Reg (qs : List CQueue) (s : Core) (nodes apps keys : List String) : Prop where
  hnodes : ∀ id, id ∈ nodes ↔ ∃ n ∈ s.nodes, n.id = id
  happs : ∀ id, id ∈ apps ↔ ∃ a ∈ s.apps, a.id = id
  hlive : ∀ a ∈ s.apps, a.live = true
  hkeys : ∀ a ∈ s.apps, ∀ i ∈ a.items, i.key ∈ keys
  hforeign : ∀ k ∈ s.foreign, k ∈ keys
  hqueues : ∀ p, (s.queues.find? (·.path == p)).map (·.leaf) = (qs.find? (·.path == p)).map (·.leaf)

theorem any_key_false {l : List CItem} {key : String} {keys : List String} (h : ∀ i ∈ l, i.key ∈ keys) (hk : key ∉ keys) :
    l.any (·.key == key) = false := by
  rw [List.any_eq_false]
  intro i hi hp
  have : i.key = key := by simpa using hp
  exact hk (this ▸ h i hi)

theorem ready_of_legal (qs : List CQueue) (s : Core) (nodes apps keys : List String) (it : RItem) (t : List RItem)
    (hr : Reg qs s nodes apps keys) (hl : LegalFrom qs nodes apps keys (it :: t)) : Ready s it := by
  cases it with
  | node id cap sched =>
    obtain ⟨h1, _⟩ := hl
    exact findNode_eq_none (fun h => h1 ((hr.hnodes id).mpr h))
  | app a =>
    obtain ⟨h1, ⟨q, hq, hleaf⟩, hz, _⟩ := hl
    show s.appAddOK a = true
    have hnone : s.findApp a.id = none := findApp_eq_none (fun x hx _ hid => h1 ((hr.happs a.id).mpr ⟨x, hx, hid⟩))
    have hqs := hr.hqueues a.queue
    rw [hq] at hqs
    unfold appAddOK gangFits findQueue
    cases hf : s.queues.find? (·.path == a.queue) with
    | none => rw [hf] at hqs; cases hqs
    | some q' =>
      rw [hf] at hqs
      have : q'.leaf = true := by simpa [hleaf] using hqs
      rcases hz with hz | hz <;> simp [hnone, this, hz]
  | alloc x =>
    obtain ⟨h1, h2, h3, ⟨hv1, hv2⟩, _⟩ := hl
    obtain ⟨a, hfind⟩ := findApp_exists hr.hlive ((hr.happs x.app).mp h2)
    obtain ⟨ham, _, _⟩ := findApp_some hfind
    exact ⟨a, hfind, findNode_isSome_iff.mpr ((hr.hnodes x.node).mp h1), hv1, hv2, any_key_false (hr.hkeys a ham) h3⟩
  | foreign key node res =>
    obtain ⟨h1, h2, _⟩ := hl
    refine ⟨findNode_isSome_iff.mpr ((hr.hnodes node).mp h1), ?_⟩
    cases hc : s.foreign.contains key with
    | false => rfl
    | true => exact absurd (hr.hforeign key (by simpa using hc)) h2
  | ask x =>
    obtain ⟨h2, h3, ⟨hv1, hv2⟩, _⟩ := hl
    obtain ⟨a, hfind⟩ := findApp_exists hr.hlive ((hr.happs x.app).mp h2)
    obtain ⟨ham, _, _⟩ := findApp_some hfind
    exact ⟨a, hfind, hv1, hv2, any_key_false (hr.hkeys a ham) h3⟩
  | undrain id => trivial

theorem find_leaf_map (l : List CQueue) (f : CQueue → CQueue) (hf : ∀ q, (f q).path = q.path ∧ (f q).leaf = q.leaf)
    (p : String) : ((l.map f).find? (·.path == p)).map (·.leaf) = (l.find? (·.path == p)).map (·.leaf) := by
  rw [List.find?_map]
  have : ((fun q : CQueue => q.path == p) ∘ f) = (fun q : CQueue => q.path == p) := by
    funext q; show ((f q).path == p) = _; rw [(hf q).1]
  rw [this, Option.map_map]
  congr 1
  funext q; exact (hf q).2

theorem mem_cons_iff_append {α : Type} {l : List α} {ids : List String} (key : α → String) (x : α)
    (h : ∀ id, id ∈ ids ↔ ∃ a ∈ l, key a = id) (id : String) : id ∈ key x :: ids ↔ ∃ a ∈ l ++ [x], key a = id := by
  simp [h id, or_and_right, exists_or, or_comm, eq_comm]

theorem reg_upd (qs : List CQueue) (s t : Core) (nodes apps keys : List String) (key : String) (ida idn : String)
    (fa : CApp → CApp) (fn : CNode → CNode) (fq : CQueue → CQueue)
    (hr : Reg qs s nodes apps keys)
    (hta : t.apps = updApps s.apps ida fa) (htn : t.nodes = updNs s.nodes idn fn) (htq : t.queues = s.queues.map fq)
    (htf : t.foreign = s.foreign ∨ t.foreign = s.foreign ++ [key])
    (hfa_id : ∀ a, (fa a).id = a.id) (hfa_live : ∀ a, (fa a).live = a.live) (hfn_id : ∀ n, (fn n).id = n.id)
    (hfa_items : ∀ a, (fa a).items = a.items ∨ ∃ i, (fa a).items = a.items ++ [i] ∧ i.key = key)
    (hfq : ∀ q, (fq q).path = q.path ∧ (fq q).leaf = q.leaf) :
    Reg qs t nodes apps (key :: keys) := by
  refine ⟨?_, ?_, ?_, ?_, ?_, ?_⟩
  · intro id; rw [htn, exists_map_if_iff CNode.id hfn_id]; exact hr.hnodes id
  · intro id; rw [hta, exists_map_if_iff CApp.id hfa_id]; exact hr.happs id
  · rw [hta]
    exact forall_map_if hr.hlive (fun z _ hz => (hfa_live z).trans hz)
  · rw [hta]
    refine forall_map_if (P := fun y : CApp => ∀ i ∈ y.items, i.key ∈ key :: keys)
      (fun z hz i hi => List.mem_cons_of_mem _ (hr.hkeys z hz i hi)) ?_
    intro z hz hkz
    rcases hfa_items z with h | ⟨i, h, hi⟩
    · rw [h]; exact hkz
    · rw [h]; exact forall_mem_snoc hkz (hi ▸ List.mem_cons_self)
  · have hk : ∀ k ∈ s.foreign, k ∈ key :: keys := fun k hk => List.mem_cons_of_mem _ (hr.hforeign k hk)
    rcases htf with h | h
    · rw [h]; exact hk
    · rw [h]; exact forall_mem_snoc hk List.mem_cons_self
  · intro p
    rw [htq, find_leaf_map s.queues fq hfq p]; exact hr.hqueues p

theorem reg_weaken_keys {qs : List CQueue} {s : Core} {nodes apps keys : List String} (key : String)
    (hr : Reg qs s nodes apps keys) : Reg qs s nodes apps (key :: keys) :=
  ⟨hr.hnodes, hr.happs, hr.hlive, fun a ha i hi => List.mem_cons_of_mem _ (hr.hkeys a ha i hi),
   fun k hk => List.mem_cons_of_mem _ (hr.hforeign k hk), hr.hqueues⟩

theorem reg_fresh (qs : List CQueue) : Reg qs (Core.fresh qs) [] [] [] := by
  refine ⟨?_, ?_, (fun _ h => nomatch h), (fun _ h => nomatch h), (fun _ h => nomatch h), ?_⟩
  · exact fun id => ⟨(fun h => nomatch h), (fun ⟨_, hn, _⟩ => nomatch hn)⟩
  · exact fun id => ⟨(fun h => nomatch h), (fun ⟨_, hn, _⟩ => nomatch hn)⟩
  · refine fun p => find_leaf_map qs _ (fun _ => ?_) p
    exact ⟨rfl, rfl⟩

theorem reg_step (qs : List CQueue) (s : Core) (nodes apps keys : List String) (it : RItem) (t : List RItem)
    (hr : Reg qs s nodes apps keys) (hl : LegalFrom qs nodes apps keys (it :: t)) (hacc : (s.rstep it).2 = true) :
    ∃ nodes' apps' keys', Reg qs (s.rstep it).1 nodes' apps' keys' ∧ LegalFrom qs nodes' apps' keys' t := by
  cases it with
  | node id cap sched =>
    obtain ⟨_, h⟩ := accepted_of_cases hacc (recNode_cases s id cap sched)
    refine ⟨id :: nodes, apps, keys, ?_, hl.2⟩
    simp only [rstep, h]
    refine ⟨mem_cons_iff_append (·.id) (freshNode id cap sched) hr.hnodes, hr.happs, hr.hlive, hr.hkeys, hr.hforeign,
      fun p => (find_leaf_map s.queues _ (fun q => ?_) p).trans (hr.hqueues p)⟩
    split <;> exact ⟨rfl, rfl⟩
  | app a =>
    obtain ⟨_, h⟩ := accepted_of_cases hacc (appSub_cases s a)
    refine ⟨nodes, a.id :: apps, keys, ?_, hl.2.2.2⟩
    simp only [rstep, h]
    refine ⟨hr.hnodes, mem_cons_iff_append (·.id) (newApp a) hr.happs, forall_mem_snoc hr.hlive rfl,
      forall_mem_snoc hr.hkeys (fun _ hi => nomatch hi), hr.hforeign,
      fun p => (find_leaf_map s.queues _ (fun q => ?_) p).trans (hr.hqueues p)⟩
    split <;> exact ⟨rfl, rfl⟩
  | alloc x =>
    obtain ⟨a, _, _, h⟩ := accepted_of_cases hacc (recAlloc_cases s x)
    refine ⟨nodes, apps, x.key :: keys, ?_, hl.2.2.2.2⟩
    simp only [rstep, h]
    exact reg_upd qs s _ nodes apps keys x.key x.app x.node (recApp x) _ _ hr rfl rfl rfl
      (Or.inl rfl) (fun _ => rfl) (fun _ => rfl) (fun _ => rfl) (fun _ => Or.inr ⟨_, rfl, rfl⟩)
      (fun q => by split <;> exact ⟨rfl, rfl⟩)
  | foreign key node res =>
    obtain ⟨_, _, h⟩ := accepted_of_cases hacc (recForeign_cases s key node res)
    refine ⟨nodes, apps, key :: keys, ?_, hl.2.2⟩
    simp only [rstep, h]
    exact reg_upd qs s _ nodes apps keys key "" node (fun a => a) (addForeignNode key res) (fun q => q) hr
      (updApps_self _ _).symm rfl (List.map_id _).symm (Or.inr rfl)
      (fun _ => rfl) (fun _ => rfl) (fun _ => rfl) (fun _ => Or.inl rfl) (fun _ => ⟨rfl, rfl⟩)
  | ask x =>
    obtain ⟨a, _, h⟩ := accepted_of_cases hacc (recAsk_cases s x)
    refine ⟨nodes, apps, x.key :: keys, ?_, hl.2.2.2⟩
    simp only [rstep, h]
    exact reg_upd qs s _ nodes apps keys x.key x.app "" (askedApp a x.key x.res x.ph x.tg x.reqNode) (fun n => n) _ hr
      rfl (updNs_id _ _).symm rfl (Or.inl rfl) (fun _ => rfl) (fun _ => rfl) (fun _ => rfl) (fun _ => Or.inr ⟨_, rfl, rfl⟩)
      (fun q => by split <;> exact ⟨rfl, rfl⟩)
  | undrain id =>
    refine ⟨nodes, apps, keys, ⟨?_, hr.happs, hr.hlive, hr.hkeys, hr.hforeign, hr.hqueues⟩, hl⟩
    exact fun id' => (hr.hnodes id').trans (exists_map_if_iff (f := fun n => { n with schedulable := true }) CNode.id (fun _ => rfl)).symm

/-- the syntactic order condition implies the state-based one -/
theorem legal_of_legalFrom (qs : List CQueue) (s : Core) (nodes apps keys : List String) (items : List RItem)
    (hr : Reg qs s nodes apps keys) (hl : LegalFrom qs nodes apps keys items) : Legal s items := by
  induction items generalizing s nodes apps keys with
  | nil => trivial
  | cons it t ih =>
    have hready := ready_of_legal qs s nodes apps keys it t hr hl
    obtain ⟨nodes', apps', keys', hr', hl'⟩ := reg_step qs s nodes apps keys it t hr hl (ready_accepted s it hready)
    exact ⟨hready, ih _ nodes' apps' keys' hr' hl'⟩

/-! ### the "ask → allocation" transition branch of UpdateAllocation (a key replayed as an ask, reported as bound later) -/

theorem bindHeld_def (s : Core) (x : RAlloc) :
    s.bindHeld x =
      match s.findApp x.app, s.findNode x.node with
      | some a, some _ =>
        match a.items.find? (fun i => i.key == x.key && i.inReq && !i.allocated) with
        | none => (s, false)
        | some i => (bindAsk s x.app x.key x.node a i, true)
      | _, _ => (s, false) := rfl

theorem books_bindHeld (s : Core) (x : RAlloc) (hw : CoreWF s) (hb : Books s) : Books (s.bindHeld x).1 := by
  rw [bindHeld_def]
  split
  · rename_i a _ hfind _
    split
    · exact hb
    · rename_i i hitem
      exact books_bindAsk s x.app x.key x.node a i hw hb hfind hitem
  · exact hb

/-! ### the resource change of a pending ask that precedes the transition when the shim reports another size -/

/-- no queue's pending total leaves the int64 range when an ask is resized to `res` (the `NoSat` hypothesis of DESIGN.md
    for this operation) -/
def NoSatResize (s : Core) (res : Res) : Prop :=
  ∀ q ∈ s.queues, ∀ a ∈ s.apps, ∀ i ∈ a.items, allInR (addX q.pending (prune (subX res i.res)))

/-- Application.UpdateAllocationResources for the outstanding ask `i` -/
def resizedApp (i : CItem) (res : Res) (a : CApp) : CApp :=
  { a with items := a.items.map (fun y => if y.key == i.key then { y with res := res } else y),
           pending := prune (addX a.pending (prune (subX res i.res))) }

theorem resizePending_cases (s : Core) (a : CApp) (i : CItem) (res : Res) :
    s.resizePending a i res = s ∨
    s.resizePending a i res = updQueues (updApp s a.id (resizedApp i res)) (pathChain s a.queue)
        (fun q => { q with pending := addX q.pending (prune (subX res i.res)) }) := by
  unfold resizePending
  by_cases hc : (isZero (some (prune (subX res i.res))) || isZero (some res)) = true
  · exact Or.inl (if_pos hc)
  · exact Or.inr (if_neg hc)

theorem books_resizePending (s : Core) (a : CApp) (i : CItem) (res : Res) (hw : CoreWF s) (hb : Books s)
    (ham : a ∈ s.apps) (hl : a.live = true) (him : i ∈ a.items) (hreq : i.inReq = true) (hnal : i.allocated = false)
    (hr : wf res = true) : Books (s.resizePending a i res) := by
  rcases resizePending_cases s a i res with h | h
  · rw [h]; exact hb
  · rw [h]
    have hnb : i.bound = false := by
      cases hbd : i.bound with
      | false => rfl
      | true => rw [hw.boundAllocated a ham hl i him hbd] at hnal; cases hnal
    have hwp := (hw.appRes a ham hl).1
    have hwr := (hw.itemRes a ham hl i him).1
    have hDw : wf (prune (subX res i.res)) = true := prune_wf _ (subX_wf _ _ hr)
    have hpend : ∀ k, (resizedApp i res a).pending.getD k = a.pending.getD k + (res.getD k - i.res.getD k) := fun k => by
      show (prune (addX a.pending (prune (subX res i.res)))).getD k = _
      rw [prune_addX_getD _ _ hwp hDw, prune_subX_getD _ _ hr hwr]
    refine books_move s _ a.id a (resizedApp i res) _ _ (fun _ => 0) (fun k => res.getD k - i.res.getD k) ham hl rfl
      hw.appIds hb rfl rfl hb.nodes rfl hl ?_ (chain_iff s a.queue) (fun _ => rfl)
      (fun k => ⟨(Int.add_zero _).symm, hpend k⟩) ?_
    · refine (hb.apps a ham hl).update (hw.itemKeys a ham hl) him rfl _ rfl ?_ ?_ ?_
      · intro k; show a.allocated.getD k = _; simp [hnb]
      · intro k; show a.allocatedPh.getD k = _; simp [hnb]
      · intro k; rw [hpend]; simp [hreq, hnal]; omega
    · intro q _ _ k
      refine ⟨(Int.add_zero _).symm, ?_⟩
      show (addX q.pending (prune (subX res i.res))).getD k = _
      rw [addX_getD _ _ hDw, prune_subX_getD _ _ hr hwr]

theorem appWF_resizedApp (i : CItem) (res : Res) (a : CApp) (hr : wf res = true) (hnn : NonNeg res) (hwa : AppWF a) :
    AppWF (resizedApp i res a) := by
  refine hwa.of_sublist (fun y => if (y.key == i.key) = true then { y with res := res } else y) (List.Sublist.refl _)
    ⟨prune_wf _ (addX_wf _ _ hwa.appRes.1), hwa.appRes.2⟩ (fun y => by split <;> rfl) (fun y hy => ?_)
  split
  · exact ⟨⟨hr, hnn⟩, hwa.boundAllocated y hy⟩
  · exact ⟨hwa.itemRes y hy, hwa.boundAllocated y hy⟩

theorem coreWF_resizePending (s : Core) (a : CApp) (i : CItem) (res : Res) (hw : CoreWF s)
    (hr : wf res = true) (hnn : NonNeg res) (hsat : NoSatResize s res) (ham : a ∈ s.apps) (hl : a.live = true)
    (him : i ∈ a.items) : CoreWF (s.resizePending a i res) := by
  rcases resizePending_cases s a i res with h | h
  · rw [h]; exact hw
  · rw [h]
    exact Shape.wf_chain (.of_lists' (f := resizedApp i res) hw (findApp_of_mem hw.appIds ham hl) rfl rfl rfl rfl rfl rfl
        (fun _ => rfl)) hw (fun _ => appWF_resizedApp i res a hr hnn (hw.app ham hl))
      (fun q hq _ => ⟨(hw.queue hq).allocated, addX_wf _ _ (hw.queue hq).pending, hsat q hq a ham i him⟩) (fun _ _ h => h)

end Yk
