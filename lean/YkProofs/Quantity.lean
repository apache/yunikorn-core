/- Quantity parsing (`parseQ` of YkModel/Quantity.lean): the multiplier in force, and a parse answers exactly
   number × multiplier or overflow.  Behind the parsing theorems of YkProps/C18; YkProofs/Conf.lean takes from here that a
   parsed quantity is a non-negative int64. -/
import YkModel.Quantity
import YkProofs.Lists
namespace Yk

-- answers of `parseQ` and of the validator are compared by `decide` in the examples and refutations of YkProps/C18 and YkProps/C15
deriving instance DecidableEq for Except

/-- the multiplier in force is the table entry (×1000 for milli-units unless the suffix is `m`), and positive -/
theorem scaleOf_spec (sfx : String) (milli : Bool) (sc : Int) (h : scaleOf sfx milli = some sc) :
    ∃ base, multipliers.lookup sfx = some base ∧ ¬ (sfx = "m" ∧ milli = false) ∧
      sc = base * (if milli = true ∧ sfx ≠ "m" then 1000 else 1) ∧ 0 < sc := by
  unfold scaleOf at h
  cases hl : multipliers.lookup sfx with
  | none => rw [hl] at h; cases h
  | some base =>
    rw [hl] at h; simp only at h
    have hpos : 0 < base := by
      have : ∀ p ∈ multipliers, 0 < p.2 := by decide
      exact this _ (mem_of_lookup hl)
    by_cases hm : (sfx == "m" && !milli) = true
    · rw [if_pos hm] at h; cases h
    · rw [if_neg hm] at h
      refine ⟨base, rfl, ?_, ?_, ?_⟩
      · intro ⟨h1, h2⟩; apply hm; simp [h1, h2]
      · injection h with h; rw [← h]
        cases milli <;> by_cases hs : sfx = "m" <;> simp [hs]
      · injection h with h; rw [← h]
        split <;> omega

/-- a well-formed string is accepted with number × multiplier if that fits in an int64, else refused as overflow -/
theorem parseQ_complete (s : String) (milli : Bool) (ds suf : List Char) (sc : Int)
    (hm : matchLegal (trimSpace s.toList) = some (ds, suf))
    (hs : scaleOf (String.ofList suf) milli = some sc) :
    parseQ s milli = if (digitsVal ds : Int) * sc ≤ maxI then .ok ((digitsVal ds : Int) * sc) else .error .overflow := by
  obtain ⟨_, _, _, _, hpos⟩ := scaleOf_spec _ _ _ hs
  unfold parseQ; rw [hm]; simp only
  have hd : (0 : Int) ≤ digitsVal ds := Int.natCast_nonneg _
  by_cases hn : (digitsVal ds : Int) > maxI
  · rw [if_pos hn]
    have : (digitsVal ds : Int) ≤ (digitsVal ds : Int) * sc := by
      have := Int.mul_le_mul_of_nonneg_left (show (1 : Int) ≤ sc by omega) hd
      simpa using this
    have : ¬ (digitsVal ds : Int) * sc ≤ maxI := by omega
    rw [if_neg this]
  · rw [if_neg hn, hs]; simp only
    by_cases ho : (digitsVal ds : Int) * sc > maxI
    · rw [if_pos ho, if_neg (by omega)]
    · rw [if_neg ho, if_pos (by omega)]

/-- a successful parse returns exactly number × multiplier, a non-negative int64 -/
theorem parseQ_exact (s : String) (milli : Bool) (v : Int) (h : parseQ s milli = .ok v) :
    ∃ ds suf sc, matchLegal (trimSpace s.toList) = some (ds, suf) ∧
      scaleOf (String.ofList suf) milli = some sc ∧
      v = (digitsVal ds : Int) * sc ∧ 0 ≤ v ∧ inR v := by
  cases hm : matchLegal (trimSpace s.toList) with
  | none => simp [parseQ, hm] at h
  | some p =>
    obtain ⟨ds, suf⟩ := p
    cases hs : scaleOf (String.ofList suf) milli with
    | none =>
      simp only [parseQ, hm, hs] at h
      split at h <;> cases h
    | some sc =>
      rw [parseQ_complete s milli ds suf sc hm hs] at h
      obtain ⟨_, _, _, _, hpos⟩ := scaleOf_spec _ _ _ hs
      have hnn : 0 ≤ (digitsVal ds : Int) * sc := Int.mul_nonneg (Int.natCast_nonneg _) (Int.le_of_lt hpos)
      split at h
      next hle =>
        injection h with h
        subst h
        exact ⟨ds, suf, sc, rfl, hs, rfl, hnn, by unfold inR minI; omega⟩
      next => cases h

end Yk
