/- A tracker with a limit, all of whose ancestors have trackers (`Prot`; `Anchored` when the queue is below the root),
   is not removable, and increases, releases and walks that create trackers keep it: such a tree is never emptied.  The group
   accounting (UgmGroupAcct) needs it for trackers named in the configuration, the reload proofs (UgmReloadTree) for a named
   tracker that has to survive a reset. -/
import YkProofs.UgmAcct
namespace Yk.Ugm
open Yk Yk.Res

/-- the tracker carries a limit (it fails the removal test whatever it counts) -/
def limited (n : Node) : Bool := !(n.maxApps == 0 && isZero n.maxRes)

structure Prot (t : Tree) (p0 : Path) : Prop where
  node : ∃ n, aget t p0 = some n ∧ limited n = true
  pre : ∀ p ∈ prefixes p0, ahas t p = true

def Anchored (t : Tree) : Prop := ∃ p0, p0.take 1 = rootPath ∧ Prot t p0

theorem prefixesFrom_child : ∀ (rest : List String) (pre p : Path), p ∈ prefixesFrom pre rest →
    p = pre ++ rest ∨ ∃ c, p ++ [c] ∈ prefixesFrom pre rest := by
  intro rest
  induction rest with
  | nil => intro pre p h; simp [prefixesFrom] at h
  | cons c0 rest ih =>
    intro pre p h
    simp only [prefixesFrom, List.mem_cons] at h
    rcases h with h | h
    · subst h
      cases rest with
      | nil => left; rfl
      | cons c1 r2 => right; exact ⟨c1, by simp [prefixesFrom]⟩
    · rcases ih _ _ h with e | ⟨c, hc⟩
      · left; rw [e, List.append_assoc]; rfl
      · right; exact ⟨c, by simp only [prefixesFrom, List.mem_cons]; exact Or.inr hc⟩

theorem prefixes_child {p0 p : Path} (h : p ∈ prefixes p0) : p = p0 ∨ ∃ c, p ++ [c] ∈ prefixes p0 := by
  have := prefixesFrom_child p0 [] p h
  simpa [prefixes] using this

theorem hasChild_of {t : Tree} {p : Path} {c : String} (h : ahas t (p ++ [c]) = true) : hasChild t p = true := by
  rw [ahas_eq] at h
  cases hn : aget t (p ++ [c]) with
  | none => rw [hn] at h; cases h
  | some n =>
    unfold hasChild
    rw [List.any_eq_true]
    exact ⟨(p ++ [c], n), aget_mem hn, by simp⟩

theorem not_removable_of_prot {t : Tree} {p0 p : Path} (h : Prot t p0) (hp : p ∈ prefixes p0) {n : Node}
    (hn : aget t p = some n) : removable t p n = false := by
  rcases prefixes_child hp with e | ⟨c, hc⟩
  · subst e
    obtain ⟨n0, hn0, hl⟩ := h.node
    rw [hn] at hn0; cases hn0
    unfold limited at hl
    unfold removable
    cases h1 : (n.maxApps == 0) <;> cases h2 : isZero n.maxRes <;> simp_all
  · unfold removable
    rw [hasChild_of (h.pre _ hc)]; simp

theorem prot_amod {t : Tree} {p0 : Path} (h : Prot t p0) (k : Path) (f : Node → Node) (hf : ∀ n, limited (f n) = limited n) :
    Prot (amod t k f) p0 := by
  constructor
  · obtain ⟨n, hn, hl⟩ := h.node
    rw [aget_amod]
    by_cases e : k = p0
    · subst e; exact ⟨f n, by simp [hn], by rw [hf]; exact hl⟩
    · exact ⟨n, by simp [e, hn], hl⟩
  · intro p hp; exact (ahas_amod t k f p).trans (h.pre p hp)

theorem prot_adel {t : Tree} {p0 : Path} (h : Prot t p0) (h0 : p0 ≠ []) {k : Path} (hk : k ∉ prefixes p0) : Prot (adel t k) p0 := by
  constructor
  · obtain ⟨n, hn, hl⟩ := h.node
    have : k ≠ p0 := by intro e; subst e; exact hk (mem_prefixes_self h0)
    exact ⟨n, by rw [aget_adel]; simp [this, hn], hl⟩
  · intro p hp
    have hne : k ≠ p := by intro e; subst e; exact hk hp
    rw [ahas_eq, aget_adel]; simp only [hne, if_false]
    exact h.pre p hp

theorem decNode_limited (app : String) (r : Res) (rm : Bool) (n : Node) : limited (decNode app r rm n) = limited n := rfl
theorem incNode_limited (app : String) (r : Res) (n : Node) : limited (incNode app r n) = limited n := rfl

theorem decFinish_prot (app : String) (r : Res) (rm : Bool) (cur : Path) {t : Tree} {p0 : Path} (h : Prot t p0) :
    Prot (decFinish app r rm cur t).1 p0 ∧ (cur ∈ prefixes p0 → (decFinish app r rm cur t).2 = false) := by
  have hp := prot_amod h cur (decNode app r rm) (decNode_limited app r rm)
  refine ⟨hp, ?_⟩
  intro hc
  simp only [decFinish]
  cases hn : aget (amod t cur (decNode app r rm)) cur with
  | none => rfl
  | some n => exact not_removable_of_prot hp hc hn

theorem decGo_prot (app : String) (r : Res) (rm : Bool) {p0 : Path} (h0 : p0 ≠ []) : ∀ (rest : List String) (cur : Path) (t : Tree),
    Prot t p0 → Prot (decGo app r rm cur rest t).1 p0 ∧ (cur ∈ prefixes p0 → (decGo app r rm cur rest t).2 = false) := by
  intro rest
  induction rest with
  | nil => intro cur t h; exact decFinish_prot app r rm cur h
  | cons c rest ih =>
    intro cur t h
    simp only [decGo]
    split
    · obtain ⟨i1, i2⟩ := ih (cur ++ [c]) t h
      apply decFinish_prot
      split
      · rename_i hflag
        apply prot_adel i1 h0
        intro hm
        rw [i2 hm] at hflag; cases hflag
      · exact i1
    · exact ⟨h, fun _ => rfl⟩

theorem decrease_anchored {t : Tree} (h : Anchored t) (q : Path) (hq : q.take 1 = rootPath) (app : String) (r : Res) (rm : Bool) :
    Anchored (decrease t q app r rm).1 ∧ (decrease t q app r rm).2 = false := by
  obtain ⟨p0, hp0, hprot⟩ := h
  have h0 : p0 ≠ [] := by intro e; subst e; cases hp0
  obtain ⟨rest, e⟩ := decrease_of_root hq t app r rm
  rw [e]
  obtain ⟨i1, i2⟩ := decGo_prot app r rm h0 rest rootPath t hprot
  exact ⟨⟨p0, hp0, i1⟩, i2 (rootPath_mem_prefixes hp0)⟩

theorem ensurePath_anchored {t : Tree} (h : Anchored t) (w : List (Path × Limit)) (isUser : Bool) (q : Path) :
    Anchored (ensurePath w isUser t q) := by
  obtain ⟨p0, hp0, hprot⟩ := h
  refine ⟨p0, hp0, ?_, ?_⟩
  · obtain ⟨n, hn, hl⟩ := hprot.node
    exact ⟨n, by rw [aget_ensurePath, hn], hl⟩
  · intro p hp; exact ensurePath_ahas_mono w isUser t q p (hprot.pre p hp)

theorem foldl_amod_prot (f : Node → Node) (hf : ∀ n, limited (f n) = limited n) {p0 : Path} : ∀ (ps : List Path) (t : Tree),
    Prot t p0 → Prot (ps.foldl (fun t p => amod t p f) t) p0 := by
  intro ps
  induction ps with
  | nil => intro t h; exact h
  | cons a ps ih => intro t h; rw [List.foldl_cons]; exact ih _ (prot_amod h a f hf)

theorem increase_anchored {t : Tree} (h : Anchored t) (w : List (Path × Limit)) (isUser : Bool) (q : Path) (app : String) (r : Res) :
    Anchored (increase w isUser t q app r) := by
  obtain ⟨p0, hp0, hprot⟩ := ensurePath_anchored h w isUser q
  exact ⟨p0, hp0, foldl_amod_prot _ (incNode_limited app r) _ _ hprot⟩

end Yk.Ugm
