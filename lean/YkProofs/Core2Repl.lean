/-
  `replApp` (Application.ReplaceAllocation): the placeholder leaves application.allocations, the real allocation enters
  it.  Shared by the proofs about `swapConfirm` and about `nodeRemove` (a swap confirmed by the removal of the
  placeholder's node).
-/
import YkProofs.Core2Rel
namespace Yk
open Res Core

/-- what `replApp p r a` needs: `p` is a bound placeholder of `a`; `r` is a real allocation that is allocated and not yet
    bound — an item of `a`, or (its ask was dropped while the swap was in flight) unknown to `a` -/
structure ReplOK (a : CApp) (p r : CItem) : Prop where
  pIn : p ∈ a.items
  pBound : p.bound = true
  pPh : p.ph = true
  rKey : r.key ≠ p.key
  rPh : r.ph = false
  rAllocated : r.allocated = true
  rRes : wf r.res = true ∧ NonNeg r.res
  rIn : (r ∈ a.items ∧ r.bound = false) ∨ ((∀ x ∈ a.items, x.key ≠ r.key) ∧ r.inReq = false)

/-- the item list of `replApp` before a resurrected real allocation is appended -/
def replItems0 (p r : CItem) (l : List CItem) : List CItem :=
  (updItem r.key (fun x => { x with bound := true, release := none })
    (updItem p.key (fun x => { x with bound := false }) l)).filter (fun x => x.bound || x.inReq)

def replItems (p r : CItem) (l : List CItem) : List CItem :=
  if l.any (·.key == r.key) then replItems0 p r l else replItems0 p r l ++ [{ r with bound := true, release := none }]

theorem replApp_items (p r : CItem) (a : CApp) : (replApp p r a).items = replItems p r a.items := by
  unfold replApp replItems replItems0; simp
theorem replApp_queue (p r : CItem) (a : CApp) : (replApp p r a).queue = a.queue := by unfold replApp; simp
theorem replApp_id (p r : CItem) (a : CApp) : (replApp p r a).id = a.id := by unfold replApp; simp
theorem replApp_pending (p r : CItem) (a : CApp) : (replApp p r a).pending = a.pending := by unfold replApp; simp
theorem replApp_allocated (p r : CItem) (a : CApp) : (replApp p r a).allocated = addX a.allocated r.res := by
  unfold replApp; simp
theorem replApp_allocatedPh (p r : CItem) (a : CApp) : (replApp p r a).allocatedPh = prune (subX a.allocatedPh p.res) := by
  unfold replApp; simp

theorem mem_replItems0 {p r : CItem} {l : List CItem} {y : CItem} (hy : y ∈ replItems0 p r l) :
    ∃ x ∈ l, (x.key = r.key ∧ y = { x with bound := true, release := none }) ∨
      (x.key ≠ r.key ∧ x.key = p.key ∧ y = { x with bound := false }) ∨ (x.key ≠ r.key ∧ x.key ≠ p.key ∧ y = x) := by
  unfold replItems0 at hy
  obtain ⟨z, hz, ⟨hzk, rfl⟩ | ⟨hzk, rfl⟩⟩ := mem_updItem (List.mem_filter.mp hy).1
  · obtain ⟨x, hx, ⟨_, rfl⟩ | ⟨_, rfl⟩⟩ := mem_updItem hz
    · exact ⟨x, hx, Or.inl ⟨hzk, rfl⟩⟩
    · exact ⟨z, hx, Or.inl ⟨hzk, rfl⟩⟩
  · obtain ⟨x, hx, ⟨hxk, rfl⟩ | ⟨hxk, rfl⟩⟩ := mem_updItem hz
    · exact ⟨x, hx, Or.inr (Or.inl ⟨hzk, hxk, rfl⟩)⟩
    · exact ⟨y, hx, Or.inr (Or.inr ⟨hzk, hxk, rfl⟩)⟩

theorem mem_replItems_cases {p r : CItem} {l : List CItem} {y : CItem} (hy : y ∈ replItems p r l) :
    y ∈ replItems0 p r l ∨ (y = { r with bound := true, release := none } ∧ ∀ x ∈ l, x.key ≠ r.key) := by
  unfold replItems at hy
  split at hy
  · exact Or.inl hy
  · rename_i hany
    rcases List.mem_append.mp hy with h | h
    · exact Or.inl h
    · exact Or.inr ⟨List.mem_singleton.mp h, fun x hx hk => hany (List.any_eq_true.mpr ⟨x, hx, by simp [hk]⟩)⟩

theorem itemSum_replItems (a : CApp) (p r : CItem) (hwa : AppWF a) (hok : ReplOK a p r) (k : String) :
    itemSum (replItems p r a.items) (fun i => i.bound && !i.ph) k =
      itemSum a.items (fun i => i.bound && !i.ph) k + r.res.getD k ∧
    itemSum (replItems p r a.items) (fun i => i.bound && i.ph) k =
      itemSum a.items (fun i => i.bound && i.ph) k - p.res.getD k ∧
    itemSum (replItems p r a.items) (fun i => i.inReq && !i.allocated) k =
      itemSum a.items (fun i => i.inReq && !i.allocated) k := by
  have hk := hwa.itemKeys
  have hk1 := pairwise_updItem a.items p.key (fun x => { x with bound := false }) (fun _ => rfl) hk
  have hpb := hok.pBound
  have hpp := hok.pPh
  have hrp := hok.rPh
  rcases hok.rIn with ⟨hrm, hrb⟩ | ⟨hnone, hrq⟩
  · -- the real allocation is an item of the application
    have hr1 : r ∈ updItem p.key (fun x => { x with bound := false }) a.items := mem_updItem_of_ne hrm hok.rKey
    rw [replItems, if_pos (List.any_eq_true.mpr ⟨r, hrm, by simp⟩), replItems0]
    refine ⟨?_, ?_, ?_⟩
    all_goals
      rw [itemSum_filter_irrel _ _ _ _ (fun x _ hd => by simp only [Bool.or_eq_false_iff] at hd; simp [hd.1, hd.2]),
        updItem_eq, itemSum_upd _ hk1 r.key _ r hr1 rfl, updItem_eq, itemSum_upd _ hk p.key _ p hok.pIn rfl]
      simp [hpb, hpp, hrb, hrp]
  · -- its ask was dropped: it is resurrected
    have hn1 : ∀ x ∈ updItem p.key (fun x => { x with bound := false }) a.items, x.key ≠ r.key := by
      intro x hx
      obtain ⟨y, hy, h | h⟩ := mem_updItem hx
      · rw [h.2]; exact hnone y hy
      · rw [h.2]; exact hnone y hy
    rw [replItems, if_neg (by simpa using hnone), replItems0, updItem_none _ _ _ hn1]
    refine ⟨?_, ?_, ?_⟩
    all_goals
      rw [itemSum_append, itemSum_single,
        itemSum_filter_irrel _ _ _ _ (fun x _ hd => by simp only [Bool.or_eq_false_iff] at hd; simp [hd.1, hd.2]),
        updItem_eq, itemSum_upd _ hk p.key _ p hok.pIn rfl]
      simp [hpb, hpp, hrp, hrq]

theorem appBooks_replApp (a : CApp) (p r : CItem) (hba : AppBooks a) (hwa : AppWF a) (hok : ReplOK a p r) :
    AppBooks (replApp p r a) := by
  obtain ⟨hwp, hwal, hwh⟩ := hwa.appRes
  obtain ⟨hwpr, _⟩ := hwa.itemRes p hok.pIn
  refine ⟨?_, ?_, ?_⟩ <;> intro k
  · rw [replApp_items, replApp_allocated, (itemSum_replItems a p r hwa hok k).1, addX_getD _ _ hok.rRes.1, hba.allocated k]
  · rw [replApp_items, replApp_allocatedPh, (itemSum_replItems a p r hwa hok k).2.1, prune_subX_getD _ _ hwh hwpr,
      hba.allocatedPh k]
  · rw [replApp_items, replApp_pending, (itemSum_replItems a p r hwa hok k).2.2, hba.pending k]

theorem mem_replItems {p r : CItem} {l : List CItem} {y : CItem} (hy : y ∈ replItems p r l) :
    (∃ x ∈ l, y.key = x.key ∧ y.res = x.res ∧ y.allocated = x.allocated ∧
      (y.bound = true → x.bound = true ∨ x.key = r.key)) ∨
    (y = { r with bound := true, release := none } ∧ ∀ x ∈ l, x.key ≠ r.key) := by
  rcases mem_replItems_cases hy with h | h
  · obtain ⟨x, hx, ⟨hk, rfl⟩ | ⟨_, _, rfl⟩ | ⟨_, _, rfl⟩⟩ := mem_replItems0 h
    · exact Or.inl ⟨x, hx, rfl, rfl, rfl, fun _ => Or.inr hk⟩
    · exact Or.inl ⟨x, hx, rfl, rfl, rfl, fun hb => nomatch hb⟩
    · exact Or.inl ⟨y, hx, rfl, rfl, rfl, Or.inl⟩
  · exact Or.inr h

theorem pairwise_replItems0 (p r : CItem) (l : List CItem) (h : l.Pairwise (fun i j => i.key ≠ j.key)) :
    (replItems0 p r l).Pairwise (fun i j => i.key ≠ j.key) := by
  unfold replItems0
  exact (pairwise_updItem _ r.key (fun x => { x with bound := true, release := none }) (fun _ => rfl)
    (pairwise_updItem l p.key (fun x => { x with bound := false }) (fun _ => rfl) h)).filter _

theorem key_of_mem_replItems0 {p r : CItem} {l : List CItem} {y : CItem} (hy : y ∈ replItems0 p r l) :
    ∃ x ∈ l, y.key = x.key := by
  obtain ⟨x, hx, ⟨_, rfl⟩ | ⟨_, _, rfl⟩ | ⟨_, _, h⟩⟩ := mem_replItems0 hy
  · exact ⟨x, hx, rfl⟩
  · exact ⟨x, hx, rfl⟩
  · exact ⟨x, hx, congrArg CItem.key h⟩

theorem appWF_replApp (a : CApp) (p r : CItem) (hwa : AppWF a) (hok : ReplOK a p r) : AppWF (replApp p r a) := by
  obtain ⟨hwp, hwal, hwh⟩ := hwa.appRes
  refine ⟨?_, ?_, ?_, ?_⟩
  · rw [replApp_items]
    unfold replItems
    split
    · exact pairwise_replItems0 p r a.items hwa.itemKeys
    · rename_i hany
      rw [List.pairwise_append]
      refine ⟨pairwise_replItems0 p r a.items hwa.itemKeys, List.pairwise_singleton _ _, ?_⟩
      intro y hy z hz
      rw [List.mem_singleton] at hz
      subst hz
      obtain ⟨x, hx, hk⟩ := key_of_mem_replItems0 hy
      rw [hk]
      intro he
      exact hany (List.any_eq_true.mpr ⟨x, hx, by simpa using he⟩)
  · rw [replApp_pending, replApp_allocated, replApp_allocatedPh]
    exact ⟨hwp, addX_wf _ _ hwal, prune_wf _ (subX_wf _ _ hwh)⟩
  · intro y hy
    rw [replApp_items] at hy
    rcases mem_replItems hy with ⟨x, hx, _, hr, _⟩ | ⟨h, _⟩
    · rw [hr]; exact hwa.itemRes x hx
    · rw [h]; exact hok.rRes
  · intro y hy hb
    rw [replApp_items] at hy
    rcases mem_replItems hy with ⟨x, hx, _, _, hal, hbd⟩ | ⟨h, _⟩
    · rw [hal]
      rcases hbd hb with h | h
      · exact hwa.boundAllocated x hx h
      · -- the item with the key of the real allocation
        rcases hok.rIn with ⟨hrm, _⟩ | ⟨hnone, _⟩
        · have : x = r := itemKeys_eq hwa.itemKeys hx hrm h
          rw [this]; exact hok.rAllocated
        · exact absurd h (hnone x hx)
    · rw [h]; exact hok.rAllocated

theorem replItems_unbound {p r : CItem} {l : List CItem} (hk : r.key ≠ p.key) {y : CItem} (hy : y ∈ replItems p r l)
    (hyk : y.key = p.key) : y.bound = false := by
  rcases mem_replItems_cases hy with h | ⟨rfl, _⟩
  · obtain ⟨x, hx, ⟨hxk, rfl⟩ | ⟨_, _, rfl⟩ | ⟨_, hxk, rfl⟩⟩ := mem_replItems0 h
    · exact absurd (hxk.symm.trans hyk) hk
    · rfl
    · exact absurd hyk hxk
  · exact absurd hyk hk

theorem bound_replItems {a : CApp} {p r : CItem} (hk : a.items.Pairwise (fun i j => i.key ≠ j.key)) (hrepl : ReplOK a p r)
    {y : CItem} (hy : y ∈ replItems p r a.items) (hb : y.bound = true) :
    (y ∈ a.items ∧ y.key ≠ p.key) ∨ y = { r with bound := true, release := none } := by
  rcases mem_replItems_cases hy with h | ⟨rfl, _⟩
  · obtain ⟨x, hx, ⟨hxk, rfl⟩ | ⟨_, _, rfl⟩ | ⟨_, hxk, rfl⟩⟩ := mem_replItems0 h
    · -- the item with the key of the real allocation is the real allocation
      rcases hrepl.rIn with ⟨hrm, _⟩ | ⟨hnone, _⟩
      · rw [itemKeys_eq hk hx hrm hxk]; exact Or.inr rfl
      · exact absurd hxk (hnone x hx)
    · cases hb
    · exact Or.inl ⟨hx, hxk⟩
  · exact Or.inr rfl

end Yk
