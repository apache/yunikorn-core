/-
  Non-vacuity of `books_reachable`: a concrete history from the empty partition — a node registers, a gang application is
  added, asks for a placeholder (cpu 4) which is bound, asks for the real allocation (cpu 2), the scheduler starts the swap
  on the same node, the shim confirms it, the real allocation is released, the node is removed — meets every side
  condition (`RunOK`), and the states it passes through are not trivial.
-/
import YkProofs.Core2Run
import YkProofs.Core2Check
namespace Yk.Example
open Yk Yk.Res Yk.Core

def exRoot : CQueue :=
  { path := "root", parent := none, leaf := false, managed := true, max := none, guaranteed := none, allocated := [],
    pending := [], preempting := [], maxApps := 0, running := 0, allocating := [], apps := [], reserved := [] }
def exLeaf : CQueue := { exRoot with path := "root.a", parent := some "root", leaf := true }
def ex0 : Core :=
  { nodes := [], queues := [exRoot, exLeaf], apps := [], total := [], allocations := 0, phAllocations := 0,
    reservations := 0, foreign := [], users := [], groups := [] }
def exApp : CApp :=
  { id := "app", live := true, queue := "root.a", state := "New", user := "u", pending := [], allocated := [],
    allocatedPh := [], phAsk := [("cpu", 4)], items := [], reservations := [], phData := [], log := [] }

def op1 : Op := .nodeCreate "n1" [("cpu", 10)] true
def op2 : Op := .appAdd (some exApp) []
def op3 : Op := .ask "app" "p1" [("cpu", 4)] true "tg" ""
def op4 : Op := .schedAlloc "app" "p1" "n1"
def op5 : Op := .ask "app" "r1" [("cpu", 2)] false "tg" ""
def op6 : Op := .swapStart "app" "r1" "p1" "n1"
def op7 : Op := .swapConfirm "app" "p1"
def op8 : Op := .release .stopped "app" "r1"
def op9 : Op := .nodeRemove "n1" []

def s1 := op1.apply ex0
def s2 := op2.apply s1
def s3 := op3.apply s2
def s4 := op4.apply s3
def s5 := op5.apply s4
def s6 := op6.apply s5
def s7 := op7.apply s6
def s8 := op8.apply s7
def s9 := op9.apply s8

def exOps : List Op := [op1, op2, op3, op4, op5, op6, op7, op8, op9]

theorem ex0_queues {q : CQueue} (hq : q ∈ ex0.queues) : q.allocated = [] ∧ q.pending = [] := by
  simp only [ex0, List.mem_cons, List.not_mem_nil, or_false] at hq
  rcases hq with rfl | rfl <;> exact ⟨rfl, rfl⟩

theorem wf_ex0 : CoreWF ex0 := by
  refine CoreWF.of_parts List.Pairwise.nil List.Pairwise.nil (fun a ha => by cases ha) ?_ (fun n hn => by cases hn)
  intro q hq
  obtain ⟨h1, h2⟩ := ex0_queues hq
  exact ⟨by rw [h1]; rfl, by rw [h2]; rfl, by rw [h2]; intro p hp; cases hp⟩

theorem books_ex0 : Books ex0 := by
  refine ⟨fun a ha => (by cases ha), ?_, fun n hn => (by cases hn)⟩
  intro q hq
  obtain ⟨h1, h2⟩ := ex0_queues hq
  exact ⟨fun k => by rw [h1]; rfl, fun k => by rw [h2]; rfl⟩

theorem getD_single (n : String) (v : Int) (k : String) : Res.getD [(n, v)] k = if k = n then v else 0 := by
  rw [getD_cons]; simp

theorem onNode_of (s : Core) (node key : String) (n : CNode) (x : CNodeAlloc) (r : Res) (hn : s.findNode node = some n)
    (hx : x ∈ n.allocs) (hk : x.key = key) (hf : x.foreign = false) (hr : x.res = r) :
    ∃ n, s.findNode node = some n ∧ ∃ x ∈ n.allocs, x.key = key ∧ x.foreign = false ∧ ∀ k, x.res.getD k = r.getD k :=
  ⟨n, hn, x, hx, hk, hf, fun _ => by rw [hr]⟩


/-! ### the history meets every side condition, the states on the way are not trivial

  Both by evaluation (the checkers of YkProofs/Core2Check.lean for the side conditions).  `decide +kernel`: the kernel
  evaluates (`under` uses `String.startsWith`, which the elaborator's `decide` does not unfold); the proof term is
  `of_decide_eq_true rfl`, nothing is assumed.  The observations of a history stand in one conjunction with its `runOKb`:
  inside one theorem the kernel computes each state once, whereas every separate observation of `s7` or `s9` would run
  the history from `ex0` again.  So `exOps` and `exOps2` are run once here, for `runOKb` and the observations, and once
  more in YkProofs/Core2LinkExample.lean, for `runOKb2` (`exOps_ok2`, `exOps2_ok2`); `exOps3` is run three times there. -/

theorem exOps_evaluated : runOKb ex0 exOps = true ∧
    ((s4.nodes.map (·.allocated)) = [[("cpu", 4)]] ∧ s4.allocations = 1) ∧
    (s4.queues.map (·.allocated)) = [[("cpu", 4)], [("cpu", 4)]] ∧
    (s5.queues.map (·.pending)) = [[("cpu", 2)], [("cpu", 2)]] ∧
    (s6.apps.map (fun a => a.items.map (·.key)) = [["p1", "r1"]] ∧
      s6.apps.map (fun a => a.items.map (·.release)) = [[some "r1", some "p1"]] ∧
      s6.apps.map (fun a => a.items.map (·.allocated)) = [[true, true]] ∧
      s6.apps.map (fun a => a.items.map (·.bound)) = [[true, false]]) ∧
    (s7.nodes.map (·.allocated)) = [[("cpu", 2)]] ∧
    (s7.queues.map (·.allocated)) = [[("cpu", 2)], [("cpu", 2)]] ∧
    (s7.allocations = 1 ∧ s7.phAllocations = 0) ∧
    s9.nodes = [] ∧
    ((s9.queues.map (·.allocated)) = [[], []] ∧ (s9.queues.map (·.pending)) = [[], []]) ∧
    (s9.total = [] ∧ s9.allocations = 0) := by decide +kernel

theorem exOps_ok : RunOK ex0 exOps := runOKb_sound _ _ exOps_evaluated.1

theorem example_reachable : Books (run ex0 exOps) ∧ CoreWF (run ex0 exOps) :=
  books_reachable ex0 exOps wf_ex0 books_ex0 exOps_ok

/-- a history runs through the states named on the way; each `h1` below is the definition of the next state (`rfl` on
    `run ex0 exOps = s9` itself would evaluate both sides) -/
theorem _root_.Yk.run_cons_eq {s : Core} {op : Op} {l : List Op} {t : Core} (s' : Core) (h1 : op.apply s = s')
    (h2 : run s' l = t) : run s (op :: l) = t := by
  subst h1; exact h2

theorem _root_.Yk.run_nil (s : Core) : run s [] = s := rfl

theorem run_exOps : run ex0 exOps = s9 :=
  run_cons_eq s1 rfl <| run_cons_eq s2 rfl <| run_cons_eq s3 rfl <| run_cons_eq s4 rfl <| run_cons_eq s5 rfl <|
  run_cons_eq s6 rfl <| run_cons_eq s7 rfl <| run_cons_eq s8 rfl <| run_cons_eq s9 rfl <| run_nil s9

theorem s4_node : (s4.nodes.map (·.allocated)) = [[("cpu", 4)]] ∧ s4.allocations = 1 := exOps_evaluated.2.1
theorem s4_queues : (s4.queues.map (·.allocated)) = [[("cpu", 4)], [("cpu", 4)]] := exOps_evaluated.2.2.1
theorem s5_pending : (s5.queues.map (·.pending)) = [[("cpu", 2)], [("cpu", 2)]] := exOps_evaluated.2.2.2.1
/-- after the swap is started placeholder and real allocation are linked, the real one allocated but not bound -/
theorem s6_items : s6.apps.map (fun a => a.items.map (·.key)) = [["p1", "r1"]] ∧
    s6.apps.map (fun a => a.items.map (·.release)) = [[some "r1", some "p1"]] ∧
    s6.apps.map (fun a => a.items.map (·.allocated)) = [[true, true]] ∧
    s6.apps.map (fun a => a.items.map (·.bound)) = [[true, false]] := exOps_evaluated.2.2.2.2.1
/-- after the confirmed swap node and queues carry the (smaller) real allocation -/
theorem s7_node : (s7.nodes.map (·.allocated)) = [[("cpu", 2)]] := exOps_evaluated.2.2.2.2.2.1
theorem s7_queues : (s7.queues.map (·.allocated)) = [[("cpu", 2)], [("cpu", 2)]] := exOps_evaluated.2.2.2.2.2.2.1
theorem s7_counters : s7.allocations = 1 ∧ s7.phAllocations = 0 := exOps_evaluated.2.2.2.2.2.2.2.1
theorem s9_nodes : s9.nodes = [] := exOps_evaluated.2.2.2.2.2.2.2.2.1
theorem s9_queues : (s9.queues.map (·.allocated)) = [[], []] ∧ (s9.queues.map (·.pending)) = [[], []] :=
  exOps_evaluated.2.2.2.2.2.2.2.2.2.1
theorem s9_total : s9.total = [] ∧ s9.allocations = 0 := exOps_evaluated.2.2.2.2.2.2.2.2.2.2

/-! ### a second history: the node is removed while the swap is in flight (placeholder bound, real allocation parked on
  the same node) — the loop of `nodeRemove` runs the `sameNode` branch of `NodeRmOK` -/

def exOps2 : List Op := [op1, op2, op3, op4, op5, op6, .nodeRemove "n1" []]

theorem exOps2_evaluated : runOKb ex0 exOps2 = true ∧
    (run ex0 exOps2).nodes = [] ∧ ((run ex0 exOps2).queues.map (·.allocated)) = [[], []] ∧
    ((run ex0 exOps2).queues.map (·.pending)) = [[("cpu", 2)], [("cpu", 2)]] := by decide +kernel

theorem exOps2_ok : RunOK ex0 exOps2 := runOKb_sound _ _ exOps2_evaluated.1

theorem example2_reachable : Books (run ex0 exOps2) ∧ CoreWF (run ex0 exOps2) :=
  books_reachable ex0 exOps2 wf_ex0 books_ex0 exOps2_ok

/-- the placeholder is gone with its node, the real ask is outstanding again -/
theorem ex2_end : (run ex0 exOps2).nodes = [] ∧ ((run ex0 exOps2).queues.map (·.allocated)) = [[], []] ∧
    ((run ex0 exOps2).queues.map (·.pending)) = [[("cpu", 2)], [("cpu", 2)]] := exOps2_evaluated.2

end Yk.Example
