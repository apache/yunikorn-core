/-
  Node removal (partition.removeNode / removeNodeAllocations).  One round of the loop (`nodeRmAlloc`) keeps `Books` and
  `CoreWF` under the side conditions `NodeRmOK`; so do the loop, the reservation fold before it, the sweep of the
  terminated applications and dropping the node after it.  `nodeRmAlloc_elim`, `nodeRmBound_elim` and `nodeLoop_inv` take
  a round and the loop apart once, for the other invariants (links, life cycle, reservations) as well.
-/
import YkProofs.Core2Timer
namespace Yk
open Res Core

/-! ### `nodeRmBound`: a bound allocation of the doomed node leaves application and queue chain -/

theorem nodeRmQ_path_reserved (i : CItem) (q : CQueue) : (nodeRmQ i q).path = q.path ∧ (nodeRmQ i q).reserved = q.reserved :=
  decQ_path_reserved true i.res i.preempted i.res q

theorem nodeRmQ_move (i : CItem) {q : CQueue} (hq : QWF q) (hr : wf i.res = true) :
    QMove q (nodeRmQ i q) (fun k => i.res.getD k) (fun _ => 0) :=
  decQ_move true i.res i.preempted i.res hq hr (fun h => nomatch h)

/-- the application after one of its allocations left with the node: it stays in the partition during the loop -/
def nodeRmApp (key : String) (i : CItem) (a : CApp) : CApp := { relAppT .unknown key i a with live := true }

theorem nodeRmBound_elim {M : Core → Prop} (c : Core) (app key : String)
    (hskip : (∀ a i, c.findApp app = some a → a.items.find? (·.key == key) = some i → i.bound = false) → M c)
    (hrm : ∀ a i, c.findApp app = some a → a.items.find? (·.key == key) = some i → i.bound = true →
      M (nodeRmBound c app key)) : M (nodeRmBound c app key) := by
  cases hfind : c.findApp app with
  | none =>
    unfold nodeRmBound; simp only [hfind]
    exact hskip fun a i h => by rw [hfind] at h; cases h
  | some a =>
    cases hitem : a.items.find? (·.key == key) with
    | none =>
      unfold nodeRmBound; simp only [hfind, hitem]
      exact hskip fun a' i h h' => by rw [hfind] at h; cases h; rw [hitem] at h'; cases h'
    | some i =>
      cases hbd : i.bound with
      | false =>
        unfold nodeRmBound; simp only [hfind, hitem, hbd, Bool.not_false, if_true]
        exact hskip fun a' i' h h' => by rw [hfind] at h; cases h; rw [hitem] at h'; cases h'; exact hbd
      | true => exact hrm a i hfind hitem hbd

theorem nodeRmBound_of_skip {c : Core} {app key : String}
    (h : ∀ a i, c.findApp app = some a → a.items.find? (·.key == key) = some i → i.bound = false) :
    nodeRmBound c app key = c :=
  nodeRmBound_elim (M := fun t => t = c) c app key (fun _ => rfl)
    (fun a i hfind hitem hbd => by rw [h a i hfind hitem] at hbd; cases hbd)

theorem nodeRmBound_nodes (c : Core) (app key : String) : (nodeRmBound c app key).nodes = c.nodes :=
  nodeRmBound_elim (M := fun t => t.nodes = c.nodes) c app key (fun _ => rfl)
    (fun a i hfind hitem hbd => by
      unfold nodeRmBound; simp only [hfind, hitem, hbd, Bool.not_true, Bool.false_eq_true, if_false]; rfl)

theorem nodeRmApp_fields (key : String) (i : CItem) (a : CApp) :
    (nodeRmApp key i a).id = a.id ∧ (nodeRmApp key i a).queue = a.queue ∧ (nodeRmApp key i a).live = true ∧
    (nodeRmApp key i a).allocated = (if i.ph = true then a.allocated else prune (subX a.allocated i.res)) ∧
    (nodeRmApp key i a).allocatedPh = (if i.ph = true then prune (subX a.allocatedPh i.res) else a.allocatedPh) ∧
    (nodeRmApp key i a).pending = a.pending := by
  dsimp only [nodeRmApp]
  exact ⟨relAppT_id _ key i a, relAppT_queue _ key i a, rfl, relAppT_allocated _ key i a, relAppT_allocatedPh _ key i a,
    relAppT_pending _ key i a⟩

theorem shape_nodeRmBound (c : Core) (app key : String) (a : CApp) (i : CItem) (hw : CoreWF c)
    (hfind : c.findApp app = some a) (hitem : a.items.find? (·.key == key) = some i) (hbd : i.bound = true) :
    Shape c (nodeRmBound c app key) app a (nodeRmApp key i a) (onChain (pathChain c a.queue) (nodeRmQ i)) (fun n => n) := by
  obtain ⟨f1, f2, _⟩ := nodeRmApp_fields key i a
  refine Shape.of_lists' (f := fun _ => nodeRmApp key i a) hw hfind ?_ ?_ ?_ ?_ f1 f2 (fun q => (nodeRmQ_path_reserved i q).1)
  all_goals unfold nodeRmBound; simp only [hfind, hitem, hbd, Bool.not_true, Bool.false_eq_true, if_false]; rfl

theorem nodeRmBound_props (c : Core) (app key : String) (hw : CoreWF c) (hb : Books c) :
    Books (nodeRmBound c app key) ∧ CoreWF (nodeRmBound c app key) := by
  refine nodeRmBound_elim (M := fun t => Books t ∧ CoreWF t) c app key (fun _ => ⟨hb, hw⟩) ?_
  intro a i hfind hitem hbd
  obtain ⟨ham, hl, _⟩ := findApp_some hfind
  obtain ⟨him, hkey⟩ := find_key_some hitem
  have hwa := hw.app ham hl
  obtain ⟨_, hwal, hwh⟩ := hwa.appRes
  obtain ⟨hwr, _⟩ := hwa.itemRes i him
  obtain ⟨_, _, f3, f4, f5, f6⟩ := nodeRmApp_fields key i a
  refine (shape_nodeRmBound c app key a i hw hfind hitem hbd).props_move hw hb
    (fun _ => ⟨(appBooks_relAppT .unknown key i a (hb.apps a ham hl) hwa him hkey hbd).setLive true,
      (appWF_relAppT .unknown key i a hwa).setLive true⟩)
    (fun q hq _ => nodeRmQ_move i (hw.queue hq) hwr) (fun k => ?_) (fun k => ?_) (fun n hn => ⟨hw.node hn, hb.nodes n hn⟩)
  · rw [if_pos f3, f4, f5]
    cases hph : i.ph <;>
      simp only [Bool.false_eq_true, if_false, if_true, prune_subX_getD _ _ hwh hwr, prune_subX_getD _ _ hwal hwr] <;> omega
  · rw [if_pos f3, f6]
    exact (Int.sub_self _).symm

/-! ### `deallocApp` (DeallocateAsk): an allocated, unbound ask is outstanding again -/

def deallocItems (key other : String) (l : List CItem) : List CItem :=
  updItem other (fun x => { x with release := none }) (updItem key (fun x => { x with allocated := false, release := none }) l)

/-- the ask `key` is outstanding again (a change the books see), then the link of `other` is cleared (one they do not) -/
theorem app_deallocApp (key other : String) (r : CItem) (a : CApp) (hba : AppBooks a) (hwa : AppWF a)
    (hr : r ∈ a.items) (hkey : r.key = key) (hreq : r.inReq = true) (hal : r.allocated = true) (hnb : r.bound = false) :
    AppBooks (deallocApp key other r a) ∧ AppWF (deallocApp key other r a) := by
  obtain ⟨hwr, _⟩ := hwa.itemRes r hr
  have hb1 : AppBooks { a with items := updItem key (fun x => { x with allocated := false, release := none }) a.items,
                               pending := addX a.pending r.res } :=
    hba.update hwa.itemKeys hr hkey _ rfl (fun _ => (Int.sub_add_cancel _ _).symm) (fun _ => (Int.sub_add_cancel _ _).symm)
      (fun k => by
        simp only [hreq, hal, addX_getD _ _ hwr, Bool.not_true, Bool.and_false, Bool.not_false, Bool.and_true, if_true,
          Bool.false_eq_true, if_false, Int.sub_zero])
  have hw1 : AppWF { a with items := updItem key (fun x => { x with allocated := false, release := none }) a.items,
                            pending := addX a.pending r.res } := by
    refine .of_sublist (fun x => if (x.key == key) = true then { x with allocated := false, release := none } else x) hwa
      (.refl _) ⟨addX_wf _ _ hwa.appRes.1, hwa.appRes.2.1, hwa.appRes.2.2⟩ (updItem_key key _ (fun _ => rfl)) (fun x hx => ?_)
    split
    · -- `boundAllocated` survives: the item that loses `allocated` is `r`, which is not bound
      rename_i hk
      have hb : x.bound = false := by
        rw [itemKeys_eq hwa.itemKeys hx hr ((beq_iff_eq.mp hk).trans hkey.symm)]; exact hnb
      exact ⟨hwa.itemRes x hx, fun h => absurd (hb ▸ h) Bool.false_ne_true⟩
    · exact ⟨hwa.itemRes x hx, hwa.boundAllocated x hx⟩
  have hg := itemIrrel_ite (·.key == other) (fun x : CItem => { x with release := none })
    (fun _ => ⟨rfl, rfl, rfl, rfl, rfl, rfl⟩)
  constructor
  · refine appBooks_items_irrel _ hg ?_ ?_ ?_ ?_ hb1 <;> rfl
  · refine appWF_items_irrel _ hg ?_ ?_ ?_ ?_ hw1 <;> rfl

/-! ### `runAgain`: a Completing application whose ask is outstanding again runs again (state, log and timer only) -/

@[simp] theorem runAgain_items (a : CApp) : (runAgain a).items = a.items := by
  unfold runAgain; split
  · exact setState_items _ _
  · rfl
@[simp] theorem runAgain_pending (a : CApp) : (runAgain a).pending = a.pending := by
  unfold runAgain; split
  · exact setState_pending _ _
  · rfl
@[simp] theorem runAgain_allocated (a : CApp) : (runAgain a).allocated = a.allocated := by
  unfold runAgain; split
  · exact setState_allocated _ _
  · rfl
@[simp] theorem runAgain_allocatedPh (a : CApp) : (runAgain a).allocatedPh = a.allocatedPh := by
  unfold runAgain; split
  · exact setState_allocatedPh _ _
  · rfl
@[simp] theorem runAgain_live (a : CApp) : (runAgain a).live = a.live := by
  unfold runAgain; split
  · exact setState_live _ _
  · rfl
@[simp] theorem runAgain_id (a : CApp) : (runAgain a).id = a.id := by
  unfold runAgain; split
  · exact setState_id _ _
  · rfl
@[simp] theorem runAgain_queue (a : CApp) : (runAgain a).queue = a.queue := by
  unfold runAgain; split
  · exact setState_queue _ _
  · rfl
@[simp] theorem runAgain_user (a : CApp) : (runAgain a).user = a.user := by unfold runAgain setState; split <;> (try split) <;> rfl
@[simp] theorem runAgain_reservations (a : CApp) : (runAgain a).reservations = a.reservations := by
  unfold runAgain; split
  · exact setState_reservations _ _
  · rfl
@[simp] theorem runAgain_phData (a : CApp) : (runAgain a).phData = a.phData := by unfold runAgain setState; split <;> (try split) <;> rfl
@[simp] theorem runAgain_phAsk (a : CApp) : (runAgain a).phAsk = a.phAsk := by unfold runAgain setState; split <;> (try split) <;> rfl

theorem fireState_completing_run : fireState "Completing" .run = "Running" := by decide +kernel

theorem runAgain_state (a : CApp) : (runAgain a).state = if a.state = "Completing" then "Running" else a.state := by
  unfold runAgain
  by_cases h : a.state = "Completing"
  · rw [if_pos (by rw [h]; rfl), if_pos h, h, fireState_completing_run]
    unfold setState
    split
    · rename_i h'; rw [h] at h'; exact absurd h' (by decide)
    · rfl
  · rw [if_neg (by simpa using h), if_neg h]

theorem runAgain_state_ne (a : CApp) : (runAgain a).state ≠ "Completing" := by
  rw [runAgain_state]; split
  · decide
  · assumption

theorem runAgain_of_ne (a : CApp) (h : a.state ≠ "Completing") : runAgain a = a := by
  unfold runAgain; rw [if_neg (by simpa using h)]

theorem deallocAppRun_items (key other : String) (r : CItem) (a : CApp) :
    (deallocAppRun key other r a).items = deallocItems key other a.items := runAgain_items _

theorem shape_deallocAppRun (c : Core) (app key other : String) (r : CItem) (a : CApp) (hw : CoreWF c)
    (hfind : c.findApp app = some a) :
    Shape c (updQueues (updApp c app (deallocAppRun key other r)) (pathChain c a.queue) (qIncPend r.res)) app a
      (deallocAppRun key other r a) (onChain (pathChain c a.queue) (qIncPend r.res)) (fun n => n) :=
  Shape.of_lists' hw hfind rfl rfl rfl rfl (runAgain_id _) (runAgain_queue _) (fun _ => rfl)

/-- the reversal of a replacement.  `hsat`: the increased pending totals of the queues still hold int64 values (no
    saturation). -/
theorem deallocAppRun_props (c : Core) (app key other : String) (a : CApp) (r : CItem) (hw : CoreWF c) (hb : Books c)
    (hfind : c.findApp app = some a) (hr : r ∈ a.items) (hkey : r.key = key) (hreq : r.inReq = true)
    (hal : r.allocated = true) (hnb : r.bound = false)
    (hsat : ∀ q ∈ c.queues, under a.queue q.path = true → allInR (addX q.pending r.res)) :
    Books (updQueues (updApp c app (deallocAppRun key other r)) (pathChain c a.queue) (qIncPend r.res)) ∧
    CoreWF (updQueues (updApp c app (deallocAppRun key other r)) (pathChain c a.queue) (qIncPend r.res)) := by
  obtain ⟨ham, hl, _⟩ := findApp_some hfind
  have hwa := hw.app ham hl
  obtain ⟨hwr, _⟩ := hwa.itemRes r hr
  have hlv : (deallocAppRun key other r a).live = true := (runAgain_live _).trans hl
  have ea : (deallocAppRun key other r a).allocated = a.allocated := runAgain_allocated _
  have eh : (deallocAppRun key other r a).allocatedPh = a.allocatedPh := runAgain_allocatedPh _
  have ep : (deallocAppRun key other r a).pending = addX a.pending r.res := runAgain_pending _
  refine (shape_deallocAppRun c app key other r a hw hfind).props_move hw hb
    (fun _ => have h := app_deallocApp key other r a (hb.apps a ham hl) hwa hr hkey hreq hal hnb
      ⟨.congr (runAgain_items _) ea eh (runAgain_pending _) h.1, .congr (runAgain_items _) ea eh (runAgain_pending _) h.2⟩)
    (fun q hq hun => .incPend (hw.queue hq) hwr (hsat q hq hun)) (fun k => ?_) (fun k => ?_)
    (fun n hn => ⟨hw.node hn, hb.nodes n hn⟩)
  · rw [if_pos hlv, ea, eh]
    exact (Int.sub_self _).symm
  · rw [if_pos hlv, ep, addX_getD _ _ hwr]
    omega

/-! ### `unlinkApp`: only the replacement links are cleared -/

theorem shape_unlinkApp (c : Core) (app k1 k2 : String) (a : CApp) (hw : CoreWF c) (hfind : c.findApp app = some a) :
    Shape c (updApp c app (unlinkApp k1 k2)) app a (unlinkApp k1 k2 a) (fun q => q) (fun n => n) :=
  Shape.of_updApp hw hfind rfl rfl

theorem unlinkApp_props (c : Core) (app k1 k2 : String) (a : CApp) (hw : CoreWF c) (hb : Books c)
    (hfind : c.findApp app = some a) :
    Books (updApp c app (unlinkApp k1 k2)) ∧ CoreWF (updApp c app (unlinkApp k1 k2)) :=
  (shape_unlinkApp c app k1 k2 a hw hfind).props_flag hw hb qIrrel_id
    (itemIrrel_comp _ _ (itemIrrel_ite (·.key == k1) (fun y => { y with release := none }) (fun _ => ⟨rfl, rfl, rfl, rfl, rfl, rfl⟩))
      (itemIrrel_ite (·.key == k2) (fun y => { y with release := none }) (fun _ => ⟨rfl, rfl, rfl, rfl, rfl, rfl⟩)))
    (List.map_map ..) (findApp_some hfind).2.1 rfl rfl rfl

/-! ### the swap confirmed by the removal of the placeholder's node (the real half waits on another node) -/

theorem nodeConfirmQ_path_reserved (d : Res) (q : CQueue) :
    (nodeConfirmQ d q).path = q.path ∧ (nodeConfirmQ d q).reserved = q.reserved := by
  unfold nodeConfirmQ; split <;> exact ⟨rfl, rfl⟩

/-- the queue gets the (negative) difference real − placeholder; when no type is negative the two sizes are equal -/
theorem nodeConfirmQ_move (i r : CItem) {q : CQueue} (hq : QWF q) (hwi : wf i.res = true) (hwr : wf r.res = true)
    (hle : ∀ k, r.res.getD k ≤ i.res.getD k) :
    QMove q (nodeConfirmQ (subX r.res i.res) q) (fun k => i.res.getD k - r.res.getD k) (fun _ => 0) := by
  unfold nodeConfirmQ
  cases h : hasNegativeValue (some (subX r.res i.res)) with
  | true =>
    simp only [if_true]
    refine ⟨rfl, ⟨addX_wf _ _ hq.allocated, hq.pending, hq.inR⟩, fun k => ?_, fun _ => (Int.sub_zero _).symm⟩
    show (addX q.allocated (subX r.res i.res)).getD k = _
    rw [addX_getD _ _ (subX_wf _ _ hwr), subX_getD _ _ hwi]; omega
  | false =>
    simp only [Bool.false_eq_true, if_false]
    refine (QMove.refl hq).congr (fun k => ?_) (fun _ => rfl)
    have h0 := hasNeg_false_getD h k
    rw [subX_getD _ _ hwi] at h0
    have := hle k
    omega

/-- the application after the swap was confirmed inside the loop: it stays in the partition -/
def confirmApp (i r : CItem) (a : CApp) : CApp := { replApp i r a with live := true }

/-- (`dsimp` projects the record before the `replApp_*` equations are used: see `AppBooks.setLive`) -/
theorem confirmApp_fields (i r : CItem) (a : CApp) :
    (confirmApp i r a).id = a.id ∧ (confirmApp i r a).queue = a.queue ∧ (confirmApp i r a).live = true ∧
    (confirmApp i r a).items = replItems i r a.items ∧ (confirmApp i r a).allocated = addX a.allocated r.res ∧
    (confirmApp i r a).allocatedPh = prune (subX a.allocatedPh i.res) ∧ (confirmApp i r a).pending = a.pending := by
  dsimp only [confirmApp]
  exact ⟨replApp_id i r a, replApp_queue i r a, rfl, replApp_items i r a, replApp_allocated i r a, replApp_allocatedPh i r a,
    replApp_pending i r a⟩

theorem shape_confirmApp (c : Core) (app : String) (a : CApp) (i r : CItem) (hw : CoreWF c)
    (hfind : c.findApp app = some a) :
    Shape c (updQueues (updApp c app (fun _ => confirmApp i r a)) (pathChain c a.queue) (nodeConfirmQ (subX r.res i.res)))
      app a (confirmApp i r a) (onChain (pathChain c a.queue) (nodeConfirmQ (subX r.res i.res))) (fun n => n) :=
  Shape.of_lists' (f := fun _ => confirmApp i r a) hw hfind rfl rfl rfl rfl (confirmApp_fields i r a).1
    (confirmApp_fields i r a).2.1 (fun q => (nodeConfirmQ_path_reserved _ q).1)

theorem confirmApp_props (c : Core) (app : String) (a : CApp) (i r : CItem) (hw : CoreWF c) (hb : Books c)
    (hfind : c.findApp app = some a) (hok : ReplOK a i r) (hle : ∀ k, r.res.getD k ≤ i.res.getD k) :
    Books (updQueues (updApp c app (fun _ => { replApp i r a with live := true })) (pathChain c a.queue)
      (nodeConfirmQ (subX r.res i.res))) ∧
    CoreWF (updQueues (updApp c app (fun _ => { replApp i r a with live := true })) (pathChain c a.queue)
      (nodeConfirmQ (subX r.res i.res))) := by
  obtain ⟨ham, hl, _⟩ := findApp_some hfind
  have hwa := hw.app ham hl
  obtain ⟨hwi, _⟩ := hwa.itemRes i hok.pIn
  have hwr := hok.rRes.1
  obtain ⟨_, _, f3, _, f5, f6, f7⟩ := confirmApp_fields i r a
  refine (shape_confirmApp c app a i r hw hfind).props_move hw hb
    (fun _ => ⟨(appBooks_replApp a i r (hb.apps a ham hl) hwa hok).setLive true, (appWF_replApp a i r hwa hok).setLive true⟩)
    (fun q hq _ => nodeConfirmQ_move i r (hw.queue hq) hwi hwr hle) (fun k => ?_) (fun k => ?_)
    (fun n hn => ⟨hw.node hn, hb.nodes n hn⟩)
  · rw [if_pos f3, f5, f6, addX_getD _ _ hwr, prune_subX_getD _ _ hwa.appRes.2.2 hwi]
    omega
  · rw [if_pos f3, f7]
    exact (Int.sub_self _).symm

/-! ### one round of the loop of removeNodeAllocations -/

/-- a real allocation found by `findReal` that is still listed in application.requests is the application's own item
    (what is resurrected from a node's list has no request) -/
theorem findReal_inReq {c : Core} {a : CApp} {rk : String} {r : CItem} (h : findReal c a rk = some r)
    (hreq : r.inReq = true) : a.items.find? (·.key == rk) = some r := by
  unfold findReal at h
  split at h
  · rename_i r' hf; rw [hf]; exact h
  · exfalso
    obtain ⟨n, _, hn⟩ := List.exists_of_findSome?_eq_some h
    rw [Option.map_eq_some_iff] at hn
    obtain ⟨x, _, rfl⟩ := hn
    cases hreq

/-- What one round `nodeRmAlloc c nodeId app key` needs of the state, branch by branch (`i` = the item `key` of the
    application, `rk` = the far end of its replacement link). A plain allocation (`i.release = none`) needs nothing. -/
structure NodeRmOK (c : Core) (nodeId app key : String) : Prop where
  /-- a bound placeholder whose real half waits on ANOTHER node: the swap is confirmed.  `ReplOK`: what
      `Application.ReplaceAllocation` needs (the real allocation is allocated, not yet bound, not a placeholder, of
      non-negative size, another key); and the real allocation is not larger than the placeholder (the queue only
      ever gets the negative part of the difference). -/
  confirm : ∀ a i rk r, c.findApp app = some a → a.items.find? (·.key == key) = some i → i.release = some rk → i.ph = true →
    findReal c a rk = some r → r.node ≠ nodeId → i.bound = true → ReplOK a i r ∧ ∀ k, r.res.getD k ≤ i.res.getD k
  /-- a placeholder whose real half `r` is on the SAME node and still an allocated ask: the ask becomes outstanding
      again (DeallocateAsk).  `r` must not be bound (only then `boundAllocated` and the allocated totals survive), and
      the pending totals of the queue chain increased by `r.res` still hold int64 values (no saturation). -/
  sameNode : ∀ a i rk r, c.findApp app = some a → a.items.find? (·.key == key) = some i → i.release = some rk → i.ph = true →
    findReal c a rk = some r → r.node = nodeId → r.inReq = true → r.allocated = true →
    r.bound = false ∧ ∀ q ∈ c.queues, under a.queue q.path = true → allInR (addX q.pending r.res)
  /-- the real half `i` of a replacement parked on this node, still an allocated ask: it becomes outstanding again.
      It must not be bound yet, and no saturation of the pending totals of the queue chain. -/
  parked : ∀ a i rk, c.findApp app = some a → a.items.find? (·.key == key) = some i → i.release = some rk → i.ph = false →
    i.inReq = true → i.allocated = true →
    i.bound = false ∧ ∀ q ∈ c.queues, under a.queue q.path = true → allInR (addX q.pending i.res)

/-- The round first reverses what is in flight between the allocation `key`
    and the far end `rk` of its replacement link — nothing, the link is cleared (`unlinkApp`), or the allocated ask of
    the real half is outstanding again (`deallocAppRun`) — and then releases `key` like any allocation of the node
    (`nodeRmBound`); or, for a bound placeholder whose real half waits on another node, it confirms the swap.
    `M1` is what is carried to the state before `nodeRmBound` (its books and well-formedness come along), `M` what is
    shown of the result; each branch comes with the facts found on the way and what `NodeRmOK` gives for it. -/
theorem nodeRmAlloc_elim {M1 M : Core → Prop} (c : Core) (nodeId app key : String) (hw : CoreWF c) (hb : Books c)
    (hok : NodeRmOK c nodeId app key) (h0 : M1 c)
    (hunlink : ∀ a rk, c.findApp app = some a → M1 (updApp c app (unlinkApp rk key)))
    (hdealloc : ∀ a r k o, c.findApp app = some a → r ∈ a.items → r.key = k → r.inReq = true → r.allocated = true →
      r.bound = false → (∀ q ∈ c.queues, under a.queue q.path = true → allInR (addX q.pending r.res)) →
      M1 (updQueues (updApp c app (deallocAppRun k o r)) (pathChain c a.queue) (qIncPend r.res)))
    (hbound : ∀ c1, CoreWF c1 → Books c1 → M1 c1 → M (nodeRmBound c1 app key))
    (hconfirm : ∀ a i rk r, c.findApp app = some a → a.items.find? (·.key == key) = some i → i.release = some rk →
      i.ph = true → findReal c a rk = some r → r.node ≠ nodeId → i.bound = true → ReplOK a i r →
      (∀ k, r.res.getD k ≤ i.res.getD k) →
      M (updQueues (updApp c app (fun _ => confirmApp i r a)) (pathChain c a.queue) (nodeConfirmQ (subX r.res i.res)))) :
    M (nodeRmAlloc c nodeId app key) := by
  -- where the round does nothing, `nodeRmBound c app key` is `c` as well
  have hskip : (∀ a i, c.findApp app = some a → a.items.find? (·.key == key) = some i → i.bound = false) → M c :=
    fun h => nodeRmBound_of_skip h ▸ hbound c hw hb h0
  have hU : ∀ a rk, c.findApp app = some a → M (nodeRmBound (updApp c app (unlinkApp rk key)) app key) := fun a rk hfind =>
    hbound _ (unlinkApp_props c app rk key a hw hb hfind).2 (unlinkApp_props c app rk key a hw hb hfind).1 (hunlink a rk hfind)
  cases hfind : c.findApp app with
  | none =>
    unfold nodeRmAlloc; simp only [hfind]
    exact hskip fun a i h => by rw [hfind] at h; cases h
  | some a =>
    cases hitem : a.items.find? (·.key == key) with
    | none =>
      unfold nodeRmAlloc; simp only [hfind, hitem]
      exact hskip fun a' i h h' => by rw [hfind] at h; cases h; rw [hitem] at h'; cases h'
    | some i =>
      obtain ⟨him, hkey⟩ := find_key_some hitem
      cases hrel : i.release with
      | none => unfold nodeRmAlloc; simp only [hfind, hitem, hrel]; exact hbound c hw hb h0
      | some rk =>
        cases hph : i.ph with
        | true =>
          cases hreal : findReal c a rk with
          | none =>
            unfold nodeRmAlloc; simp only [hfind, hitem, hrel, hph, if_true, hreal]
            exact hU a rk hfind
          | some r =>
            cases hnode : (r.node != nodeId) with
            | true =>
              unfold nodeRmAlloc; simp only [hfind, hitem, hrel, hph, if_true, hreal, hnode]
              cases hbd : i.bound with
              | false =>
                simp only [Bool.not_false, if_true]
                exact hskip fun a' i' h h' => by rw [hfind] at h; cases h; rw [hitem] at h'; cases h'; exact hbd
              | true =>
                simp only [Bool.not_true, Bool.false_eq_true, if_false]
                have hne : r.node ≠ nodeId := by simpa using hnode
                obtain ⟨hrepl, hle⟩ := hok.confirm a i rk r hfind hitem hrel hph hreal hne hbd
                exact hconfirm a i rk r hfind hitem hrel hph hreal hne hbd hrepl hle
            | false =>
              unfold nodeRmAlloc
              simp only [hfind, hitem, hrel, hph, if_true, hreal, hnode, Bool.false_eq_true, if_false]
              cases hc : (r.inReq && r.allocated) with
              | true =>
                simp only [if_true]
                simp only [Bool.and_eq_true] at hc
                obtain ⟨hrm, hrk⟩ := find_key_some (findReal_inReq hreal hc.1)
                obtain ⟨hnb, hsat⟩ := hok.sameNode a i rk r hfind hitem hrel hph hreal (by simpa using hnode) hc.1 hc.2
                obtain ⟨hb1, hw1⟩ := deallocAppRun_props c app rk key a r hw hb hfind hrm hrk hc.1 hc.2 hnb hsat
                exact hbound _ hw1 hb1 (hdealloc a r rk key hfind hrm hrk hc.1 hc.2 hnb hsat)
              | false => simp only [Bool.false_eq_true, if_false]; exact hU a rk hfind
        | false =>
          unfold nodeRmAlloc; simp only [hfind, hitem, hrel, hph, Bool.false_eq_true, if_false]
          cases hc : (i.inReq && i.allocated) with
          | true =>
            simp only [if_true]
            simp only [Bool.and_eq_true] at hc
            obtain ⟨hnb, hsat⟩ := hok.parked a i rk hfind hitem hrel hph hc.1 hc.2
            obtain ⟨hb1, hw1⟩ := deallocAppRun_props c app key rk a i hw hb hfind him hkey hc.1 hc.2 hnb hsat
            exact hbound _ hw1 hb1 (hdealloc a i key rk hfind him hkey hc.1 hc.2 hnb hsat)
          | false => simp only [Bool.false_eq_true, if_false]; exact hU a rk hfind

theorem nodeRmAlloc_props (c : Core) (nodeId app key : String) (hw : CoreWF c) (hb : Books c)
    (hok : NodeRmOK c nodeId app key) :
    Books (nodeRmAlloc c nodeId app key) ∧ CoreWF (nodeRmAlloc c nodeId app key) :=
  nodeRmAlloc_elim (M1 := fun _ => True) (M := fun t => Books t ∧ CoreWF t) c nodeId app key hw hb hok trivial
    (fun _ _ _ => trivial) (fun _ _ _ _ _ _ _ _ _ _ _ => trivial) (fun c1 hw1 hb1 _ => nodeRmBound_props c1 app key hw1 hb1)
    (fun a i _ r hfind _ _ _ _ _ _ hrepl hle => confirmApp_props c app a i r hw hb hfind hrepl hle)

theorem nodeRmAlloc_nodes (c : Core) (nodeId app key : String) (hw : CoreWF c) (hb : Books c)
    (hok : NodeRmOK c nodeId app key) : (nodeRmAlloc c nodeId app key).nodes = c.nodes :=
  nodeRmAlloc_elim (M1 := fun t => t.nodes = c.nodes) (M := fun t => t.nodes = c.nodes) c nodeId app key hw hb hok rfl
    (fun _ _ _ => rfl) (fun _ _ _ _ _ _ _ _ _ _ _ => rfl) (fun c1 _ _ h => (nodeRmBound_nodes c1 app key).trans h)
    (fun _ _ _ _ _ _ _ _ _ _ _ _ _ => rfl)

/-! ### the loop over the allocations of the node -/

/-- every round finds its side conditions in the state the previous rounds left -/
def NodeLoopOK (nodeId : String) : Core → List (String × String) → Prop
  | _, [] => True
  | c, p :: t => NodeRmOK c nodeId p.1 p.2 ∧ NodeLoopOK nodeId (nodeRmAlloc c nodeId p.1 p.2) t

/-- The loop of removeNodeAllocations for an invariant `J` of the rounds, which may speak about the allocations the loop
    still has to process. -/
theorem nodeLoop_inv {J : List (String × String) → Core → Prop} (nodeId : String)
    (hstep : ∀ p t c, CoreWF c → Books c → NodeRmOK c nodeId p.1 p.2 → J (p :: t) c → J t (nodeRmAlloc c nodeId p.1 p.2))
    (l : List (String × String)) (c : Core) (hw : CoreWF c) (hb : Books c) (hok : NodeLoopOK nodeId c l) (h : J l c) :
    Books (l.foldl (fun c p => nodeRmAlloc c nodeId p.1 p.2) c) ∧
    CoreWF (l.foldl (fun c p => nodeRmAlloc c nodeId p.1 p.2) c) ∧
    J [] (l.foldl (fun c p => nodeRmAlloc c nodeId p.1 p.2) c) := by
  have := foldl_inv (J := fun l c => Books c ∧ CoreWF c ∧ NodeLoopOK nodeId c l ∧ J l c) _
    (fun p t c ⟨hb, hw, hok, h⟩ =>
      let ⟨hb1, hw1⟩ := nodeRmAlloc_props c nodeId p.1 p.2 hw hb hok.1
      ⟨hb1, hw1, hok.2, hstep p t c hw hb hok.1 h⟩) l c ⟨hb, hw, hok, h⟩
  exact ⟨this.1, this.2.1, this.2.2.2⟩

theorem nodeLoop_props (nodeId : String) (l : List (String × String)) (c : Core) (hw : CoreWF c) (hb : Books c)
    (hok : NodeLoopOK nodeId c l) :
    Books (l.foldl (fun c p => nodeRmAlloc c nodeId p.1 p.2) c) ∧
    CoreWF (l.foldl (fun c p => nodeRmAlloc c nodeId p.1 p.2) c) ∧
    (l.foldl (fun c p => nodeRmAlloc c nodeId p.1 p.2) c).nodes = c.nodes :=
  nodeLoop_inv (J := fun _ t => t.nodes = c.nodes) nodeId
    (fun p _ c1 hw1 hb1 h1 h => (nodeRmAlloc_nodes c1 nodeId p.1 p.2 hw1 hb1 h1).trans h) l c hw hb hok rfl

/-! ### the reservations on the node: not in the books -/

theorem unreserveOn_cases (c : Core) (id k : String) :
    (c.liveApps.find? (fun a => a.reservations.contains (k, id)) = none ∧ unreserveOn c id k = c) ∨
    ∃ a, c.liveApps.find? (fun a => a.reservations.contains (k, id)) = some a ∧ unreserveOn c id k =
      { c with apps := updApps c.apps a.id (fun x => { x with reservations := x.reservations.filter (· != (k, id)) }),
               queues := c.queues.map (fun q => if (q.path == a.queue) = true then
                 { q with reserved := q.reserved.filterMap (fun e =>
                     if e.1 == a.id then (if e.2 ≤ 1 then none else some (e.1, e.2 - 1)) else some e) } else q),
               reservations := c.reservations - 1 } := by
  unfold unreserveOn
  cases c.liveApps.find? (fun a => a.reservations.contains (k, id)) with
  | none => exact Or.inl ⟨rfl, rfl⟩
  | some a => exact Or.inr ⟨a, rfl, rfl⟩

theorem unreserveOn_nodes (c : Core) (id k : String) : (unreserveOn c id k).nodes = c.nodes := by
  rcases unreserveOn_cases c id k with ⟨_, h⟩ | ⟨a, _, h⟩ <;> rw [h]

theorem unreserveOn_props (c : Core) (id k : String) (hw : CoreWF c) (hb : Books c) :
    Books (unreserveOn c id k) ∧ CoreWF (unreserveOn c id k) := by
  rcases unreserveOn_cases c id k with ⟨_, h⟩ | ⟨a, _, h⟩
  · rw [h]; exact ⟨hb, hw⟩
  · rw [h]
    refine irrel_props (s := c) (appIrrel_upd a.id _ ?_) ?_ nodeIrrel_id rfl rfl (List.map_id' _).symm hw hb
    · exact fun _ => ⟨rfl, rfl, rfl, rfl, rfl, rfl, rfl⟩
    · exact qIrrel_ite _ _ (fun _ => ⟨rfl, rfl, rfl⟩)

theorem unreserveFold_props (id : String) (l : List String) (c : Core) (hw : CoreWF c) (hb : Books c) :
    Books (l.foldl (fun c k => unreserveOn c id k) c) ∧ CoreWF (l.foldl (fun c k => unreserveOn c id k) c) ∧
    (l.foldl (fun c k => unreserveOn c id k) c).nodes = c.nodes :=
  foldl_inv (J := fun _ t => Books t ∧ CoreWF t ∧ t.nodes = c.nodes) _
    (fun k _ t h => ⟨(unreserveOn_props t id k h.2.1 h.1).1, (unreserveOn_props t id k h.2.1 h.1).2,
      (unreserveOn_nodes t id k).trans h.2.2⟩) l c ⟨hb, hw, rfl⟩

theorem dropNode_props (c : Core) (id : String) (cap : Res) (hw : CoreWF c) (hb : Books c) :
    Books (setRootMax { c with nodes := c.nodes.filter (·.id != id), total := prune (subX c.total cap) }
      (prune (subX c.total cap))) ∧
    CoreWF (setRootMax { c with nodes := c.nodes.filter (·.id != id), total := prune (subX c.total cap) }
      (prune (subX c.total cap))) := by
  have hw0 : CoreWF { c with nodes := c.nodes.filter (·.id != id), total := prune (subX c.total cap) } :=
    CoreWF.of_parts hw.appIds (hw.nodeIds.filter _) (fun a ha hl => hw.app ha hl) (fun q hq => hw.queue hq)
      (fun n hn => hw.node (List.mem_filter.mp hn).1)
  have hb0 : Books { c with nodes := c.nodes.filter (·.id != id), total := prune (subX c.total cap) } :=
    ⟨hb.apps, hb.queues, fun n hn => hb.nodes n (List.mem_filter.mp hn).1⟩
  exact ⟨books_setRootMax _ _ hb0, wf_setRootMax _ _ hw0⟩

/-! ### `nodeRemove` -/

/-- the allocations of the node the implementation did not announce, in the order of the dump -/
def nodeRest (n : CNode) (order : List (String × String)) : List (String × String) :=
  ((n.allocs.filter (!·.foreign)).map (fun na => (na.app, na.key))).filter (fun p => !(order.contains p))

/-- The side condition of a node removal: every round of the loop over the node's allocations meets `NodeRmOK` in the
    state it is applied to (`NodeLoopOK`): a swap that the removal confirms is a proper swap (`ReplOK`, real not larger
    than the placeholder), a reversed replacement does not saturate the pending totals that grow again. -/
def NodeRemoveOK (s : Core) (id : String) (order : List (String × String)) : Prop :=
  ∀ n, s.findNode id = some n →
    NodeLoopOK id (n.reservations.foldl (fun c k => unreserveOn c id k) s) (order ++ nodeRest n order)

theorem nodeRemove_props (s : Core) (id : String) (order : List (String × String)) (hw : CoreWF s) (hb : Books s)
    (hok : NodeRemoveOK s id order) : Books (s.nodeRemove id order) ∧ CoreWF (s.nodeRemove id order) := by
  unfold nodeRemove
  split
  · exact ⟨hb, hw⟩
  · rename_i n hn
    obtain ⟨hb0, hw0, _⟩ := unreserveFold_props id n.reservations s hw hb
    obtain ⟨hb1, hw1, _⟩ := nodeLoop_props id _ _ hw0 hb0 (hok n hn)
    obtain ⟨hb2, hw2⟩ := sweepTerminated_props _ hw1 hb1
    exact dropNode_props _ id n.total hw2 hb2

end Yk
