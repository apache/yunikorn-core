/-
  Histories of the stepped Core model (`Op`, `Op.apply`, `run`: YkModel/CoreRun.lean): the side condition `Op.ok` of one
  step (what the per-operation theorems need beyond `CoreWF ∧ Books` of the state), and `books_reachable`.
  A new constructor of `Op` gets a case in `Op.ok` / `step_props` (here), `Op.ok2` / `ok_of_ok2` / `step_linked`
  (Core2LinkRun.lean), `Op.okb` / `okb_sound` (Core2Check.lean), `Op.okb2` / `okb2_sound` (Core2LinkCheck.lean), `Op.okLife` /
  `step_life_nopend` (Core2LifeRun.lean), `Op.okRes` / `step_res` (Core2Res.lean, Core2ResRun.lean), `stepOps` of
  YkDrv/CoreStep.lean, `opName` of tools/okstat.lean; `ok_of_ok2` and the two `_sound` end in a wildcard that fits `True` or
  an unchanged condition only.  A piece that rewrites one application record gets a `shape_` lemma and goes through the
  `Shape` frames; states that are not `CoreWF` (the replay of Recover.lean) go through `books_move` (Core.lean).
-/
import YkModel.CoreRun
import YkProofs.Core2Ops
import YkProofs.Core2Swap
import YkProofs.Core2Timer
import YkProofs.Core2App
import YkProofs.Core2Node
import YkProofs.Core2Resv
namespace Yk
open Res Core

/-- the node `node` does not list an allocation with key `key` yet (node.allocations is a Go map) -/
def FreshOnNode (s : Core) (node key : String) : Prop :=
  ∀ n, s.findNode node = some n → ∀ x ∈ n.allocs, x.key ≠ key

/-- The side condition of one step.  None of them restates a conclusion: they say that the request is well-formed
    (`wf`), that a key is new in a Go map, that the allocations an operation releases are listed by their nodes with the
    size the application books (`ReleaseOK`, `AppOnNodes`, `SwapOK.rel`), that a confirmed replacement is not larger than
    its placeholder (`SwapOK.notLarger`, the guard of tryPlaceholderAllocate), and that no int64 saturation occurs where a
    pending total grows (`AskOK.noSat`, `NodeRmOK`). -/
def Op.ok (s : Core) : Op → Prop
  | .nodeCreate _ cap _ => wf cap = true
  | .nodeUpdate _ cap => wf cap = true
  | .nodeSchedulable _ _ => True
  | .nodeRemove id order => NodeRemoveOK s id order
  | .foreignAdd key node res => wf res = true ∧ FreshOnNode s node key
  | .foreignRemove _ => True
  | .appAdd _ nq => FreshQueuesOK s nq
  | .appRemove app => AppOnNodes s app
  | .ask app key res _ _ _ => AskOK s app key res
  | .schedAlloc _ key node => FreshOnNode s node key
  | .swapStart _ realKey _ node => FreshOnNode s node realKey
  | .swapConfirm app phKey => SwapOK s app phKey
  | .releaseKey app key => ReleaseOK s app key
  | .release _ app key => ReleaseOK s app key
  | .releaseApp _ app => AppOnNodes s app
  | .markReleased _ _ _ => True
  | .phTimeout _ _ => True
  | .stateTimeout _ => True
  | .cleanup => True
  | .reserve _ _ _ => True
  | .unreserve _ _ _ => True

/-- an operation that may refuse (`schedAlloc`, `swapStart`): the state stays, or is the one it returns -/
theorem getD_keeps {α : Type} {P : α → Prop} {o : Option α} {s : α} (hs : P s) (h : ∀ s', o = some s' → P s') :
    P (o.getD s) := by
  cases o with
  | none => exact hs
  | some s' => exact h s' rfl

theorem step_props (s : Core) (op : Op) (hw : CoreWF s) (hb : Books s) (hok : op.ok s) :
    Books (op.apply s) ∧ CoreWF (op.apply s) := by
  cases op with
  | nodeCreate id cap b => exact ⟨books_nodeCreate s id cap b hb, wf_nodeCreate s id cap b hw hok⟩
  | nodeUpdate id cap => exact ⟨books_nodeUpdate s id cap hw hok hb, wf_nodeUpdate s id cap hw hok⟩
  | nodeSchedulable id b => exact ⟨books_nodeSchedulable s id b hb, wf_nodeSchedulable s id b hw⟩
  | nodeRemove id order => exact nodeRemove_props s id order hw hb hok
  | foreignAdd key node res => exact ⟨books_foreignAdd s key node res hw hok.1 hb, wf_foreignAdd s key node res hw hok.1 hok.2⟩
  | foreignRemove key => exact ⟨books_foreignRemove s key hw hb, wf_foreignRemove s key hw⟩
  | appAdd a nq => exact appAdd_props s a nq hw hb hok
  | appRemove app => exact appRemove_props s app hw hb hok
  | ask app key res ph tg reqNode =>
    exact ⟨books_ask s app key res ph tg reqNode hw hok.resWf hb, wf_ask s app key res ph tg reqNode hw hok⟩
  | schedAlloc app key node =>
    exact getD_keeps (P := fun t => Books t ∧ CoreWF t) ⟨hb, hw⟩
      (fun s' h => ⟨books_schedAlloc s s' app key node hw hb h, wf_schedAlloc s s' app key node hw hok h⟩)
  | swapStart app realKey phKey node =>
    exact getD_keeps (P := fun t => Books t ∧ CoreWF t) ⟨hb, hw⟩
      (fun s' h => swapStart_props s s' app realKey phKey node hw hb h hok)
  | swapConfirm app phKey => exact swapConfirm_props s app phKey hw hb hok
  | releaseKey app key => exact ⟨books_releaseKey s app key hw hb hok, wf_releaseKey s app key hw⟩
  | release tt app key => exact releaseKeyT_props s tt app key hw hb hok
  | releaseApp tt app => exact releaseApp_props s tt app hw hb hok
  | markReleased app key p => exact markReleased_props s app key p hw hb
  | phTimeout app ev => exact phTimeout_props s app ev hw hb
  | stateTimeout app => exact stateTimeout_props s app hw hb
  | cleanup => exact cleanup_props s hw hb
  | reserve app key node => exact reserve_props s app key node hw hb
  | unreserve app key node => exact unreserve_props s app key node hw hb

def RunOK : Core → List Op → Prop
  | _, [] => True
  | s, op :: t => op.ok s ∧ RunOK (op.apply s) t

/-- C03: `Books` (and `CoreWF`) hold along every history of the stepped model whose steps meet their side conditions in
    the state they are applied to. -/
theorem books_reachable (s : Core) (ops : List Op) (hw : CoreWF s) (hb : Books s) (hok : RunOK s ops) :
    Books (run s ops) ∧ CoreWF (run s ops) := by
  induction ops generalizing s with
  | nil => exact ⟨hb, hw⟩
  | cons op t ih =>
    obtain ⟨h1, h2⟩ := hok
    obtain ⟨hb', hw'⟩ := step_props s op hw hb h1
    exact ih (op.apply s) hw' hb' h2

end Yk
