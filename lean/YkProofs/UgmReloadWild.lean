/- Reload, the wildcard phases (clearEarlierSetUserWildCardLimits, applyWildCardUserLimits) on the user trackers, and the
   statement: under the hypotheses, the limits in force after UpdateConfig are those of the new configuration, and the
   trackers are in step with it again (so the statement chains over further reloads).  The first load is the reload of
   the empty manager (`reload_tail` at `synced_empty`). -/
import YkProofs.UgmReloadNamed
namespace Yk.Ugm
open Yk Yk.Res

/-! ### clearEarlierSetUserWildCardLimits -/

/-- `done`: the queues of the old wildcard configuration handled so far -/
structure Side3 (w : List (Path × Limit)) (n : NewCfg) (T : String → Option Tree) (done : List Path) : Prop where
  nd : ∀ x t, T x = some t → KeysNodup t
  allow : ∀ x t, T x = some t →
    QA t (fun p τ => (aget2 n.userLimits p x).isSome = true ∨ τ = dflt ∨ WildT w p τ ∨ WildT n.userWild p τ)
  exact : ∀ x p lc, aget2 n.userLimits p x = some lc → ∃ t nd, T x = some t ∧ aget t p = some nd ∧ triple nd = t3 lc ∧ ∀ p' ∈ prefixes p, ahas t p' = true
  cleared : ∀ x t, T x = some t → ∀ p ∈ done, aget n.userWild p = none → aget2 n.userLimits p x = none → ∃ nd, aget t p = some nd ∧ nd.wild = false
  ne : ∀ x t, T x = some t → ahas t [] = false

section
variable {w : List (Path × Limit)} {n : NewCfg} {T T' : String → Option Tree} {done : List Path}

def WildOr (w : List (Path × Limit)) (n : NewCfg) (_ : String) (p : Path) (τ : Triple) : Prop :=
  τ = dflt ∨ WildT w p τ ∨ WildT n.userWild p τ

theorem Side3.trackers (h : Side3 w n T done) : Trackers (WildOr w n) (fun x p => aget2 n.userLimits p x) T :=
  Trackers.of_clauses h.nd h.allow h.exact h.ne

theorem Side3.of_trackers (h : Trackers (WildOr w n) (fun x p => aget2 n.userLimits p x) T)
    (hcl : ∀ x t, T x = some t → ∀ p ∈ done, aget n.userWild p = none → aget2 n.userLimits p x = none →
      ∃ nd, aget t p = some nd ∧ nd.wild = false) : Side3 w n T done :=
  ⟨fun x t hT => (h.inv x t hT).nd, fun x t hT => (h.inv x t hT).allow, h.exact, hcl, fun x t hT => (h.inv x t hT).ne⟩

theorem Side3.map (h : Side3 w n T done) {f : String → Tree → Tree} {done' : List Path}
    (hinv : ∀ x t, T x = some t → TreeInv (WildOr w n x) (fun p => aget2 n.userLimits p x) (f x t))
    (hcl : ∀ x t, T x = some t → ∀ p ∈ done', aget n.userWild p = none → aget2 n.userLimits p x = none →
      ∃ nd, aget (f x t) p = some nd ∧ nd.wild = false) :
    Side3 w n (fun x => (T x).map (f x)) done' := by
  refine Side3.of_trackers (h.trackers.map hinv) (fun x t' ht' => ?_)
  obtain ⟨t, hT, e⟩ := Option.map_eq_some_iff.mp ht'
  rw [← e]; exact hcl x t hT

theorem Side3_congr (h : Side3 w n T done) (e : ∀ x, T' x = T x) : Side3 w n T' done := (funext e : T' = T) ▸ h

theorem Side3_init {L1 : List (Path × List (String × Limit))} (h : Side2 w true L1 n.userLimits T []) : Side3 w n T [] := by
  refine Side3.of_trackers ⟨fun x t hT => (h.inv x t hT).mono (fun p τ hs => Or.inr ?_), h.has⟩ (fun x t _ p hp => (by cases hp))
  rcases hs with h1 | h1 | ⟨_, h2⟩
  · exact Or.inl h1
  · exact Or.inr (Or.inl h1)
  · cases h2

theorem wildNew_allowed (w : List (Path × Limit)) (n : NewCfg) (x : String) (p : Path) :
    WildOr w n x p (wildNew n p) := by
  unfold wildNew
  cases h : aget n.userWild p with
  | none => exact Or.inl rfl
  | some nl => exact Or.inr (Or.inr ⟨nl, h, rfl⟩)

/-- one queue of the old wildcard configuration: when it loses its wildcard limit, the queue is cleared (`h17`) -/
theorem Side3_step {L1 : List (Path × List (String × Limit))} (h : Side3 w n T done) (e : Path × Limit) (he : e.1 ≠ [])
    (h17 : aget n.userWild e.1 = none → (!ahas L1 e.1 || !ahas n.userLimits e.1) = true) :
    Side3 w n (fun x => (T x).map (wildTree w L1 n e x)) (done ++ [e.1]) := by
  apply h.map
  · intro x t hT
    unfold wildTree
    split
    · exact (h.trackers.inv x t hT).setLimit w true _ _ _ (Or.inl rfl) (fun p τ _ hs => hs) (fun p _ => newNode_triple w true p _) (wildNew_allowed w n x e.1)
    · exact h.trackers.inv x t hT
  · intro x t hT p hp hw2 hn2
    rcases List.mem_append.mp hp with hp | ep
    · obtain ⟨nd, hnd, hwf⟩ := h.cleared x t hT p hp hw2 hn2
      refine ⟨nd, ?_, hwf⟩
      unfold wildTree
      split
      · exact aget_setLimit_check_keep hnd hwf
      · exact hnd
    · -- the queue of this step: no new wildcard limit, the user is not named in the new configuration: the clear branch runs
      cases List.mem_singleton.mp ep
      have hfire : wildTree w L1 n e x t = setLimit w true t e.1 none 0 false true := by
        unfold wildTree wildFires wildNew
        rw [hw2, h17 hw2, hn2]; rfl
      rw [hfire]
      obtain ⟨nd, hnd, hc⟩ := aget_setLimit_self t w true he none 0 false true
      exact ⟨nd, hnd, hc.elim (fun hc => (Prod.mk.inj (Prod.mk.inj hc).2).2) And.right⟩

end

theorem phase3 (n : NewCfg) (m : Mgr) (h : Side3 m.userWild n (utree m) []) (hne : ∀ e ∈ m.userWild, e.1 ≠ [])
    (h17 : ∀ e ∈ m.userWild, aget n.userWild e.1 = none → (!ahas m.userLimits e.1 || !ahas n.userLimits e.1) = true) :
    (m.userWild.foldl (wildStep n) m).userWild = m.userWild ∧ (m.userWild.foldl (wildStep n) m).groups = m.groups ∧
    Side3 m.userWild n (utree (m.userWild.foldl (wildStep n) m)) (m.userWild.map (·.1)) := by
  refine foldl_inv_parts (wildStep n) m.userWild (fun done _ m' => m'.userWild = m.userWild ∧ m'.groups = m.groups ∧
    m'.userLimits = m.userLimits ∧ Side3 m.userWild n (utree m') (done.map (·.1))) m ⟨rfl, rfl, rfl, h⟩ ?_ |>.imp_right
      (fun h' => ⟨h'.1, h'.2.2⟩)
  intro done e rest m' hl ⟨w, g, l, s3⟩
  have he : e ∈ m.userWild := by rw [← hl]; simp
  obtain ⟨c1, c2, c3⟩ := wildStep_frame n m' e
  refine ⟨c1.trans w, c3.trans g, c2.trans l, ?_⟩
  rw [List.map_append]
  refine Side3_congr (Side3_step (L1 := m.userLimits) s3 e (hne e he) (h17 e he)) (fun x => ?_)
  rw [utree_wildStep, w, l]

/-! ### applyWildCardUserLimits -/

/-- `done`: the entries of the new wildcard configuration applied so far -/
structure Side4 (w : List (Path × Limit)) (n : NewCfg) (T : String → Option Tree) (cl : List Path) (done : List (Path × Limit)) : Prop where
  s3 : Side3 w n T cl
  applied : ∀ x t, T x = some t → ∀ e ∈ done, aget2 n.userLimits e.1 x = none → ∃ nd, aget t e.1 = some nd ∧ triple nd = t3w e.2

theorem Side4_step {w : List (Path × Limit)} {n : NewCfg} {T : String → Option Tree} {cl : List Path} {done : List (Path × Limit)}
    (h : Side4 w n T cl done) {e : Path × Limit} (he : e.1 ≠ []) (hew : aget n.userWild e.1 = some e.2)
    (hdone : ∀ e' ∈ done, e.1 ≠ e'.1) :
    Side4 w n (fun x => (T x).map (fun t =>
      if (aget2 n.userLimits e.1 x).isSome then t else setLimit w true t e.1 e.2.maxRes e.2.maxApps true false)) cl (done ++ [e]) := by
  constructor
  · apply h.s3.map
    · intro x t hT
      split
      · exact h.s3.trackers.inv x t hT
      · rename_i hs
        exact (h.s3.trackers.inv x t hT).setLimit w true _ _ _ (ck := false) (Or.inr (by simpa using hs)) (fun p τ _ hs => hs)
          (fun p _ => newNode_triple w true p _) (Or.inr (Or.inr ⟨e.2, hew, rfl⟩))
    · intro x t hT p hp hw2 hn2
      obtain ⟨nd, hnd, hwf⟩ := h.s3.cleared x t hT p hp hw2 hn2
      have ep : e.1 ≠ p := by intro x'; rw [x', hw2] at hew; cases hew
      split
      · exact ⟨nd, hnd, hwf⟩
      · exact ⟨nd, aget_setLimit_other ep hnd, hwf⟩
  · intro x t' ht' e' he' hn2
    obtain ⟨t, hT, et⟩ := Option.map_eq_some_iff.mp ht'
    rw [← et]
    rcases List.mem_append.mp he' with he' | he'
    · obtain ⟨nd, hnd, htn⟩ := h.applied x t hT e' he' hn2
      split
      · exact ⟨nd, hnd, htn⟩
      · exact ⟨nd, aget_setLimit_other (hdone e' he') hnd, htn⟩
    · cases List.mem_singleton.mp he'
      rw [hn2]
      obtain ⟨nd, hnd, ht⟩ := aget_setLimit_self t w true he e.2.maxRes e.2.maxApps true false
      exact ⟨nd, hnd, ht.resolve_right (fun h => nomatch h.1)⟩

/-- applyWildCardUserLimits on the manager: the keys of the new wildcard configuration are distinct, so every entry is
    found by lookup and differs from the entries before it -/
theorem phase4 (n : NewCfg) (hk : (akeys n.userWild).Nodup) (m : Mgr) (cl : List Path) (h : Side3 m.userWild n (utree m) cl)
    (hne : ∀ e ∈ n.userWild, e.1 ≠ []) :
    (n.userWild.foldl (wildStepFn n) m).userWild = m.userWild ∧ (n.userWild.foldl (wildStepFn n) m).groups = m.groups ∧
    Side4 m.userWild n (utree (n.userWild.foldl (wildStepFn n) m)) cl n.userWild := by
  refine foldl_inv_parts (wildStepFn n) n.userWild (fun done _ m' => m'.userWild = m.userWild ∧ m'.groups = m.groups ∧
    Side4 m.userWild n (utree m') cl done) m ⟨rfl, rfl, h, fun x t _ e he => (by cases he)⟩ ?_
  intro done e rest m' hl ⟨w, g, s4⟩
  have hew : aget n.userWild e.1 = some e.2 := aget_of_mem_akeys_nodup hk (by rw [← hl]; simp)
  have hdone : ∀ e' ∈ done, e.1 ≠ e'.1 := by
    intro e' he' x'
    unfold akeys at hk
    rw [← hl, List.map_append, List.map_cons] at hk
    exact (List.nodup_append.mp hk).2.2 e'.1 (List.mem_map_of_mem (f := Prod.fst) he') e.1 (by simp) x'.symm
  refine ⟨w, g, ?_⟩
  rw [funext (utree_wildStepFn n m' e), w]
  exact Side4_step s4 (hne e (by rw [← hl]; simp)) hew hdone

/-! ### the limits when the reload is over -/

def finalT (L : List (Path × List (String × Limit))) (W : List (Path × Limit)) (p : Path) (x : String) : Triple :=
  match aget2 L p x with
  | some lc => t3 lc
  | none => match aget W p with | some lw => t3w lw | none => dflt

theorem wild_true_of_t3w {nd : Node} {lw : Limit} (h : triple nd = t3w lw) : nd.wild = true := by
  simp only [triple, t3w, Prod.mk.injEq] at h; exact h.2.2

theorem triple_user_final {w : List (Path × Limit)} {n : NewCfg} {T : String → Option Tree} {cl : List Path}
    (h : Side4 w n T cl n.userWild) (hcl : ∀ p, ahas w p = true → p ∈ cl) (x : String) (t : Tree) (p : Path) (nd : Node)
    (hT : T x = some t) (hn : aget t p = some nd) : triple nd = finalT n.userLimits n.userWild p x := by
  unfold finalT
  cases hN : aget2 n.userLimits p x with
  | some lc => exact (h.s3.trackers.inv x t hT).triple_of_named hN hn
  | none =>
    cases hW : aget n.userWild p with
    | some lw =>
      obtain ⟨nd', hn', htn⟩ := h.applied x t hT (p, lw) (aget_mem hW) hN
      rw [hn] at hn'; cases hn'
      exact htn
    | none =>
      rcases h.s3.allow x t hT p nd hn with h1 | h1 | ⟨lw1, hw1, ht1⟩ | ⟨lw2, hw2, _⟩
      · rw [hN] at h1; cases h1
      · exact h1
      · -- an old wildcard limit: the queue was cleared when the old wildcard configuration was walked
        obtain ⟨nd', hn', hwf⟩ := h.s3.cleared x t hT p (hcl p (by rw [ahas_eq, hw1]; rfl)) hW hN
        rw [hn] at hn'; cases hn'
        rw [wild_true_of_t3w ht1] at hwf; cases hwf
      · rw [hW] at hw2; cases hw2

def limitIn (L : List (Path × List (String × Limit))) (W : List (Path × Limit)) (p : Path) (x : String) : ORes × Nat :=
  match aget2 L p x with
  | some l => effLimit l.maxRes l.maxApps
  | none => match aget W p with | some l => effLimit l.maxRes l.maxApps | none => (none, 0)

theorem effLimit_none : effLimit none 0 = (none, 0) := rfl

theorem finalT_old (L : List (Path × List (String × Limit))) (W : List (Path × Limit)) (p : Path) (x : String) :
    OldT W L x p (finalT L W p x) ∧ limitIn L W p x = effLimit (finalT L W p x).1 (finalT L W p x).2.1 := by
  unfold finalT limitIn
  cases hN : aget2 L p x with
  | some lc => exact ⟨Or.inr (Or.inr ⟨lc, hN, rfl⟩), rfl⟩
  | none =>
    cases hW : aget W p with
    | some lw => exact ⟨Or.inr (Or.inl ⟨lw, hW, rfl⟩), rfl⟩
    | none => exact ⟨Or.inl rfl, rfl⟩

section
variable {sv : String → Path → Triple → Prop} {L : List (Path × List (String × Limit))} {W : List (Path × Limit)} {T : String → Option Tree}

theorem effLimit_final (h : Trackers sv (fun x p => aget2 L p x) T)
    (hval : ∀ x t p nd, T x = some t → aget t p = some nd → triple nd = finalT L W p x) (x : String) (p : Path) :
    (match (T x).bind (fun t => aget t p) with
      | some n => effLimit n.maxRes n.maxApps
      | none => match aget W p with | some l => effLimit l.maxRes l.maxApps | none => (none, 0)) = limitIn L W p x := by
  cases ho : (T x).bind (fun t => aget t p) with
  | none =>
    unfold limitIn
    cases hN : aget2 L p x with
    | none => rfl
    | some lc =>
      obtain ⟨t, nd, hT, hn, _⟩ := h.exact x p lc hN
      rw [hT, Option.bind_some, hn] at ho; cases ho
  | some nd =>
    obtain ⟨t, hT, hn⟩ := Option.bind_eq_some_iff.mp ho
    rw [(finalT_old L W p x).2, ← hval x t p nd hT hn]
    rfl

theorem Side_final {b : Bool} (h : Trackers sv (fun x p => aget2 L p x) T) (hmem : MemGet L)
    (hval : ∀ x t p nd, T x = some t → aget t p = some nd → triple nd = finalT L W p x) : Side W b L T [] := by
  refine Side.of_trackers ⟨fun x t hT => ⟨(h.inv x t hT).nd, (h.inv x t hT).ne, fun p nd hn => Or.inr ?_, fun p lc hl => (by cases hl)⟩,
    fun x p lc hl => (by cases hl)⟩ ?_
  · rw [hval x t p nd hT hn]; exact (finalT_old L W p x).1
  · intro x t p hT ⟨us, l, h1, h2⟩ _
    cases hN : aget2 L p x with
    | none => have := hmem p us x l h1 h2; rw [hN] at this; cases this
    | some lc =>
      obtain ⟨_, _, _, hpp⟩ := (h.inv x t hT).exact p lc hN
      exact hpp

end

theorem synced_empty : Synced ({} : Mgr) :=
  have h : Trackers (fun _ _ _ => True) (fun x p => aget2 [] p x) (fun _ => none) :=
    ⟨fun _ _ h => (by cases h), fun _ _ _ h => (by cases h)⟩
  ⟨Side_final h (fun _ _ _ _ h => (by cases h)) (fun _ _ _ _ h => (by cases h)),
   Side_final h (fun _ _ _ _ h => (by cases h)) (fun _ _ _ _ h => (by cases h)), fun _ he => (by cases he)⟩

/-- UpdateConfig from the state clearEarlierSetLimits leaves (`m2`), for any new maps `n` with the properties of parsed
    ones: after the wildcard phases and the replacement of the configuration maps, the limit in force is the lookup in `n`.
    The first load enters here with `m2` the state after parsing, a reload after `phase2`. -/
theorem reload_tail (m0 : Mgr) (n : NewCfg) {C : Path → Limit → Prop} (hn : PM C n) (hC : ∀ p lc, C p lc → p ≠ [])
    (hwne : ∀ e ∈ m0.userWild, e.1 ≠ []) (h17 : noWildcardDropBesideNamed m0 n = true) (m2 : Mgr)
    (w2 : m2.userWild = m0.userWild) (l2 : m2.userLimits = m0.userLimits)
    (su2 : Side2 m0.userWild true m0.userLimits n.userLimits (utree m2) [])
    (sg2 : Side2 [] false m0.groupLimits n.groupLimits (gtree m2) []) :
    let M := replaceLimitConfigs (applyWildCardUserLimits (clearEarlierSetUserWildCardLimits m2 n) n) n
    (∀ u p, inForceUser M u p = limitIn n.userLimits n.userWild p u) ∧
    (∀ g p, inForceGroup M g p = limitIn n.groupLimits [] p g) ∧ Synced M := by
  have hne : ∀ e ∈ n.userWild, e.1 ≠ [] := fun e he => hC e.1 e.2 (hn.wild_mem e he)
  unfold clearEarlierSetUserWildCardLimits
  simp only
  have h17' : ∀ e ∈ m2.userWild, aget n.userWild e.1 = none → (!ahas m2.userLimits e.1 || !ahas n.userLimits e.1) = true := by
    intro e he hw'
    rw [w2] at he; rw [l2]
    have := List.all_eq_true.mp h17 e he
    rw [ahas_eq, hw'] at this
    simpa [Bool.not_and] using this
  obtain ⟨w3, g3, s3⟩ := phase3 n m2 (by rw [w2]; exact Side3_init su2) (by rw [w2]; exact hwne) h17'
  generalize m2.userWild.foldl (wildStep n) m2 = m3 at w3 g3 s3 ⊢
  rw [applyWild_eq]
  obtain ⟨w4, g4, s4⟩ := phase4 n hn.wk m3 (m2.userWild.map (·.1)) (by rw [w3]; exact s3) hne
  generalize n.userWild.foldl (wildStepFn n) m3 = m4 at w4 g4 s4 ⊢
  rw [w3] at s4
  have hcl : ∀ p, ahas m2.userWild p = true → p ∈ m2.userWild.map (·.1) := by
    intro p hp
    rw [ahas_eq] at hp
    cases hh : aget m2.userWild p with
    | none => rw [hh] at hp; cases hp
    | some lw => exact List.mem_map.mpr ⟨(p, lw), aget_mem hh, rfl⟩
  have hgt : ∀ g, gtree (replaceLimitConfigs m4 n) g = gtree m2 g := by
    intro g; unfold gtree replaceLimitConfigs; simp only; rw [g4, g3]
  have hvalU := triple_user_final s4 hcl
  have hvalG : ∀ x t p nd, gtree m2 x = some t → aget t p = some nd → triple nd = finalT n.groupLimits [] p x := by
    intro x t p nd hT hn
    unfold finalT
    cases hN : aget2 n.groupLimits p x with
    | some lc => exact (sg2.inv x t hT).triple_of_named hN hn
    | none =>
      rcases (sg2.inv x t hT).allow p nd hn with h2 | h2 | ⟨lw, hw', _⟩ | ⟨_, hx⟩
      · rw [hN] at h2; cases h2
      · exact h2
      · cases hw'
      · cases hx
  refine ⟨fun u p => ?_, fun g p => ?_, Side_congr (Side_final s4.s3.trackers hn.mu hvalU) (fun _ => rfl),
    Side_congr (Side_final sg2.toTrackers hn.mg hvalG) hgt, hne⟩
  · unfold inForceUser
    rw [bind_utree]
    exact effLimit_final s4.s3.trackers hvalU u p
  · have e := effLimit_final (W := []) sg2.toTrackers hvalG g p
    rw [← hgt g, ← bind_gtree] at e
    exact e

theorem limitIn_parsed (m : Mgr) (c : Cfg) (p : Path) :
    (∀ u, u ≠ "" → u ≠ "*" → limitIn (processConfig m c).2.userLimits (processConfig m c).2.userWild p u = configuredUser c u p) ∧
    (∀ g, g ≠ "" → limitIn (processConfig m c).2.groupLimits [] p g = configuredGroup c g p) := by
  refine ⟨fun u h1 h2 => ?_, fun g h1 => ?_⟩
  · unfold limitIn configuredUser
    rw [maps_userLimits_any m c p u h1 h2, maps_userWild_any m c p]
    cases lastUserEntry c p u with
    | some l => rfl
    | none => cases lastUserEntry c p "*" <;> rfl
  · unfold limitIn configuredGroup
    rw [maps_groupLimits_any m c p g h1]
    cases lastGroupEntry c p g <;> rfl

/-- the first load: parsing into the empty manager leaves nothing to reset, so it needs no hypothesis on the
    configuration beyond non-empty queue paths -/
theorem first_load_synced (c : Cfg) (hc : ∀ q ∈ c, q.1 ≠ []) :
    (∀ u p, u ≠ "" → u ≠ "*" → inForceUser (updateConfig {} c) u p = configuredUser c u p) ∧
    (∀ g p, g ≠ "" → inForceGroup (updateConfig {} c) g p = configuredGroup c g p) ∧ Synced (updateConfig {} c) := by
  have hp1 := phase1 synced_empty c hc
  have hpm := PM_processConfig (C := fun p _ => p ≠ []) {} c (fun q hq _ _ => hc q hq)
  have := reload_tail {} (processConfig {} c).2 hpm (fun _ _ h => h) (fun _ he => nomatch he) rfl _ hp1.w hp1.ul
    (Side2_init hp1.us) (Side2_init hp1.gs)
  unfold updateConfig finishConfig
  simp only
  rw [hp1.gl, hp1.ul]
  exact ⟨fun u p h1 h2 => (this.1 u p).trans ((limitIn_parsed {} c p).1 u h1 h2),
    fun g p h1 => (this.2.1 g p).trans ((limitIn_parsed {} c p).2 g h1), this.2.2⟩

end Yk.Ugm
