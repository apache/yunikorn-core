/-
  C13 — No SI request can crash the core or corrupt its state.

  `Si.handle` (YkModel/SiReq.lean) is the validation / decision layer of the request handlers, written path by path in
  code order: RM proxy checks, NewAllocationFromSI, UpdateAllocation, handleForeignAllocation, removeAllocation,
  ConvertUGI(force), AddApplication (placement is an oracle), removeApplication, addNode, updateNode; sub-messages are
  `Option`, unchecked dereferences are `Except Panic`.  `Si.invalid` is the property's notion of an invalid item,
  `Si.refusedAsDemanded` what the property demands for it (ledgers as they were; the protocol's rejection message
  where there is one, silence where there is none).  The driver compares `handle` with the real core behind the real
  RM proxy and evaluates `invalid ⇒ refused` on what the implementation did.
-/
import YkProofs.SiReq
namespace Yk.C13
open Yk Yk.Si Yk.Core

/-- No item panics: for every environment, every state of the ledgers and every item a protobuf decoder can produce
    (any sub-message unset, any map nil, any scalar) the handler returns. -/
theorem no_panic (env : Env) (s : Core) (i : Item) : ∃ r, Si.handle env s i = .ok r :=
  (handle_shaped env s i).exists.imp fun _ => And.left

/-- … and so does a whole request (any number of items, registered or unknown resource manager). -/
theorem request_no_panic (env : Env) (rm : String) (s : Core) (items : List Item) : ∃ r, handleAll env rm s items = .ok r := by
  unfold handleAll
  split
  · exact ⟨_, rfl⟩
  · generalize (some s, ([] : List (Item × Result))) = acc0
    induction items generalizing acc0 with
    | nil => exact ⟨_, rfl⟩
    | cons it rest ih =>
      simp only [List.foldlM_cons, bind, Except.bind]
      have hstep : ∃ a, stepItem env acc0 it = .ok a := by
        unfold stepItem
        cases h1 : acc0.1 with
        | none => exact ⟨_, rfl⟩
        | some st =>
          obtain ⟨r, hr, -⟩ := (handle_shaped env st it).exists
          simp only [hr]
          exact ⟨_, rfl⟩
      obtain ⟨a, ha⟩ := hstep
      rw [ha]
      exact ih _

/-- The classification is exhaustive and the answer has the shape of its class: every item is accepted, rejected or
    ignored; a rejected item leaves the ledgers as they were and is answered with exactly one message, the rejection the
    protocol has for that kind of item; an ignored item leaves the ledgers as they were and is not answered; an accepted
    item is never answered with a rejection. -/
theorem classification_exhaustive (env : Env) (s : Core) (i : Item) (r : Result) (h : Si.handle env s i = .ok r) :
    (∃ w, r.verdict = .reject w ∧ r.state = some s ∧ ∃ mk, rejection i = some mk ∧ r.msgs = [mk w]) ∨
    (∃ w, r.verdict = .ignore w ∧ r.state = some s ∧ r.msgs = []) ∨
    (∃ how, r.verdict = .accept how ∧ ∀ m ∈ r.msgs, isRejection m = false) := by
  have hs := (handle_shaped env s i).of_eq h
  unfold Shaped at hs
  cases hv : r.verdict with
  | reject w => rw [hv] at hs; exact Or.inl ⟨w, rfl, hs⟩
  | ignore w => rw [hv] at hs; exact Or.inr (Or.inl ⟨w, rfl, hs.1, hs.2.2⟩)
  | accept how => rw [hv] at hs; exact Or.inr (Or.inr ⟨how, rfl, hs⟩)

/-- THE PROPERTY, full strength (documented, not asserted: it is refuted below): every item the property calls invalid is
    refused as the property demands — ledgers exactly as they were, answered with the matching rejection where the
    protocol has one. -/
def invalid_is_refused_full : Prop :=
  ∀ (env : Env) (s : Core) (i : Item) (w : Why), invalid env s i = some w → refusedAsDemanded env s i = true

/-- The part that holds: outside the gap classes of `Si.gapOf` (empty allocation key, duplicate allocation key, update of
    a request entry that is allocated but not bound, foreign update naming another node, application with an empty id,
    node capacity with a negative quantity, release of an unknown key for an idle application that still holds request
    entries) an invalid item is refused as the property demands, in every state. Since the fixes e19e4b6, db32327 and
    8774879 this covers a node without id, a foreign allocation with a negative quantity and a placeholder without task
    group (see `fixed_classes_now_refused`). -/
theorem invalid_is_refused_partial (env : Env) (s : Core) (i : Item) (w : Why)
    (hinv : invalid env s i = some w) (hgap : gapOf env s i = none) : refusedAsDemanded env s i = true := by
  obtain ⟨r, hr, hs⟩ := (handle_shaped env s i).exists
  rw [refusedAsDemanded_eq hr hs]
  cases i with
  | alloc a =>
    cases hr
    obtain ⟨w', hv⟩ := alloc_invalid_rejected env s a w hinv hgap
    rw [hv]; rfl
  | release x => exact (release_invalid_refusal env s x w hinv hgap).of_eq hr
  | appNew a =>
    rw [Si.handle, handleAppNew_eq] at hr
    cases hr
    exact appNew_invalid_refusal env s a w hinv hgap
  | appRemove x => cases hr; exact appRemove_invalid_refusal env s x w hinv
  | node n => cases hr; exact node_invalid_refusal env s n w hinv hgap

/-- Request level: a request that consists of invalid items only (any number, any order, none in a gap class) leaves the
    ledgers exactly as they were; every one of its items is refused (and, by `invalid_is_refused_partial`, answered with
    its rejection where the protocol has one). -/
theorem request_of_invalid_items_changes_nothing (env : Env) (s : Core) (items : List Item)
    (h : ∀ i ∈ items, (∃ w, invalid env s i = some w) ∧ gapOf env s i = none) :
    ∃ rs, handleAll env env.rm s items = .ok (some s, rs) ∧ rs.map (·.1) = items ∧
          ∀ p ∈ rs, p.2.state = some s ∧ p.2.verdict.refusal = true := by
  have hall : ∀ i ∈ items, refusedAsDemanded env s i = true := by
    intro i hi
    obtain ⟨⟨w, hw⟩, hg⟩ := h i hi
    exact invalid_is_refused_partial env s i w hw hg
  obtain ⟨rs, h1, h2, h3⟩ := foldl_refused env s items [] hall
  refine ⟨rs, ?_, h2, h3⟩
  simp only [handleAll, bne_self_eq_false, Bool.false_eq_true, ↓reduceIte]
  simpa using h1

/-- A request that names a resource manager which is not registered is refused by the RM proxy: nothing reaches the core. -/
theorem unregistered_rm_changes_nothing (env : Env) (rm : String) (s : Core) (items : List Item) (h : rm ≠ env.rm) :
    handleAll env rm s items = .ok (some s, []) := by
  simp [handleAll, h]

/-- Conversely the core never refuses a valid item: if the property does not call the item invalid it is accepted
    (in states where every allocated request entry names a registered node, and with the synthesized user of forced
    applications passing the user name check). -/
theorem valid_is_accepted (env : Env) (s : Core) (i : Item) (hwf : AllocatedOnKnownNodes s)
    (hanon : env.userOK anonymous.user = true) (hinv : invalid env s i = none) :
    ∃ r how, Si.handle env s i = .ok r ∧ r.verdict = .accept how := by
  cases i with
  | alloc a =>
    obtain ⟨h, hv⟩ := alloc_valid_accepted env s a hwf hinv
    exact ⟨_, h, rfl, hv⟩
  | release r =>
    obtain ⟨x, hx, h, hv⟩ := (release_valid_accepted env s r hinv).exists
    exact ⟨x, h, hx, hv⟩
  | appNew a =>
    obtain ⟨h, hv⟩ := appNew_valid_accepted env s a hanon hinv
    exact ⟨_, h, handleAppNew_eq env s a, hv⟩
  | appRemove r =>
    refine ⟨handleAppRemove env s r, ?_⟩
    simp only [Si.handle, true_and]
    fun_cases handleAppRemove
    all_goals first
      | exact ⟨_, rfl⟩
      | simp_all [invalid]
  | node n =>
    refine ⟨handleNode env s n, ?_⟩
    simp only [Si.handle, true_and]
    fun_cases handleNode
    all_goals first
      | exact ⟨_, rfl⟩
      | simp_all [invalid]

/-! ### the gap classes: concrete witnesses (each replayed on the real core: corpus/C13/mal-*.jsonl) -/

def env0 : Env := { rm := "rm", isPart := fun p => p == "default" }

def node1 : CNode := { id := "n1", total := [("cpu", 10)], occupied := [], allocated := [], available := [("cpu", 10)],
                       schedulable := true, allocs := [], reservations := [] }
def node2 : CNode := { node1 with id := "n2" }
def ask1 : CItem := { key := "k1", res := [("cpu", 2)], ph := false, tg := "", allocated := false, node := "", bound := false,
                      inReq := true, released := false, preempted := false, release := none, reqNode := "" }
def app1 : CApp := { id := "app-1", live := true, queue := "root.a", state := "Accepted", user := "alice", pending := [("cpu", 2)],
                     allocated := [], allocatedPh := [], phAsk := [], items := [ask1], reservations := [], phData := [],
                     log := ["New", "Accepted"] }
/-- one node, one application with one pending ask -/
def s1 : Core := { nodes := [node1], queues := [], apps := [app1], total := [("cpu", 10)], allocations := 0, phAllocations := 0,
                   reservations := 0, foreign := [], users := [], groups := [] }
/-- the request entry left behind by a TIMEOUT confirmation: allocated, not bound -/
def staleItem : CItem := { ask1 with key := "p1", ph := true, tg := "tg-1", allocated := true, node := "n1" }
def app2 : CApp := { app1 with state := "Running", pending := [], items := [staleItem] }
def s2 : Core := { s1 with apps := [app2] }
/-- a foreign allocation f1 on n1, a second node n2 -/
def node1f : CNode := { node1 with occupied := [("cpu", 3)], available := [("cpu", 7)],
                                     allocs := [{ key := "f1", app := "", res := [("cpu", 3)], foreign := true, ph := false }] }
def s3 : Core := { s1 with nodes := [node1f, node2], foreign := ["f1"] }

def wAllocEmptyKey : Item := .alloc { key := "", app := "app-1", node := "", part := "default", res := some [("cpu", 1)] }
def wPlaceholderNoTaskGroup : Item := .alloc { key := "p9", app := "app-1", node := "", part := "default", ph := true, res := some [("cpu", 1)] }
def wForeignNegative : Item := .alloc { key := "f9", app := "", node := "n1", part := "default", res := some [("cpu", -4)], tags := some [("foreign", "default")] }
def wDuplicateKey : Item := .alloc { key := "k1", app := "", node := "n1", part := "default", res := some [("cpu", 1)], tags := some [("foreign", "default")] }
def wResizeUnbound : Item := .alloc { key := "p1", app := "app-1", node := "", part := "default", ph := true, tg := "tg-1", res := some [("cpu", 6)] }
def wForeignMoved : Item := .alloc { key := "f1", app := "", node := "n2", part := "default", res := some [("cpu", 1)], tags := some [("foreign", "default")] }
def wAppEmptyId : Item := .appNew { id := "", queue := "root.a", part := "default", ugi := some { user := "bob", groups := ["dev"] } }
def wNodeEmptyId : Item := .node { id := "", action := 1, attrs := some [("si/node-partition", "default")], res := some [("cpu", 5)] }
def wNodeNegativeCreate : Item := .node { id := "n9", action := 1, attrs := some [("si/node-partition", "default")], res := some [("cpu", -5)] }
def wNodeNegativeUpdate : Item := .node { id := "n1", action := 2, attrs := some [("si/node-partition", "default")], res := some [("cpu", -5)] }
def wReleaseUnknown : Item := .release { part := "default", app := "app-1", key := "no-such-key", ttype := 1 }

/-- Each witness is invalid in the sense of the property, lies in the named gap class, and is NOT refused as demanded:
    the model of the current code accepts it. (The last one, the release of an unknown key that completes an idle
    application, is a state of the model the correspondence never reached on the real core.) -/
theorem gap_witnesses :
    (invalid env0 s1 wAllocEmptyKey = some .emptyId ∧ gapOf env0 s1 wAllocEmptyKey = some .allocEmptyKey ∧ refusedAsDemanded env0 s1 wAllocEmptyKey = false) ∧
    (invalid env0 s1 wDuplicateKey = some .duplicateKey ∧ gapOf env0 s1 wDuplicateKey = some .duplicateKey ∧ refusedAsDemanded env0 s1 wDuplicateKey = false) ∧
    (invalid env0 s2 wResizeUnbound = some .staleAsk ∧ gapOf env0 s2 wResizeUnbound = some .resizeUnbound ∧ refusedAsDemanded env0 s2 wResizeUnbound = false) ∧
    (invalid env0 s3 wForeignMoved = some .foreignMoved ∧ gapOf env0 s3 wForeignMoved = some .foreignMoved ∧ refusedAsDemanded env0 s3 wForeignMoved = false) ∧
    (invalid env0 s1 wAppEmptyId = some .emptyId ∧ gapOf env0 s1 wAppEmptyId = some .appEmptyId ∧ refusedAsDemanded env0 s1 wAppEmptyId = false) ∧
    (invalid env0 s1 wNodeNegativeCreate = some .negativeResource ∧ gapOf env0 s1 wNodeNegativeCreate = some .nodeNegative ∧ refusedAsDemanded env0 s1 wNodeNegativeCreate = false) ∧
    (invalid env0 s1 wNodeNegativeUpdate = some .negativeResource ∧ gapOf env0 s1 wNodeNegativeUpdate = some .nodeNegative ∧ refusedAsDemanded env0 s1 wNodeNegativeUpdate = false) ∧
    (invalid env0 s2 wReleaseUnknown = some .unknownKey ∧ gapOf env0 s2 wReleaseUnknown = some .releaseUnknownCompletes ∧ refusedAsDemanded env0 s2 wReleaseUnknown = false) := by
  decide +kernel

/-- The full statement is false for the current code (witness: a foreign allocation carrying the key of an ask). -/
theorem invalid_is_refused_full_refuted : ¬ invalid_is_refused_full := by
  intro h
  obtain ⟨hinv, -, href⟩ := gap_witnesses.2.1
  exact Bool.false_ne_true (href.symm.trans (h env0 s1 wDuplicateKey .duplicateKey hinv))

/-- Regression for the three repaired classes (fixes e19e4b6 node without id, db32327 foreign allocation with a negative
    quantity, 8774879 placeholder without task group): the former gap witnesses are invalid, in no gap class any more, and
    refused as demanded — ledgers unchanged, answered with exactly the matching rejection. -/
theorem fixed_classes_now_refused :
    (invalid env0 s1 wNodeEmptyId = some .emptyId ∧ gapOf env0 s1 wNodeEmptyId = none ∧ refusedAsDemanded env0 s1 wNodeEmptyId = true ∧
      (Si.handle env0 s1 wNodeEmptyId).toOption.map (·.msgs) = some [.rejectedNode "" .emptyId]) ∧
    (invalid env0 s1 wForeignNegative = some .negativeResource ∧ gapOf env0 s1 wForeignNegative = none ∧ refusedAsDemanded env0 s1 wForeignNegative = true ∧
      (Si.handle env0 s1 wForeignNegative).toOption.map (·.msgs) = some [.rejectedAlloc "f9" "" .negativeResource]) ∧
    (invalid env0 s1 wPlaceholderNoTaskGroup = some .placeholderNoTaskGroup ∧ gapOf env0 s1 wPlaceholderNoTaskGroup = none ∧ refusedAsDemanded env0 s1 wPlaceholderNoTaskGroup = true ∧
      (Si.handle env0 s1 wPlaceholderNoTaskGroup).toOption.map (·.msgs) = some [.rejectedAlloc "p9" "app-1" .placeholderNoTaskGroup]) := by
  decide +kernel

/-! ### the two panics fixed in the repository (regression: the model of the old code panics, the current one does not) -/

/-- before fix d117ec7 a force-created application without user information dereferenced the unset Ugi -/
theorem forced_app_without_ugi_panicked_before_fix :
    convertUGIOld none true = .error (.nilDeref "ConvertUGI: ugi.User = AnonymousUser") ∧
    ∃ u, convertUGI env0 none true = .ok (.ok u) := by
  constructor
  · rfl
  · exact ⟨anonymous, rfl⟩

/-- before fix cebe103 a PLACEHOLDER_REPLACED release of an allocation without a replacement in flight dereferenced nil -/
theorem placeholder_replaced_without_swap_panicked_before_fix :
    handleReleaseBoundOld { staleItem with bound := true } 4 = .error (.nilDeref "removeAllocation: confirmed.GetAllocatedResource()") ∧
    ∃ r, releaseBound s2 app2 { staleItem with bound := true } { part := "default", app := "app-1", key := "p1", ttype := 4 } = .ok r :=
  ⟨rfl, _, releaseBound_eq ..⟩

/-! ### non-vacuity -/

/-- an invalid item outside the gap classes: an ask of an unknown application is rejected, nothing changes -/
example : invalid env0 s1 (.alloc { key := "k9", app := "nope", node := "", part := "default", res := some [("cpu", 1)] }) = some .application ∧
          gapOf env0 s1 (.alloc { key := "k9", app := "nope", node := "", part := "default", res := some [("cpu", 1)] }) = none ∧
          refusedAsDemanded env0 s1 (.alloc { key := "k9", app := "nope", node := "", part := "default", res := some [("cpu", 1)] }) = true := by decide +kernel
/-- a release of something that does not exist is ignored silently (the protocol has no rejection for it) -/
example : invalid env0 s1 (.release { part := "default", app := "app-1", key := "zz", ttype := 4 }) = some .unknownKey ∧
          refusedAsDemanded env0 s1 (.release { part := "default", app := "app-1", key := "zz", ttype := 4 }) = true := by decide +kernel
/-- an update for a removed node, a node registered twice, a zero-resource ask, an unknown partition -/
example : refusedAsDemanded env0 s1 (.node { id := "gone", action := 2, attrs := none, res := some [("cpu", 1)] }) = true ∧
          refusedAsDemanded env0 s1 (.node { id := "gone", action := 2, attrs := some [("si/node-partition", "default")], res := some [("cpu", 1)] }) = true ∧
          refusedAsDemanded env0 s1 (.node { id := "n1", action := 1, attrs := some [("si/node-partition", "default")], res := some [("cpu", 1)] }) = true ∧
          refusedAsDemanded env0 s1 (.alloc { key := "k9", app := "app-1", node := "", part := "default", res := none }) = true ∧
          refusedAsDemanded env0 s1 (.alloc { key := "k9", app := "app-1", node := "", part := "other", res := some [("cpu", 1)] }) = true := by decide +kernel
/-- a valid item: a new ask of a live application is accepted; the hypotheses of `valid_is_accepted` hold in `s1` -/
example : invalid env0 s1 (.alloc { key := "k2", app := "app-1", node := "", part := "default", res := some [("cpu", 1)] }) = none ∧
          (Si.handle env0 s1 (.alloc { key := "k2", app := "app-1", node := "", part := "default", res := some [("cpu", 1)] })).toOption.map (·.verdict) = some (.accept .ask) := by decide +kernel

end Yk.C13
