/-
  Lemmas about the configuration reload model (YkModel/Reload.lean) for the C16 theorems.
  An entry that goes through leaves at its path `updExisting q c pq`, where `q` is the queue that was there (a blank one if
  there was none) and `pq` the queue of its parent entry; `updExisting_eq` says what that is, field by field. `Walked`
  carries this through the walk, and what is said about an accepted update — configured queues active, the same view as
  after a fresh load, what a fresh load gives — is read off it. What holds of every walk, also one stopped by an error
  (other paths untouched, running state kept), goes through `applyEntry_elim` and `applyAll_rel`.  The queue cleaner:
  `cleanFold_inv`.
-/
import YkModel.Reload
namespace Yk.Reload
open Yk Yk.Res

/-- a result whose answer is known: lets a concrete witness evaluate the answer of an update and not the state it leaves -/
theorem eq_of_answer {α β : Type} {r : α × β} {b : β} (h : r.2 = b) : r = (r.1, b) := by rw [← h]

theorem find_some_path {t : Tree} {x : String} {q : RQ} (h : t.find x = some q) : q.path = x := by
  simpa using List.find?_some h

theorem find_mem {t : Tree} {x : String} {q : RQ} (h : t.find x = some q) : q ∈ t := List.mem_of_find?_eq_some h

theorem find_map_pres (t : Tree) (x : String) (f : RQ → RQ) (hf : ∀ q, (f q).path = q.path) :
    Tree.find (t.map f) x = (t.find x).map f := by
  simp only [Tree.find, List.find?_map]
  congr 2
  funext q
  simp [hf]

theorem find_upd_ne (t : Tree) (p x : String) (f : RQ → RQ) (hf : ∀ q, (f q).path = q.path) (hne : ¬ x = p) :
    (t.upd p f).find x = t.find x := by
  rw [Tree.upd, find_map_pres t x _ (fun q => by split <;> simp [hf])]
  cases h : t.find x with
  | none => rfl
  | some q => simp [find_some_path h, hne]

theorem find_upd_eq (t : Tree) (p : String) (f : RQ → RQ) (hf : ∀ q, (f q).path = q.path) (q : RQ) (h : t.find p = some q) :
    (t.upd p f).find p = some (f q) := by
  rw [Tree.upd, find_map_pres t p _ (fun q => by split <;> simp [hf]), h]
  simp [find_some_path h]

theorem find_append (t : Tree) (n : RQ) (x : String) :
    (t ++ [n]).find x = (t.find x).or (if n.path = x then some n else none) := by
  simp only [Tree.find, List.find?_append, List.find?_singleton, decide_eq_true_eq]

theorem find_append_ne (t : Tree) (n : RQ) (x : String) (hne : ¬ n.path = x) : (t ++ [n]).find x = t.find x := by
  simp [find_append, hne]

theorem find_append_new (t : Tree) (n : RQ) (h : t.find n.path = none) : (t ++ [n]).find n.path = some n := by
  simp [find_append, h]

/-- `f` does not look at the fields an entry of the configuration writes.  The nine fields are those `applyConf` and
    `updExisting` write: when the model writes one more it has to be added here (and to the model's `CfgView`), otherwise
    `applyConf_frame` / `updExisting_frame` fail inside their `simp only`. -/
abbrev Frame {α : Type} (f : RQ → α) : Prop :=
  ∀ (q : RQ) l m s mx g ma pr st t,
    f { q with leaf := l, managed := m, state := s, max := mx, guaranteed := g, maxApps := ma, props := pr, set := st, tpl := t } = f q

theorem frame_path : Frame RQ.path := fun _ _ _ _ _ _ _ _ _ _ => rfl
theorem frame_parent : Frame RQ.parent := fun _ _ _ _ _ _ _ _ _ _ => rfl
theorem frame_runtime : Frame RQ.runtime := fun _ _ _ _ _ _ _ _ _ _ => rfl

theorem applyConf_frame {α : Type} {f : RQ → α} (hf : Frame f) (q : RQ) (c : QC) : f (applyConf q c) = f q := by
  simp only [applyConf, apply_ite f, hf, ite_self]

theorem updExisting_frame {α : Type} {f : RQ → α} (hf : Frame f) (q : RQ) (c : QC) (pq : Option RQ) :
    f (updExisting q c pq) = f q := by
  unfold updExisting
  split
  · exact applyConf_frame hf q c
  · cases pq with
    | none => exact (hf ..).trans (applyConf_frame hf q c)
    | some p => simp only [apply_ite f, hf, ite_self]; exact (hf ..).trans (applyConf_frame hf q c)

def effProps (c : QC) : Option RQ → Props
  | none => c.props
  | some p => mergeProps c.props p.props

theorem entryErr_none {c : QC} (he : entryErr c = none) :
    c.aclBad = false ∧ (c.isParent && c.tplBad) = false ∧ (!(decide (c.name = "root")) && c.resBad) = false := by
  unfold entryErr at he
  cases h1 : c.aclBad <;> cases h2 : (c.isParent && c.tplBad) <;> cases h3 : (!(decide (c.name = "root")) && c.resBad) <;>
    simp_all

theorem applyConf_eq (q : RQ) (c : QC) (he : entryErr c = none) :
    applyConf q c =
      { q with leaf := !c.isParent, managed := true, state := .active,
               max := if c.name = "root" then q.max else setRes c.max,
               guaranteed := if c.name = "root" then q.guaranteed else setRes c.guaranteed,
               maxApps := c.maxApps, props := c.props, tpl := if c.isParent then c.tpl.build else q.tpl } := by
  obtain ⟨h1, h2, h3⟩ := entryErr_none he
  unfold applyConf
  simp only [h1, h2, h3, Bool.false_eq_true, if_false]
  by_cases hp : c.isParent = true <;> by_cases hr : c.name = "root" <;> simp only [hp, hr, if_true, if_false] <;> rfl

/-- every field of an existing queue after ApplyConf + MergeParentProperties + InheritParentTemplate +
    UpdateQueueProperties went through: the resources of a queue NAMED root are the one thing taken from the queue as it was -/
theorem updExisting_eq (q : RQ) (c : QC) (pq : Option RQ) (he : entryErr c = none) :
    updExisting q c pq =
      { q with leaf := !c.isParent, managed := true, state := .active,
               max := if c.name = "root" then q.max else setRes c.max,
               guaranteed := if c.name = "root" then q.guaranteed else setRes c.guaranteed,
               maxApps := c.maxApps, props := effProps c pq, set := deriveSettings (!c.isParent) (effProps c pq),
               tpl := if c.isParent then (c.tpl.build).or (pq.bind (·.tpl)) else q.tpl } := by
  unfold updExisting
  rw [he, applyConf_eq q c he]
  cases pq with
  | none => cases c.isParent <;> cases c.tpl.build <;> rfl
  | some p => cases c.isParent <;> cases c.tpl.build <;> rfl

theorem updExisting_cfgView (q : RQ) (c : QC) (pq : Option RQ) (he : entryErr c = none) :
    (updExisting q c pq).cfgView =
      { leaf := !c.isParent, managed := true, state := .active,
        max := if q.parent = "" then none else if c.name = "root" then q.max else setRes c.max,
        guaranteed := if q.parent = "" then none else if c.name = "root" then q.guaranteed else setRes c.guaranteed,
        maxApps := c.maxApps, props := effProps c pq, set := deriveSettings (!c.isParent) (effProps c pq),
        tpl := if c.isParent then (c.tpl.build).or (pq.bind (·.tpl)) else none } := by
  rw [updExisting_eq q c pq he]
  unfold RQ.cfgView
  cases c.isParent <;> rfl

theorem updExisting_tpl (q : RQ) (c : QC) (pq : Option RQ) (he : entryErr c = none) (hp : c.isParent = true) :
    (updExisting q c pq).tpl = (c.tpl.build).or (pq.bind (·.tpl)) := by
  rw [updExisting_eq q c pq he]
  exact if_pos hp

theorem newConfigured_eq (c : QC) (p : Option RQ) (he : entryErr c = none) : newConfigured c p = updExisting (blank c) c p := by
  unfold updExisting newConfigured
  rw [he]

theorem updExisting_managed_mono (q : RQ) (c : QC) (pq : Option RQ) (h : q.managed = true) : (updExisting q c pq).managed = true := by
  cases he : entryErr c with
  | none => rw [updExisting_eq q c pq he]
  | some e =>
    unfold updExisting
    rw [he]
    simp only [applyConf, apply_ite RQ.managed, h, ite_self]

def parentOf (t : Tree) (c : QC) : Option RQ := if c.parent = "" then none else t.find c.parent

/-- the three things an entry can do to the tree: nothing (an error exit), update the queue at its path in place, append a
    new queue (only when its own texts parse) -/
theorem applyEntry_elim {P : Tree → Prop} (t : Tree) (c : QC) (same : P t)
    (upd : ∀ q0, t.find c.path = some q0 → P (t.upd c.path (fun q => updExisting q c (parentOf t c))))
    (new : t.find c.path = none → entryErr c = none → P (t ++ [updExisting (blank c) c (parentOf t c)])) :
    P (applyEntry t c).1 := by
  unfold applyEntry
  cases hf : t.find c.path with
  | some q0 => exact upd q0 hf
  | none =>
    cases he : entryErr c with
    | some e => exact same
    | none =>
      have new := new hf he
      rw [← newConfigured_eq c _ he] at new
      unfold parentOf at new
      by_cases hroot : c.parent = ""
      · simpa only [hroot, if_true] using new
      · simp only [hroot, if_false] at new ⊢
        cases hp : t.find c.parent with
        | none => exact same
        | some p =>
          rw [hp] at new
          by_cases hl : p.leaf = true
          · simpa only [hl, if_true] using same
          · by_cases hd : p.state = .draining
            · simpa only [hl, hd, if_true, Bool.false_eq_true, if_false] using same
            · simpa only [hl, hd, Bool.false_eq_true, if_false] using new

theorem applyEntry_ok (t : Tree) (c : QC) (he : entryErr c = none)
    (hpar : c.parent = "" ∨ ∃ p, t.find c.parent = some p ∧ p.leaf = false ∧ p.state = .active) :
    (applyEntry t c).2 = none ∧
    (applyEntry t c).1.find c.path = some (updExisting ((t.find c.path).getD (blank c)) c (parentOf t c)) := by
  unfold applyEntry parentOf
  cases hf : t.find c.path with
  | some q0 => exact ⟨he, find_upd_eq t c.path _ (fun q => updExisting_frame frame_path q c _) q0 hf⟩
  | none =>
    have hnew : ∀ p, p = parentOf t c → (t ++ [newConfigured c p]).find c.path = some (updExisting (blank c) c (parentOf t c)) := by
      intro p hp
      rw [hp, newConfigured_eq c _ he]
      have hpath : (updExisting (blank c) c (parentOf t c)).path = c.path := updExisting_frame frame_path ..
      rw [← hpath, find_append_new]
      rw [hpath]; exact hf
    unfold parentOf at hnew
    simp only [he, Option.getD_none]
    by_cases hroot : c.parent = ""
    · simp only [hroot, if_true] at hnew ⊢
      exact ⟨trivial, hnew none rfl⟩
    · obtain ⟨p, hp, hl, hs⟩ := hpar.resolve_left hroot
      simp only [hroot, if_false, hp, hl, hs, Bool.false_eq_true, reduceCtorEq] at hnew ⊢
      exact ⟨trivial, hnew (some p) rfl⟩

theorem applyEntry_find_other (t : Tree) (c : QC) (x : String) (hx : ¬ x = c.path) : (applyEntry t c).1.find x = t.find x := by
  refine applyEntry_elim (P := fun t' => t'.find x = t.find x) t c rfl ?_ ?_
  · intro _ _
    exact find_upd_ne _ _ _ _ (fun q => updExisting_frame frame_path q c _) hx
  · intro _ _
    refine find_append_ne _ _ _ ?_
    rw [updExisting_frame frame_path]
    exact fun h => hx h.symm

theorem applyAll_cons_ok {t : Tree} {a : QC} (r : List QC) (h : (applyEntry t a).2 = none) :
    applyAll t (a :: r) = applyAll (applyEntry t a).1 r := by
  conv => lhs; unfold applyAll
  cases he : applyEntry t a with
  | mk t1 e1 => rw [he] at h; cases h; rfl

theorem applyAll_cons_err {t : Tree} {a : QC} (r : List QC) {e : CErr} (h : (applyEntry t a).2 = some e) :
    applyAll t (a :: r) = ((applyEntry t a).1, some e) := by
  conv => lhs; unfold applyAll
  cases he : applyEntry t a with
  | mk t1 e1 => rw [he] at h; cases h; rfl

theorem applyAll_rel {R : Tree → Tree → Prop} (refl : ∀ t, R t t) (trans : ∀ {a b c}, R a b → R b c → R a c)
    (conf : List QC) (step : ∀ c ∈ conf, ∀ t, R t (applyEntry t c).1) : ∀ t, R t (applyAll t conf).1 := by
  induction conf with
  | nil => exact refl
  | cons a r ih =>
    intro t
    have h1 := step a (List.mem_cons_self ..) t
    cases he : (applyEntry t a).2 with
    | some e => rw [applyAll_cons_err r he]; exact h1
    | none => rw [applyAll_cons_ok r he]; exact trans h1 (ih (fun c hc => step c (List.mem_cons_of_mem _ hc)) _)

theorem applyAll_find_other (conf : List QC) (t : Tree) (x : String) (h : ∀ c ∈ conf, ¬ x = c.path) :
    (applyAll t conf).1.find x = t.find x :=
  applyAll_rel (R := fun a b => b.find x = a.find x) (fun _ => rfl) (fun h1 h2 => h2.trans h1) conf
    (fun c hc t => applyEntry_find_other t c x (h c hc)) t

theorem applyEntry_noerr_entryErr (t : Tree) (c : QC) (h : (applyEntry t c).2 = none) : entryErr c = none := by
  unfold applyEntry at h
  split at h
  · exact h
  · split at h
    · cases h
    · assumption

theorem applyAll_noerr_entryErr (conf : List QC) : ∀ (t t' : Tree), applyAll t conf = (t', none) → ∀ c ∈ conf, entryErr c = none := by
  induction conf with
  | nil => intro _ _ _ c hc; cases hc
  | cons a r ih =>
    intro t t' h c hc
    cases he : (applyEntry t a).2 with
    | some e => rw [applyAll_cons_err r he] at h; cases h
    | none =>
      rw [applyAll_cons_ok r he] at h
      cases hc with
      | head => exact applyEntry_noerr_entryErr t a he
      | tail _ hm => exact ih _ t' h c hm

theorem confWFAux_cons (seen : List QC) (a : QC) (r : List QC) :
    confWFAux seen (a :: r) = true ↔
      (∀ p ∈ seen, ¬ p.path = a.path) ∧ (a.parent = "" ∨ ∃ p ∈ seen, p.path = a.parent ∧ p.isParent = true) ∧
      confWFAux (seen ++ [a]) r = true := by
  rw [confWFAux]
  simp only [Bool.and_eq_true, Bool.not_eq_true', List.any_eq_false, Bool.or_eq_true, decide_eq_true_eq, List.any_eq_true, and_assoc]

/-- the state of a walk that started from `t0` and has gone through the entries `seen` without an error: each of them has
    at its path the queue that was there at the start (a blank one if there was none) updated below the queue of its parent
    entry, which was walked before it; every other path is as it was -/
def Walked (t0 : Tree) (seen : List QC) (t : Tree) : Prop :=
  (∀ c ∈ seen, entryErr c = none ∧
      t.find c.path = some (updExisting ((t0.find c.path).getD (blank c)) c (parentOf t c)) ∧
      (c.parent = "" ∨ ∃ p ∈ seen, p.path = c.parent ∧ p.isParent = true)) ∧
  (∀ x, (∀ c ∈ seen, ¬ c.path = x) → t.find x = t0.find x)

theorem Walked.nil (t : Tree) : Walked t [] t := ⟨fun _ h => (nomatch h), fun _ _ => rfl⟩

theorem Walked.settled {t0 t : Tree} {seen : List QC} (h : Walked t0 seen t) {c : QC} (hc : c ∈ seen) :
    ∃ q, t.find c.path = some q ∧ q.leaf = (!c.isParent) ∧ q.state = .active ∧ q.managed = true := by
  obtain ⟨he, hq, _⟩ := h.1 c hc
  refine ⟨_, hq, ?_⟩
  rw [updExisting_eq _ _ _ he]
  exact ⟨rfl, rfl, rfl⟩

/-- for an entry that is new in the walk and whose parent entry was walked before, the structural error exits of
    updateQueues / NewConfiguredQueue cannot be taken -/
theorem Walked.step {t0 t : Tree} {seen : List QC} (h : Walked t0 seen t) {c : QC} (he : entryErr c = none)
    (hnew : ∀ p ∈ seen, ¬ p.path = c.path)
    (hpar : c.parent = "" ∨ ∃ p ∈ seen, p.path = c.parent ∧ p.isParent = true) :
    (applyEntry t c).2 = none ∧ Walked t0 (seen ++ [c]) (applyEntry t c).1 := by
  have hpq : c.parent = "" ∨ ∃ p, t.find c.parent = some p ∧ p.leaf = false ∧ p.state = .active := by
    rcases hpar with h0 | ⟨p, hp, hpp, hpt⟩
    · exact Or.inl h0
    · obtain ⟨q, hq, hl, hs, _⟩ := h.settled hp
      exact Or.inr ⟨q, hpp ▸ hq, (by rw [hl, hpt]; rfl), hs⟩
  obtain ⟨hok, hfind⟩ := applyEntry_ok t c he hpq
  have hother := applyEntry_find_other t c
  -- the parent of an entry walked so far sits at another path than `c`, so the entry still sees the same parent queue
  have hparentOf : ∀ p : QC, (p.parent = "" ∨ ∃ p' ∈ seen, p'.path = p.parent ∧ p'.isParent = true) →
      parentOf (applyEntry t c).1 p = parentOf t p := by
    intro p hp
    unfold parentOf
    rcases hp with h0 | ⟨p', hp', hpp, _⟩
    · simp only [h0, if_true]
    · rw [hother _ (hpp ▸ hnew p' hp')]
  have hclosed : ∀ p : QC, (p.parent = "" ∨ ∃ p' ∈ seen, p'.path = p.parent ∧ p'.isParent = true) →
      (p.parent = "" ∨ ∃ p' ∈ seen ++ [c], p'.path = p.parent ∧ p'.isParent = true) :=
    fun p hp => hp.imp id (fun ⟨p', hp', h'⟩ => ⟨p', List.mem_append_left _ hp', h'⟩)
  refine ⟨hok, ?_, ?_⟩
  · intro p hp
    rcases List.mem_append.mp hp with hps | hpc
    · obtain ⟨hep, hq, hcl⟩ := h.1 p hps
      exact ⟨hep, (by rw [hother _ (hnew p hps), hparentOf p hcl]; exact hq), hclosed p hcl⟩
    · obtain rfl : p = c := by simpa using hpc
      exact ⟨he, (by rw [hfind, hparentOf p hpar, h.2 p.path hnew]), hclosed p hpar⟩
  · intro x hx
    rw [hother x (fun h' => hx c (by simp) h'.symm)]
    exact h.2 x (fun p hp => hx p (List.mem_append_left _ hp))

theorem applyAll_walked (conf : List QC) : ∀ (seen : List QC) (t0 t : Tree), Walked t0 seen t → confWFAux seen conf = true →
    (∀ c ∈ conf, entryErr c = none) → ∃ t', applyAll t conf = (t', none) ∧ Walked t0 (seen ++ conf) t' := by
  induction conf with
  | nil => intro seen t0 t h _ _; exact ⟨t, rfl, by simpa using h⟩
  | cons a r ih =>
    intro seen t0 t h hwf herr
    obtain ⟨hnew, hpar, hrest⟩ := (confWFAux_cons seen a r).mp hwf
    obtain ⟨hok, hw⟩ := h.step (herr a (List.mem_cons_self ..)) hnew hpar
    obtain ⟨t', h', hw'⟩ := ih _ t0 _ hw hrest (fun c hc => herr c (List.mem_cons_of_mem _ hc))
    exact ⟨t', (by rw [applyAll_cons_ok r hok]; exact h'), by simpa using hw'⟩

theorem applyAll_ok (conf : List QC) (hwf : confWF conf = true) (herr : ∀ c ∈ conf, entryErr c = none) (t : Tree) :
    ∃ t', applyAll t conf = (t', none) ∧ Walked t conf t' := by
  simpa using applyAll_walked conf [] t t (Walked.nil t) hwf herr

theorem walked_of_applyAll {conf : List QC} {t t' : Tree} (hwf : confWF conf = true) (h : applyAll t conf = (t', none)) :
    Walked t conf t' := by
  obtain ⟨t1, h1, hw⟩ := applyAll_ok conf hwf (applyAll_noerr_entryErr conf t t' h) t
  rw [h] at h1
  cases h1
  exact hw

def Ext (t t' : Tree) : Prop :=
  (∀ x q, t.find x = some q → ∃ q', t'.find x = some q' ∧ q'.runtime = q.runtime) ∧
  (∀ x q', t'.find x = some q' → (∃ q, t.find x = some q ∧ q'.runtime = q.runtime) ∨ (t.find x = none ∧ q'.runtime = Runtime.zero))

theorem Ext.refl (t : Tree) : Ext t t := ⟨fun _ q h => ⟨q, h, rfl⟩, fun _ q' h => Or.inl ⟨q', h, rfl⟩⟩

theorem Ext.trans {a b c : Tree} (h1 : Ext a b) (h2 : Ext b c) : Ext a c := by
  refine ⟨?_, ?_⟩
  · intro x q hq
    obtain ⟨q', hq', hr'⟩ := h1.1 x q hq
    obtain ⟨q'', hq'', hr''⟩ := h2.1 x q' hq'
    exact ⟨q'', hq'', hr''.trans hr'⟩
  · intro x q'' hq''
    rcases h2.2 x q'' hq'' with ⟨q', hq', hr⟩ | ⟨hn, hz⟩
    · rcases h1.2 x q' hq' with ⟨q, hq, hr'⟩ | ⟨hn', hz'⟩
      · exact Or.inl ⟨q, hq, hr.trans hr'⟩
      · exact Or.inr ⟨hn', hr.trans hz'⟩
    · refine Or.inr ⟨?_, hz⟩
      cases ha : a.find x with
      | none => rfl
      | some q =>
        obtain ⟨q', hq', _⟩ := h1.1 x q ha
        rw [hn] at hq'; cases hq'

theorem Ext.map (t : Tree) (f : RQ → RQ) (hp : ∀ q, (f q).path = q.path) (hr : ∀ q, (f q).runtime = q.runtime) : Ext t (t.map f) := by
  refine ⟨?_, ?_⟩
  · intro x q hq
    exact ⟨f q, by rw [find_map_pres t x f hp, hq]; rfl, hr q⟩
  · intro x q' hq'
    rw [find_map_pres t x f hp] at hq'
    cases h : t.find x with
    | none => rw [h] at hq'; cases hq'
    | some q =>
      rw [h] at hq'
      simp only [Option.map_some, Option.some.injEq] at hq'
      exact Or.inl ⟨q, rfl, by rw [← hq']; exact hr q⟩

theorem Ext.append (t : Tree) (n : RQ) (hz : n.runtime = Runtime.zero) : Ext t (t ++ [n]) := by
  refine ⟨?_, ?_⟩
  · intro x q hq
    exact ⟨q, by simp [find_append, hq], rfl⟩
  · intro x q' hq'
    rw [find_append] at hq'
    cases h : t.find x with
    | some q =>
      rw [h] at hq'
      exact Or.inl ⟨q, rfl, by cases hq'; rfl⟩
    | none =>
      rw [h] at hq'
      by_cases hx : n.path = x
      · simp only [hx, if_true, Option.or_some, Option.some.injEq] at hq'
        exact Or.inr ⟨rfl, hq' ▸ hz⟩
      · simp [hx] at hq'

theorem applyEntry_ext (t : Tree) (c : QC) : Ext t (applyEntry t c).1 := by
  refine applyEntry_elim t c (Ext.refl t) ?_ ?_
  · intro _ _
    refine Ext.map t _ ?_ ?_
    · intro q; split
      · exact updExisting_frame frame_path ..
      · rfl
    · intro q; split
      · exact updExisting_frame frame_runtime ..
      · rfl
  · intro _ _
    exact Ext.append t _ (updExisting_frame frame_runtime ..)

theorem applyAll_ext (conf : List QC) (t : Tree) : Ext t (applyAll t conf).1 :=
  applyAll_rel Ext.refl Ext.trans conf (fun c _ t => applyEntry_ext t c) t

theorem find_markMissing (t : Tree) (conf : List QC) (x : String) :
    (markMissing t conf).find x = (t.find x).map (fun q => if q.managed && !(configured conf q.path) then q.mark else q) :=
  find_map_pres t x _ (fun q => by split <;> rfl)

theorem markMissing_ext (t : Tree) (conf : List QC) : Ext t (markMissing t conf) := by
  unfold markMissing
  apply Ext.map
  · intro q; split <;> rfl
  · intro q; split <;> rfl

theorem updateTree_ok {t t' : Tree} {conf : List QC} (h : updateTree t conf = (t', none)) :
    ∃ t1, applyAll t conf = (t1, none) ∧ t' = markMissing t1 conf := by
  unfold updateTree at h
  cases he : applyAll t conf with
  | mk t1 e1 =>
    rw [he] at h
    cases e1 with
    | some e => cases h
    | none => cases h; exact ⟨t1, rfl, rfl⟩

theorem updateTree_fst (t : Tree) (conf : List QC) :
    (updateTree t conf).1 = (applyAll t conf).1 ∨ (updateTree t conf).1 = markMissing (applyAll t conf).1 conf := by
  unfold updateTree
  cases applyAll t conf with
  | mk t1 e1 => cases e1 with
    | some e => exact Or.inl rfl
    | none => exact Or.inr rfl

theorem configured_iff (conf : List QC) (p : String) : configured conf p = true ↔ ∃ c ∈ conf, c.path = p := by
  unfold configured
  simp [List.any_eq_true]

theorem configured_mem {conf : List QC} {c : QC} (h : c ∈ conf) : configured conf c.path = true :=
  (configured_iff conf c.path).mpr ⟨c, h, rfl⟩

theorem not_configured {conf : List QC} {x : String} (h : configured conf x = false) : ∀ c ∈ conf, ¬ x = c.path := by
  intro c hc hx
  rw [hx, configured_mem hc] at h
  cases h

theorem remove_ne_active (s : QState) : ¬ s.remove = .active := by cases s <;> simp [QState.remove]

theorem find_markMissing_configured {t : Tree} {conf : List QC} {c : QC} (hc : c ∈ conf) {q : RQ} (hq : t.find c.path = some q) :
    (markMissing t conf).find c.path = some q := by
  rw [find_markMissing, hq]
  simp [find_some_path hq, configured_mem hc]

theorem updateTree_not_configured {t t' : Tree} {conf : List QC} (h : updateTree t conf = (t', none)) (x : String) (q : RQ)
    (hq : t.find x = some q) (hc : configured conf x = false) : t'.find x = some (if q.managed then q.mark else q) := by
  obtain ⟨t1, h1, rfl⟩ := updateTree_ok h
  have := applyAll_find_other conf t x (not_configured hc)
  rw [h1] at this
  rw [find_markMissing, this, hq]
  simp [find_some_path hq, hc]

theorem find_filter_other (t : Tree) (p x : String) (hx : ¬ x = p) :
    Tree.find (t.filter (fun y => !(decide (y.path = p)))) x = t.find x := by
  simp only [Tree.find, List.find?_filter]
  congr 1
  funext a
  by_cases h : a.path = x
  · simp [h, hx]
  · simp [h]

theorem cleanStep_sub (acc : Tree) (a : RQ) : ∀ q ∈ cleanStep acc a, q ∈ acc := by
  intro q hq
  unfold cleanStep at hq
  split at hq
  · exact (List.mem_filter.mp hq).1
  · exact hq

theorem hasChild_mono {a b : Tree} (h : ∀ q ∈ a, q ∈ b) (x : String) (hb : b.hasChild x = false) : a.hasChild x = false := by
  unfold Tree.hasChild at hb ⊢
  rw [List.any_eq_false] at hb ⊢
  intro q hq
  exact hb q (h q hq)

theorem removable_spec {t : Tree} {q : RQ} (h : removable t q = true) :
    q.apps = [] ∧ (q.state = .draining ∨ q.managed = false) ∧ t.hasChild q.path = false := by
  unfold removable at h
  simp only [Bool.and_eq_true, Bool.or_eq_true, decide_eq_true_eq, Bool.not_eq_true', List.isEmpty_iff] at h
  exact ⟨h.2, h.1.1.1.1, h.1.2⟩

/-- invariant of the cleaner's walk over `l` starting from `acc`: nothing is invented or altered; a path that was there
    and is gone belonged to a queue of `l` without applications, draining or dynamic, and no child of it is left -/
theorem cleanFold_inv (l : List RQ) : ∀ acc : Tree,
    (∀ q ∈ l.foldl cleanStep acc, q ∈ acc) ∧
    (∀ x, (acc.find x).isSome → (l.foldl cleanStep acc).find x = none →
      ∃ q ∈ l, q.path = x ∧ q.apps = [] ∧ (q.state = .draining ∨ q.managed = false) ∧ (l.foldl cleanStep acc).hasChild x = false) := by
  induction l with
  | nil =>
    intro acc
    refine ⟨fun q h => h, ?_⟩
    intro x h1 h2
    rw [List.foldl_nil] at h2
    rw [h2] at h1; cases h1
  | cons a r ih =>
    intro acc
    simp only [List.foldl_cons]
    obtain ⟨ih1, ih2⟩ := ih (cleanStep acc a)
    have hsub : ∀ q ∈ r.foldl cleanStep (cleanStep acc a), q ∈ acc := fun q hq => cleanStep_sub acc a q (ih1 q hq)
    refine ⟨hsub, ?_⟩
    intro x hx hgone
    -- either `a` is the queue at `x` and is removed now, or this step leaves the queue at `x` alone
    by_cases hnow : removable acc a = true ∧ x = a.path
    · obtain ⟨hrem, rfl⟩ := hnow
      obtain ⟨happs, hstate, hnc⟩ := removable_spec hrem
      exact ⟨a, List.mem_cons_self .., rfl, happs, hstate, hasChild_mono hsub a.path hnc⟩
    · have hfind : (cleanStep acc a).find x = acc.find x := by
        unfold cleanStep
        split
        · exact find_filter_other acc a.path x (fun hxa => hnow ⟨‹_›, hxa⟩)
        · rfl
      obtain ⟨q, hq, rest⟩ := ih2 x (by rw [hfind]; exact hx) hgone
      exact ⟨q, List.mem_cons_of_mem _ hq, rest⟩

theorem confWFAux_ind {P : QC → Prop} (conf : List QC) : ∀ seen : List QC, confWFAux seen conf = true → (∀ p ∈ seen, P p) →
    (∀ c ∈ conf, (c.parent = "" ∨ ∃ p, p.path = c.parent ∧ p.isParent = true ∧ P p) → P c) → ∀ c ∈ conf, P c := by
  induction conf with
  | nil => intro _ _ _ _ c hc; cases hc
  | cons a r ih =>
    intro seen hwf hseen step
    obtain ⟨_, hpar, hrest⟩ := (confWFAux_cons seen a r).mp hwf
    have ha : P a := step a (List.mem_cons_self ..) (hpar.imp id (fun ⟨p, hp, hpp, hpt⟩ => ⟨p, hpp, hpt, hseen p hp⟩))
    intro c hc
    cases hc with
    | head => exact ha
    | tail _ hm =>
      refine ih (seen ++ [a]) hrest ?_ (fun c hc => step c (List.mem_cons_of_mem _ hc)) c hm
      intro p hp
      rcases List.mem_append.mp hp with h | h
      · exact hseen p h
      · obtain rfl : p = a := by simpa using h
        exact ha

theorem confWF_ind {P : QC → Prop} {conf : List QC} (hwf : confWF conf = true)
    (step : ∀ c ∈ conf, (c.parent = "" ∨ ∃ p, p.path = c.parent ∧ p.isParent = true ∧ P p) → P c) : ∀ c ∈ conf, P c :=
  confWFAux_ind conf [] hwf (fun _ h => nomatch h) step

theorem confWF_parent {conf : List QC} (hwf : confWF conf = true) :
    ∀ c ∈ conf, c.parent = "" ∨ ∃ p ∈ conf, p.path = c.parent ∧ p.isParent = true := fun c hc =>
  (confWF_ind (P := fun c => c ∈ conf ∧ (c.parent = "" ∨ ∃ p ∈ conf, p.path = c.parent ∧ p.isParent = true)) hwf
    (fun _ hc h => ⟨hc, h.imp id (fun ⟨p, hpp, hpt, hp, _⟩ => ⟨p, hp, hpp, hpt⟩)⟩) c hc).2

/-- `hRoot`: applyConf skips the resources of a queue NAMED root below the top queue; each of the two keeps what it had -/
theorem updExisting_cfgView_congr (q1 q2 : RQ) (c : QC) (p1 p2 : Option RQ) (he : entryErr c = none)
    (hpar : q1.parent = q2.parent) (hprops : effProps c p1 = effProps c p2) (htpl : p1.bind (·.tpl) = p2.bind (·.tpl))
    (hRoot : c.name = "root" → ¬ q1.parent = "" → q1.max = q2.max ∧ q1.guaranteed = q2.guaranteed) :
    (updExisting q1 c p1).cfgView = (updExisting q2 c p2).cfgView ∧
    (c.isParent = true → (updExisting q1 c p1).tpl = (updExisting q2 c p2).tpl) := by
  refine ⟨?_, fun hp => by rw [updExisting_tpl q1 c p1 he hp, updExisting_tpl q2 c p2 he hp, htpl]⟩
  rw [updExisting_cfgView q1 c p1 he, updExisting_cfgView q2 c p2 he, hprops, htpl, ← hpar]
  by_cases h0 : q1.parent = ""
  · simp only [h0, if_true]
  · by_cases hr : c.name = "root"
    · simp only [hr, if_true, hRoot hr h0]
    · simp only [hr, if_false]

/-- after an accepted update every configured queue carries the configuration-derived fields the
    fresh load of the same configuration gives it (inherited properties and inherited child templates included) — as
    long as a queue NAMED root below the top queue has no resources (applyConf skips the resources of such a queue on
    both paths, so the update keeps what the queue had: C16.L2), and the tree names parents the way the configuration does -/
theorem updateTree_refines_fresh (t t' tf : Tree) (conf : List QC) (hwf : confWF conf = true)
    (hupd : updateTree t conf = (t', none)) (hfresh : applyAll [] conf = (tf, none))
    (hPar : ∀ c ∈ conf, ∀ q, t.find c.path = some q → q.parent = c.parent)
    (hRoot : ∀ c ∈ conf, c.name = "root" → ¬ c.parent = "" → ∀ q, t.find c.path = some q → q.max = none ∧ q.guaranteed = none) :
    ∀ c ∈ conf, ∃ q qf, t'.find c.path = some q ∧ tf.find c.path = some qf ∧ q.cfgView = qf.cfgView := by
  obtain ⟨t1, h1, rfl⟩ := updateTree_ok hupd
  have hw := walked_of_applyAll hwf h1
  have hwf' := walked_of_applyAll hwf hfresh
  -- along the configuration: the two queues of an entry agree, and so do the templates two parent-type queues hand down
  have key := confWF_ind (P := fun c => ∃ q qf, t1.find c.path = some q ∧ tf.find c.path = some qf ∧ q.cfgView = qf.cfgView ∧
      (c.isParent = true → q.tpl = qf.tpl)) hwf ?_
  · intro c hc
    obtain ⟨q, qf, hq, hqf, hv, _⟩ := key c hc
    exact ⟨q, qf, find_markMissing_configured hc hq, hqf, hv⟩
  · intro c hc hparent
    obtain ⟨he, hq, _⟩ := hw.1 c hc
    obtain ⟨_, hqf, _⟩ := hwf'.1 c hc
    have hp : effProps c (parentOf t1 c) = effProps c (parentOf tf c) ∧
        (parentOf t1 c).bind (·.tpl) = (parentOf tf c).bind (·.tpl) := by
      unfold parentOf
      by_cases h0 : c.parent = ""
      · simp only [h0, if_true, and_self]
      · obtain ⟨p, hpp, hpt, qp, qfp, hqp, hqfp, hv, ht⟩ := hparent.resolve_left h0
        rw [← hpp] at h0 ⊢
        simp only [h0, if_false, hqp, hqfp, effProps, Option.bind_some]
        exact ⟨by rw [show qp.props = qfp.props from congrArg CfgView.props hv], ht hpt⟩
    refine ⟨_, _, hq, hqf, updExisting_cfgView_congr _ _ c _ _ he ?_ hp.1 hp.2 ?_⟩
    · cases hold : t.find c.path with
      | none => rfl
      | some q0 => exact hPar c hc q0 hold
    · intro hr hne
      cases hold : t.find c.path with
      | none => exact ⟨rfl, rfl⟩
      | some q0 =>
        rw [hold] at hne
        obtain ⟨hm, hg⟩ := hRoot c hc hr (by rwa [← hPar c hc q0 hold]) q0 hold
        exact ⟨hm, hg⟩

theorem parentsAgree_spec (t : Tree) (conf : List QC) (h : parentsAgree t conf = true) :
    ∀ c ∈ conf, ∀ q, t.find c.path = some q → q.parent = c.parent := by
  intro c hc q hq
  unfold parentsAgree at h
  have := List.all_eq_true.mp h c hc
  rw [hq] at this
  simpa using this

theorem noNamedRoot_spec (conf : List QC) (h : noNamedRoot conf = true) : ∀ c ∈ conf, c.name = "root" → c.parent = "" := by
  intro c hc hr
  unfold noNamedRoot at h
  have := List.all_eq_true.mp h c hc
  simpa [hr] using this

theorem remove_stopped_iff (s : QState) : s.remove = .stopped ↔ s = .stopped := by cases s <;> simp [QState.remove]

theorem offered_map (t : Tree) (f : RQ → RQ) (hp : ∀ q, (f q).path = q.path) (hpar : ∀ q, (f q).parent = q.parent)
    (hpend : ∀ q, (f q).pending = q.pending) (hleaf : ∀ q, (f q).leaf = q.leaf)
    (hst : ∀ q, ((f q).state = .stopped ↔ q.state = .stopped)) (p : String) :
    offered (t.map f) p = offered t p := by
  unfold offered
  rw [find_map_pres t p f hp]
  cases t.find p with
  | none => rfl
  | some q =>
    simp only [Option.map_some, hleaf, List.filter_map, List.map_map]
    congr 2
    · funext c
      exact hp c
    · congr 1
      funext c
      simp only [Function.comp, hpar, hpend, hst]

theorem effProps_parentOf (t : Tree) (c : QC) :
    effProps c (parentOf t c) = if c.parent = "" then c.props else mergeProps c.props (t.parentProps c.parent) := by
  unfold parentOf Tree.parentProps
  by_cases h0 : c.parent = ""
  · simp only [h0, if_true, effProps]
  · cases t.find c.parent <;> simp [h0, effProps, mergeProps]

/-- the configuration-derived fields an entry prescribes (effective parent properties `pp`), as a view -/
def QC.view (c : QC) (pp : Props) (tpl : Option Tpl) : CfgView :=
  let props := if c.parent = "" then c.props else mergeProps c.props pp
  { leaf := !c.isParent, managed := true, state := .active,
    max := if c.parent = "" then none else if c.name = "root" then none else setRes c.max,
    guaranteed := if c.parent = "" then none else if c.name = "root" then none else setRes c.guaranteed,
    maxApps := c.maxApps, props := props, set := deriveSettings (!c.isParent) props,
    tpl := if c.isParent then tpl else none }

end Yk.Reload
