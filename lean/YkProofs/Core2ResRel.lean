/-
  C09 on the stepped Core model: the reservation invariant `ResInv` (YkProofs/Core2Res.lean) is preserved by the release
  of one allocation (`releaseKeyT` = `relBoundT` then `askRemoveT`, and the `releaseKey` of CoreOps.lean), by the start
  of a placeholder swap (`swapStart`) and by its confirmation (`swapConfirm`).
  Each of them replaces one application by a record that keeps what the invariant reads: the shape lemma of the piece
  (`Shape.res`) with one lemma `…_appStep` per record function, which the rounds of the node removal use as well
  (Core2ResNode.lean); `askRemoveT` also takes the reservation of the removed ask out of the three views (`Shape.resStep`).
-/
import YkProofs.Core2ResOps
import YkProofs.Core2LifeOps
namespace Yk
open Res Core
open LifeB
open ResS
open ResC (nsig qsig quietSt)

namespace ResB

/-- what a state that is reached from `st` by one of the events of a release says about `st` -/
structure StepFrom (st st' : String) : Prop where
  failing : st' = "Failing" → st = "Failing"
  term : terminated st' = true → terminated st = false → st = "Failing" ∨ st = "Completing"

theorem StepFrom.of_moves {st st' : String} (h : Life.Moves st st') : StepFrom st st' :=
  ⟨h.into_failing, fun ht hnt => by
    rcases h.into_terminated ht with e | e | e
    · rw [hnt] at e; cases e
    · exact Or.inr e
    · exact Or.inl e⟩

theorem StepFrom.complete (st : String) : StepFrom st (fireState st .complete) := StepFrom.of_moves (.complete st)

theorem no_resv_of_zero {s : Core} (hr : ResInv s) {a : CApp} (ham : a ∈ s.apps) (hlv : a.live = true)
    (hno : ∀ i ∈ a.items, i.outstanding = false) : a.reservations = [] := by
  rw [List.eq_nil_iff_forall_not_mem]
  intro r hrm
  obtain ⟨i, hi, _, hio⟩ := hr.outstanding a ham hlv r hrm
  rw [hno i hi] at hio; cases hio

theorem unbound_keeps (rs : List (String × String)) (key : String) (l : List CItem) : KeepsAsks rs l (unbound key l) :=
  ((KeepsAsks.refl l).updItem key itemKeeps_unbind).filter (fun _ _ _ _ h => by simp [h])

theorem replItems_keeps (rs : List (String × String)) (p r : CItem) (l : List CItem) : KeepsAsks rs l (replItems p r l) := by
  have h0 : KeepsAsks rs l (replItems0 p r l) :=
    (((KeepsAsks.refl l).updItem p.key itemKeeps_unbind).updItem r.key
      (g := fun x => { x with bound := true, release := none }) (fun _ => ⟨rfl, rfl, id⟩)).filter (fun _ _ _ _ h => by simp [h])
  unfold replItems
  split
  · exact h0
  · exact h0.append _

/-! ### the records of the release operations -/

theorem relAppT_reservations (tt : TermType) (key : String) (i : CItem) (a : CApp) :
    (relAppT tt key i a).reservations = a.reservations := by
  unfold relAppT; cases i.ph <;> simp

theorem relAppT_appStep {s : Core} (hr : ResInv s) {a : CApp} (ham : a ∈ s.apps) (hlv : a.live = true) (hwa : AppWF a)
    (hbk : AppBooks a) (hca : Life.AppCore a) (tt : TermType) {key : String} {i : CItem} (him : i ∈ a.items)
    (hkey : i.key = key) (hbd : i.bound = true) : ResS.AppStep nogone a (relAppT tt key i a) := by
  refine AppStep.of_step hr ham hlv hwa (relAppT_id ..) (relAppT_queue ..)
    ((relAppT_reservations tt key i a).trans (stay_none _).symm) ?_
    (relAppT_state tt key i a ▸ relSt_moves tt i a) (relAppT_step tt key i a hbk hwa hca hlv him hkey hbd)
  rw [relAppT_items]; exact unbound_keeps _ key a.items

theorem askAppT_reservations (key : String) (x : CItem) (a : CApp) :
    (askAppT key x a).reservations = a.reservations.filter (·.1 != key) := by
  unfold askAppT; simp

/-- `gone` is left open: `nogone` when the ask `key` holds no reservation, `(· == (key, node))` when it holds one
    (`res_askRemoveT`) -/
theorem askAppT_appStep {s : Core} (hr : ResInv s) {a : CApp} (ham : a ∈ s.apps) (hlv : a.live = true) (hwa : AppWF a)
    (hbk : AppBooks a) (hpos : ∀ i ∈ a.items, PosRes i.res)
    {key : String} {x : CItem} (hxm : x ∈ a.items) (hxk : x.key = key) (hxreq : x.inReq = true)
    {gone : String × String → Bool} (hg : a.reservations.filter (·.1 != key) = stay gone a.reservations) :
    ResS.AppStep gone a (askAppT key x a) := by
  refine AppStep.of_step hr ham hlv hwa (askAppT_id key x a) (askAppT_queue key x a)
    ((askAppT_reservations key x a).trans hg) ?_ (LifeB.askAppT_moves key x a)
    (askAppT_step key x a hbk hwa hpos hxm hxk hxreq)
  rw [askAppT_items, askAppT_reservations]
  exact ((KeepsAsks.refl _).updItem_ne (fun r hr => by simpa using (List.mem_filter.mp hr).2) _).filter
    (fun _ _ _ _ h => by simp [h])

theorem swapStartApp_appStep {s : Core} (hr : ResInv s) {a : CApp} (ham : a ∈ s.apps) (hlv : a.live = true) (hwa : AppWF a)
    (realKey phKey node : String) (r : CItem)
    (hnr : ∀ r0 ∈ a.reservations, r0.1 ≠ realKey) : ResS.AppStep nogone a (swapStartApp realKey phKey node r a) :=
  AppStep.of_outstanding hr ham hlv hwa rfl rfl (stay_none _).symm
    (((KeepsAsks.refl _).updItem_ne hnr _).updItem phKey (g := fun x => { x with released := true, release := some realKey })
      (fun _ => ⟨rfl, rfl, id⟩)) Or.inl

theorem replApp_reservations (p r : CItem) (a : CApp) : (replApp p r a).reservations = a.reservations := by
  unfold replApp; simp

/-- the first transition of a confirmed swap: FailApplication from Failing, RunApplication from Resuming -/
theorem replSt1_quiet {p : CItem} {a : CApp} (h : quietSt (replSt1 p a)) : quietSt a.state := by
  unfold replSt1 at h
  split at h
  · split at h
    · rename_i hF; exact Or.inl (beq_iff_eq.mp hF)
    · exact ResA.run_quiet h
  · exact h

theorem replApp_quiet (p r : CItem) (a : CApp) (h : quietSt (replApp p r a).state) : quietSt a.state := by
  rw [replApp_state] at h
  split at h
  · exact replSt1_quiet (ResA.run_quiet h)
  · exact replSt1_quiet h

theorem replApp_appStep {s : Core} (hr : ResInv s) {a : CApp} (ham : a ∈ s.apps) (hlv : a.live = true) (hwa : AppWF a)
    (p r : CItem) : ResS.AppStep nogone a (replApp p r a) := by
  refine AppStep.of_outstanding hr ham hlv hwa (replApp_id p r a) (replApp_queue p r a)
    ((replApp_reservations p r a).trans (stay_none _).symm) ?_ (fun hq => Or.inl (replApp_quiet p r a hq))
  rw [replApp_items]; exact replItems_keeps _ p r a.items

theorem relApp_reservations (key : String) (i : CItem) (a : CApp) : (relApp key i a).reservations = a.reservations := by
  unfold relApp; cases i.ph <;> rfl

/-- the quiet clause from `relAppT_appStep`: the record has the state and the reservations of `relAppT .stopped` -/
theorem relApp_appStep {s : Core} (hr : ResInv s) {a : CApp} (ham : a ∈ s.apps) (hlv : a.live = true) (hwa : AppWF a)
    (hbk : AppBooks a) (hca : Life.AppCore a) {key : String} {i : CItem} (him : i ∈ a.items) (hkey : i.key = key)
    (hbd : i.bound = true) : ResS.AppStep nogone a (relApp key i a) := by
  have hres := relApp_reservations key i a
  have hT := relAppT_appStep hr ham hlv hwa hbk hca .stopped him hkey hbd
  refine AppStep.of_outstanding hr ham hlv hwa (relApp_id key i a) (relApp_queue key i a) (hres.trans (stay_none _).symm)
    ?_ ?_
  · rw [relApp_items]
    exact (KeepsAsks.refl _).updItem key itemKeeps_unbind
  · intro hq
    rw [(LifeA.relApp_relAppT key i a).1] at hq
    exact (hT.quiet hq).imp_right (fun e => hres.trans ((relAppT_reservations .stopped key i a).symm.trans e))

theorem askApp_appStep {s : Core} (hr : ResInv s) {a : CApp} (ham : a ∈ s.apps) (hlv : a.live = true) (hwa : AppWF a)
    (hbk : AppBooks a) (hpos : ∀ i ∈ a.items, PosRes i.res)
    {key : String} {x : CItem} (hitem : a.items.find? (fun x => x.key == key && x.inReq) = some x)
    (hnokey : ∀ r ∈ a.reservations, r.1 ≠ key) : ResS.AppStep nogone a (askApp key x a) :=
  AppStep.of_step hr ham hlv hwa rfl rfl (stay_none _).symm
    ((KeepsAsks.refl _).filter (fun r hrm y hy _ => by simpa [hy] using hnokey r hrm)) (LifeA.askApp_moves key x a)
    (LifeA.askApp_step key x a hbk hwa hpos hitem)

/-! ### the two halves of `releaseKeyT` -/

theorem res_relBoundT (s : Core) (tt : TermType) (app key : String) (a : CApp) (i : CItem) (hw : CoreWF s) (hb : Books s)
    (hL : LifeCore s) (hr : ResInv s) (hfind : s.findApp app = some a) (hitem : a.items.find? (·.key == key) = some i) :
    ResInv (relBoundT s tt app key a i) := by
  cases hbd : i.bound with
  | false => rw [relBoundT_unbound _ _ _ _ _ _ hbd]; exact hr
  | true =>
    have sh := shape_relBoundT s tt app key a i hfind hbd
    obtain ⟨ham, hlv, _⟩ := sh.mem
    obtain ⟨him, hkey⟩ := find_key_some hitem
    have hk := relAppT_appStep hr ham hlv (hw.app ham hlv) (hb.apps a ham hlv) (Life.appCore_of hL ham) tt him hkey hbd
    exact sh.res hw.appIds hr (qsig_onChain _ (qsig_of (relQT_path_reserved i _ _))) (nsig_onNodeId _ (fun _ => rfl)) hk
      (hk.live_or hr ham hlv (relAppT_leaves tt key i a))

theorem res_askRemoveT (s1 : Core) (app key : String) (chain : List String) (hw : CoreWF s1)
    (hba : ∀ b ∈ s1.apps, b.live = true → AppBooks b) (hpos : ∀ b ∈ s1.apps, b.live = true → ∀ i ∈ b.items, PosRes i.res)
    (hr : ResInv s1) : ResInv (askRemoveT s1 app key chain) := by
  rcases shape_askRemoveT s1 app key chain hw with h | ⟨a1, x, hitem, sh⟩
  · rw [h]; exact hr
  · obtain ⟨ham, hlv, hid⟩ := sh.mem
    obtain ⟨hxm, hxk, hxreq⟩ := find_request hitem
    have hqs : ∀ q, qsig (onChain chain (askQT x) q) = qsig q :=
      qsig_onChain chain (qsig_of (askQT_path_reserved x))
    have hstep := fun gone hg => askAppT_appStep (gone := gone) hr ham hlv (hw.app ham hlv) (hba a1 ham hlv) (hpos a1 ham hlv)
      hxm hxk hxreq hg
    have hlive : (askAppT key x a1).live = true ∨ (askAppT key x a1).reservations = [] := Or.inl ((askAppT_live ..).trans hlv)
    have hone := hr.onePerAsk a1 ham hlv
    cases hres : a1.reservations.find? (·.1 == key) with
    | none =>
      simp only [askResvQ, hres] at sh
      have hg : a1.reservations.filter (·.1 != key) = stay nogone a1.reservations := by
        rw [stay_none, List.filter_eq_self]
        intro r hrm
        simpa using List.find?_eq_none.mp hres r hrm
      exact sh.res hw.appIds hr hqs (fun n => by simp only [askResvN, hres]) (hstep _ hg) hlive
    | some r =>
      -- the reservation of the ask leaves the application, the node and the queue of the application
      simp only [askResvQ, hres] at sh
      have hrm : (key, r.2) ∈ a1.reservations := by
        have hrk : r.1 = key := by simpa using List.find?_some hres
        exact hrk ▸ List.mem_of_find?_eq_some hres
      have hg : a1.reservations.filter (·.1 != key) = stay (· == (key, r.2)) a1.reservations := by
        refine List.filter_congr fun r' hr' => ?_
        by_cases hk : r'.1 = key
        · obtain rfl : r' = (key, r.2) := eq_of_map_eq (·.1) hone hr' hrm hk
          simp
        · have : r' ≠ (key, r.2) := fun e => hk (e ▸ rfl)
          show (r'.1 != key) = !(r' == (key, r.2))
          rw [show (r'.1 != key) = true by simpa using hk, show (r' == (key, r.2)) = false by simpa using this]; rfl
      have hlen := filter_ne_length' (nodup_of_map _ hone) hrm
      exact (sh.resStep hw.appIds hr (fun r' hr' => by rw [beq_iff_eq.mp hr']; exact hrm) (hstep _ hg) hlive
        (fun n => by simp only [askResvN, hres]; exact ResA.nsig_dropResvN key r.2 n) (ResA.decG app a1.queue)
        (fun q => by rw [ResA.qsig_decResvQ, (qsig_eq_iff.mp (hqs q)).1, (qsig_eq_iff.mp (hqs q)).2])
        (fun q hq => ResA.qstep_decG hr hw.appIds ham hlv hid hlen hq)).res hr

/-! ### the main path of `swapConfirm` -/

theorem res_swapMain (s : Core) (app phKey : String) (a : CApp) (p r : CItem) (hw : CoreWF s) (hr : ResInv s)
    (hc : SwapCase s app phKey a p r) : ResInv (swapMain s app phKey a p r) := by
  have sh := shape_swapMain s app phKey a p r hc.app
  obtain ⟨ham, hlv, _⟩ := sh.mem
  have hk := replApp_appStep hr ham hlv (hw.app ham hlv) p r
  refine sh.res hw.appIds hr (qsig_onChain _ (qsig_of (swapQ_path_reserved p r _ _))) (nsig_onNodeId _ (fun n => by split <;> rfl)) hk ?_
  -- the record leaves the partition when the first transition ends in a terminal state: then the application was quiet
  cases ht : terminated (replSt1 p a) with
  | false => left; rw [replApp_live, ht]; rfl
  | true =>
    right
    rw [hk.resv, stay_none]
    exact hr.quiet a ham hlv (replSt1_quiet (Or.inr (Or.inr ht)))

/-! ### the `releaseKey` of YkModel/CoreOps.lean: `rel1` then `rel2` -/

theorem res_rel1 (s : Core) (app key : String) (a : CApp) (i : CItem) (hw : CoreWF s) (hb : Books s)
    (hL : LifeCore s) (hr : ResInv s) (hfind : s.findApp app = some a) (hitem : a.items.find? (·.key == key) = some i) :
    ResInv (rel1 s app key a i) := by
  cases hbd : i.bound with
  | false =>
    rw [rel1_unbound s app key a i hbd]; exact hr
  | true =>
    have sh := shape_rel1 s app key a i hfind hbd
    obtain ⟨ham, hlv, _⟩ := sh.mem
    obtain ⟨him, hkey⟩ := find_key_some hitem
    have hk := relApp_appStep hr ham hlv (hw.app ham hlv) (hb.apps a ham hlv) (Life.appCore_of hL ham) him hkey hbd
    exact sh.res hw.appIds hr (qsig_onChain _ (qsig_of (relQb_path_reserved _ i _))) (nsig_onNodeId _ (fun _ => rfl)) hk
      (hk.live_or hr ham hlv (LifeA.relApp_live key i a))

theorem rel1_findApp (s : Core) (app key : String) (a : CApp) (i : CItem) (hw : CoreWF s)
    (hfind : s.findApp app = some a) (a1 : CApp) (h1 : (rel1 s app key a i).findApp app = some a1) :
    a1.reservations = a.reservations := by
  cases hbd : i.bound with
  | false =>
    rw [rel1_unbound s app key a i hbd, hfind] at h1
    rw [← Option.some.inj h1]
  | true =>
    rw [(shape_rel1 s app key a i hfind hbd).found_after hw h1]
    exact relApp_reservations key i a

theorem res_rel2 (s1 : Core) (app key : String) (chain : List String) (hw : CoreWF s1)
    (hba : ∀ b ∈ s1.apps, b.live = true → AppBooks b)
    (hpos : ∀ b ∈ s1.apps, b.live = true → ∀ i ∈ b.items, PosRes i.res) (hr : ResInv s1)
    (hnr : NotReserved s1 app key) : ResInv (rel2 s1 app key chain) := by
  rcases shape_rel2 s1 app key chain hw with he | ⟨a1, x, hitem, sh⟩
  · rw [he]; exact hr
  · obtain ⟨ham, hlv, _⟩ := sh.mem
    exact sh.res hw.appIds hr (qsig_onChain chain (qsig_of (askQT_path_reserved x))) (fun _ => rfl)
      (askApp_appStep hr ham hlv (hw.app ham hlv) (hba a1 ham hlv) (hpos a1 ham hlv) hitem (hnr a1 sh.find)) (Or.inl hlv)

end ResB

open ResB

/-- partition.removeAllocation(app, key, tt): no side condition (the ask that leaves takes its reservation with it:
    application, node, queue) -/
theorem res_releaseKeyT (s : Core) (tt : TermType) (app key : String) (hi : CoreInv s) (hr : ResInv s) :
    ResInv (s.releaseKeyT tt app key) := by
  obtain ⟨hw, hb, _, hl⟩ := hi
  rcases releaseKeyT_cases s tt app key with h | ⟨a, i, hfind, hitem, h⟩
  · rw [h]; exact hr
  · have hw1 := wf_relBoundT s tt app key a i hw hfind
    have hb1 := LifeB.appsBooks_relBoundT s tt app key a i hw hb.apps hfind hitem
    have hl1 := life_relBoundT s tt app key a i hw hb hl hfind hitem
    have hr1 := res_relBoundT s tt app key a i hw hb hl.toLifeCore hr hfind hitem
    rw [h]
    split
    · exact hr1
    · exact res_askRemoveT _ app key _ hw1 hb1 hl1.pos hr1

/-- tryPlaceholderAllocate decided a replacement for a real ask that holds no reservation (`NotReserved`: the scheduler
    unreserves before it allocates): the real ask stops being outstanding, nothing else the invariant reads changes -/
theorem res_swapStart (s s' : Core) (app realKey phKey node : String) (hw : CoreWF s) (hr : ResInv s)
    (hnr : NotReserved s app realKey) (h : s.swapStart app realKey phKey node = some s') : ResInv s' := by
  obtain ⟨a, r, p, _, _, sh⟩ := shape_swapStart s s' app realKey phKey node hw h
  refine sh.res hw.appIds hr (qsig_onChain _ (fun _ => rfl)) (fun n => ?_)
    (swapStartApp_appStep hr sh.mem.1 sh.mem.2.1 (hw.app sh.mem.1 sh.mem.2.1) realKey phKey node r (hnr a sh.find))
    (Or.inl sh.mem.2.1)
  split
  · exact nsig_onNodeId node (h := addAllocNode _) (fun _ => rfl) n
  · rfl

/-- partition.removeAllocation(app, phKey, PLACEHOLDER_REPLACED).  `SwapOK` (from `ok_of_ok2`) is needed for the
    well-formedness and the books of the state between the two halves of the step. -/
theorem res_swapConfirm (s : Core) (app phKey : String) (hi : CoreInv s) (hr : ResInv s) (hok : SwapOK s app phKey) :
    ResInv (s.swapConfirm app phKey) := by
  have ⟨hw, hb, _, hl⟩ := hi
  rcases swapConfirm_cases s app phKey with h | h | ⟨a, p, r, hc⟩
  · rw [h]; exact hr
  · rw [h]; exact res_releaseKeyT s .replaced app phKey hi hr
  · rw [swapConfirm_main s app phKey a p r hc]
    exact res_askRemoveT _ app phKey _ (wf_swapMain s app phKey a p r hw hok hc)
      (books_swapMain s app phKey a p r hw hb hok hc).apps (LifeB.life_nopend_swapMain s app phKey a p r hw hb hl hok hc).1.pos
      (res_swapMain s app phKey a p r hw hr hc)

/-- The `releaseKey` of CoreOps.lean does not model reservations: it keeps the invariant when the ask it removes holds
    none (`NotReserved`). -/
theorem res_releaseKey (s : Core) (app key : String) (hi : CoreInv s) (hr : ResInv s) (hnr : NotReserved s app key) :
    ResInv (s.releaseKey app key) := by
  obtain ⟨hw, hb, _, hl⟩ := hi
  rcases releaseKey_cases s app key with e | ⟨a, i, hfind, hitem, e⟩
  · rw [e]; exact hr
  · rw [e]
    obtain ⟨hb1, hl1, _⟩ := LifeA.life_nopend_rel1 s app key a i hw hb hl hfind hitem
    refine res_rel2 _ app key _ (wf_rel1 s app key a i hw hfind) hb1 hl1.pos
      (res_rel1 s app key a i hw hb hl.toLifeCore hr hfind hitem) ?_
    intro a1 h1 r hrm
    rw [rel1_findApp s app key a i hw hfind a1 h1] at hrm
    exact hnr a hfind r hrm

end Yk
