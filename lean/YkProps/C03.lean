/-
  C03 — Resource accounting is conserved across application, queue and node.
  `Core` is the observable state of the scheduler core; `Core.ask`, `Core.schedAlloc`, `Core.releaseKey`,
  `Core.nodeCreate`, `Core.nodeUpdate`, `Core.nodeSchedulable`, `Core.foreignAdd/Remove` (YkModel/CoreOps.lean) update
  every ledger in the order partition.go /
  application.go / queue.go / node.go do.  The driver steps this model from the state dumped from the real core and
  compares all ledgers after every operation, and evaluates the clauses below (as `Core.conserved`) on every dumped state.
  YkModel/CoreOps2.lean adds the gang / removal / timer operations (placeholder swap start and confirmation, releases of
  every termination type, release of a whole application, application removal, node removal, placeholder and state
  timers, application add, cleanup, reservations made or cancelled in a scheduling cycle); `books_reachable` covers whole
  histories of all of them.  Operations outside the stepped model (preemption decisions, RM-placed allocations, updates
  of foreign allocations, configuration reload) are covered by the monitor on the implementation only.
-/
import YkProofs.Core2LinkExample
namespace Yk.C03
open Yk Yk.Core Yk.Res

/-- A new ask keeps the books.  (`Books`, YkProofs/Core.lean, is I1–I5 of CoreState in pointwise form: an application's
    totals are the sums over its allocations and unallocated asks, every queue's allocated/pending is the sum over the live
    applications at or below it (so a leaf is the sum of its applications and a parent the sum of its children), every
    node's allocated is the sum of its non-foreign allocations and available = capacity − allocated − occupied.) -/
theorem books_preserved_ask (s : Core) (app key : String) (res : Res) (ph : Bool) (tg reqNode : String)
    (hw : CoreWF s) (hr : wf res = true) (hb : Books s) : Books (s.ask app key res ph tg reqNode).1 :=
  books_ask s app key res ph tg reqNode hw hr hb

theorem books_preserved_schedAlloc (s s' : Core) (app key node : String)
    (hw : CoreWF s) (hb : Books s) (h : s.schedAlloc app key node = some s') : Books s' :=
  books_schedAlloc s s' app key node hw hb h

theorem books_preserved_releaseKey (s : Core) (app key : String)
    (hw : CoreWF s) (hb : Books s) (hrel : ReleaseOK s app key) : Books (s.releaseKey app key) :=
  books_releaseKey s app key hw hb hrel

theorem books_preserved_node_ops (s : Core) (id : String) (cap : Res) (b : Bool) (hw : CoreWF s) (hc : wf cap = true) (hb : Books s) :
    Books (s.nodeCreate id cap b) ∧ Books (s.nodeUpdate id cap) ∧ Books (s.nodeSchedulable id b) :=
  ⟨books_nodeCreate s id cap b hb, books_nodeUpdate s id cap hw hc hb, books_nodeSchedulable s id b hb⟩

theorem books_preserved_foreign (s : Core) (key node : String) (res : Res) (hw : CoreWF s) (hr : wf res = true) (hb : Books s) :
    Books (s.foreignAdd key node res) ∧ Books (s.foreignRemove key) :=
  ⟨books_foreignAdd s key node res hw hr hb, books_foreignRemove s key hw hb⟩

/-- When everything has been released and removed the books return exactly to zero: with no live application and no
    non-foreign allocation on any node, every queue's allocated and pending and every node's allocated are zero. -/
theorem drained_is_zero (s : Core) (hb : Books s) (ha : s.liveApps = [])
    (hn : ∀ n ∈ s.nodes, ∀ a ∈ n.allocs, a.foreign = true) :
    (∀ q ∈ s.queues, ∀ k, q.allocated.getD k = 0 ∧ q.pending.getD k = 0) ∧ (∀ n ∈ s.nodes, ∀ k, n.allocated.getD k = 0) := by
  have hdead : ∀ a ∈ s.apps, a.live = false := by
    intro a ham
    cases hl : a.live with
    | false => rfl
    | true =>
      have : a ∈ s.liveApps := mem_liveApps.mpr ⟨ham, hl⟩
      rw [ha] at this; cases this
  have hz : ∀ p g, qsum s.apps p g = 0 := by
    intro p g
    apply sumIf_zero
    intro x hx hc
    rw [hdead x hx] at hc; simp at hc
  constructor
  · intro q hq k
    have := hb.queues q hq
    rw [this.allocated k, this.pending k, hz, hz]; exact ⟨rfl, rfl⟩
  · intro n hnm k
    rw [(hb.nodes n hnm).allocated k]
    apply sumIf_zero
    intro x hx hc
    rw [hn n hnm x hx] at hc; simp at hc

/-- The executable clauses the driver evaluates on the implementation's dumped state imply the books (for well-formed
    dumps): `Core.conserved s = none ∧ Core.nodeLedger s = none → Books s`.  `QueueTreeWF` (YkProofs/Core.lean) states
    the shape of the queue hierarchy that turns "leaf = Σ its applications, parent = Σ its children" (I4, I5) into
    "every queue = Σ the applications at or below it". -/
theorem conserved_exec_sound (s : Core) (hw : CoreWF s) (ht : QueueTreeWF s) (h1 : s.conserved = none) (h2 : s.nodeLedger = none) :
    Books s :=
  ⟨appBooks_of_exec s hw h1, queueBooks_of_exec s hw ht h1, nodeBooks_of_exec s hw h2⟩

/-! ### the gang / removal / timer operations (YkModel/CoreOps2.lean)

Each keeps the books AND the well-formedness of the state.  The side conditions are explicit: `ReleaseOK` / `AppOnNodes`
(the allocations the operation releases are listed by their nodes with the size the application books: the
implementation skips the node and queue update otherwise), `SwapOK` (additionally: the linked real allocation is a proper
replacement and not larger than the placeholder — the guard of tryPlaceholderAllocate), `FreshOnNode` / `FreshQueuesOK`
(a key is new in a Go map / a new queue has nobody below it), `NodeRemoveOK` (a swap confirmed by the node removal is a
proper swap; a reversed replacement does not saturate int64). -/

/-- partition.removeAllocation for a key, every termination type (STOPPED_BY_RM, UNKNOWN, TIMEOUT,
    PREEMPTED_BY_SCHEDULER; PLACEHOLDER_REPLACED without a linked replacement) -/
theorem books_preserved_release (s : Core) (tt : TermType) (app key : String)
    (hw : CoreWF s) (hb : Books s) (hrel : ReleaseOK s app key) :
    Books (s.releaseKeyT tt app key) ∧ CoreWF (s.releaseKeyT tt app key) :=
  releaseKeyT_props s tt app key hw hb hrel

/-- tryPlaceholderAllocate decided a replacement (same node: nothing moves; other node: the real half is parked there) -/
theorem books_preserved_swapStart (s s' : Core) (app realKey phKey node : String) (hw : CoreWF s) (hb : Books s)
    (h : s.swapStart app realKey phKey node = some s') (hfresh : FreshOnNode s node realKey) : Books s' ∧ CoreWF s' :=
  swapStart_props s s' app realKey phKey node hw hb h hfresh

/-- the shim confirms the swap (PLACEHOLDER_REPLACED).  Also when the application leaves the partition in this very step
    with its new real allocation (Failing → Failed, KNOWN_FINDINGS C03.I7t): the books of the live objects still agree.
    That is the only way an application leaves in this step (`swapConfirm_leaves_only_failing`): in
    removeAllocationInternal a replacement that is being confirmed does not complete the application (fix 3b9e769). -/
theorem books_preserved_swapConfirm (s : Core) (app phKey : String) (hw : CoreWF s) (hb : Books s) (hok : SwapOK s app phKey) :
    Books (s.swapConfirm app phKey) ∧ CoreWF (s.swapConfirm app phKey) :=
  swapConfirm_props s app phKey hw hb hok

/-- In the step that confirms a replacement the application leaves the partition only by failing, and (fix 81c5cb7) only
    when it holds no other real allocation — the replacement itself then becomes the allocation of a Failed application
    (KNOWN_FINDINGS C03.I7t: the swap of a failing application is confirmed).  A Completing / idle-looking application
    does not complete right before its real allocation is added (class C03.I7c): the removal of a placeholder whose
    replacement is being confirmed does not fire CompleteApplication (fix 3b9e769; in the model `replApp`, `relAppT`). -/
theorem swapConfirm_leaves_only_failing (p r : CItem) (a : CApp) (h : (replApp p r a).live = false) :
    (a.state = "Failing" ∧ isZero (some a.allocated) = true) ∨ terminated a.state = true := by
  have hl : (replApp p r a).live =
      !(terminated (if (isZero (some (prune (subX a.allocatedPh p.res))) &&
          ((a.state == "Failing" && isZero (some a.allocated)) || a.state == "Resuming")) = true then
        (if (a.state == "Failing") = true then fireState a.state .fail else fireState a.state .run) else a.state)) := by
    unfold replApp; simp
  rw [hl] at h
  by_cases hF : a.state = "Failing" ∧ isZero (some a.allocated) = true
  · exact Or.inl hF
  · right
    split at h
    · rename_i hc
      simp only [Bool.and_eq_true, Bool.or_eq_true, beq_iff_eq] at hc
      rcases hc.2 with hc2 | hc2
      · exact absurd hc2 hF
      · have hne : (a.state == "Failing") = false := by rw [hc2]; decide
        rw [hne] at h
        simp only [Bool.false_eq_true, if_false] at h
        rw [hc2] at h
        have : (!terminated (fireState "Resuming" AppEvent.run)) = true := by decide +kernel
        rw [this] at h; cases h
    · simpa using h

/-- release of every allocation (and, unless TIMEOUT, every ask) of an application -/
theorem books_preserved_releaseApp (s : Core) (tt : TermType) (app : String) (hw : CoreWF s) (hb : Books s)
    (hok : AppOnNodes s app) : Books (s.releaseApp tt app) ∧ CoreWF (s.releaseApp tt app) :=
  releaseApp_props s tt app hw hb hok

/-- partition.removeApplication -/
theorem books_preserved_appRemove (s : Core) (app : String) (hw : CoreWF s) (hb : Books s) (hok : AppOnNodes s app) :
    Books (s.appRemove app) ∧ CoreWF (s.appRemove app) :=
  appRemove_props s app hw hb hok

/-- partition.removeNode, including the in-flight replacement cases of removeNodeAllocations -/
theorem books_preserved_nodeRemove (s : Core) (id : String) (order : List (String × String)) (hw : CoreWF s) (hb : Books s)
    (hok : NodeRemoveOK s id order) : Books (s.nodeRemove id order) ∧ CoreWF (s.nodeRemove id order) :=
  nodeRemove_props s id order hw hb hok

/-- the placeholder timer (both cases) and the state timer: no side condition -/
theorem books_preserved_timers (s : Core) (app : String) (ev : Option String) (hw : CoreWF s) (hb : Books s) :
    (Books (s.phTimeout app ev) ∧ CoreWF (s.phTimeout app ev)) ∧ (Books (s.stateTimeout app) ∧ CoreWF (s.stateTimeout app)) :=
  ⟨phTimeout_props s app ev hw hb, stateTimeout_props s app hw hb⟩

/-- a new application (with the dynamic queues created for it), the clean-up of expired applications -/
theorem books_preserved_appAdd_cleanup (s : Core) (a : Option CApp) (nq : List CQueue) (hw : CoreWF s) (hb : Books s)
    (hok : FreshQueuesOK s nq) : (Books (s.appAdd a nq) ∧ CoreWF (s.appAdd a nq)) ∧ (Books s.cleanup ∧ CoreWF s.cleanup) :=
  ⟨appAdd_props s a nq hw hb hok, cleanup_props s hw hb⟩

/-- Whole histories: for every list of stepped operations (`Op`, YkModel/CoreRun.lean: all 21 operations of the stepped
    model) applied to a state satisfying `CoreWF ∧ Books`, every step meeting its side condition (`RunOK`), the result
    satisfies `Books` (and `CoreWF`). -/
theorem books_reachable (s : Core) (ops : List Op) (hw : CoreWF s) (hb : Books s) (hok : RunOK s ops) :
    Books (run s ops) ∧ CoreWF (run s ops) :=
  Yk.books_reachable s ops hw hb hok

/-- The full statement, without the side conditions: NOT true of the code. -/
def books_reachable_full : Prop := ∀ (s : Core) (ops : List Op), CoreWF s → Books s → Books (run s ops)

/-- … refuted on a concrete witness: a placeholder (cpu 4) whose node is not registered is "replaced" by a real
    allocation of cpu 2: removeAllocation skips the node AND the queue update (`continue` when the node is not found), the
    application books cpu 2, the root queue keeps cpu 4. -/
theorem books_reachable_full_refuted : ¬ books_reachable_full := by
  intro h
  obtain ⟨hw, hb, _, hn⟩ := swapConfirm_books_refuted_without_node
  exact hn (h swapW [.swapConfirm "app" "ph"] hw hb)

/-! ### "every allocation an application lists is on its node" as an invariant

`Linked s` (C03 clause I8): every bound item of every live application is listed by its registered node, for this
application, non-foreign, with the size the application books.  Every operation of the stepped model preserves it
(YkProofs/Core2Link*.lean), so along a history the node-side conditions of the release operations need not be assumed:
they follow.  What remains as side condition of a step (`Op.ok2`, YkProofs/Core2LinkRun.lean): requests are well-formed
(`wf`), a key is new in a Go map (`FreshOnNode`, `AskOK.newKey`, `FreshQueuesOK`), a confirmed replacement is a proper one,
not larger than its placeholder and — across nodes — parked on its node (`SwapLinkOK`, `NodeRemoveOK`,
`NodeRemoveLinkOK`), and no int64 saturation where a pending total grows (`AskOK.noSat`, `NodeRmOK`).
(The converse clause I7 — every allocation on a node belongs to a live application that lists it — is NOT an invariant of
the code: KNOWN_FINDINGS C03.I7t / I7r / I7o; the model reproduces these behaviours.) -/

/-- one step keeps the linkage -/
theorem linked_preserved (s : Core) (op : Op) (hw : CoreWF s) (hb : Books s) (hl : Linked s) (hok : op.ok2 s) :
    Linked (op.apply s) :=
  step_linked s op hw hb hl hok

/-- Whole histories from a well-formed, balanced and linked state: for every list of operations of the stepped model whose
    steps meet the reduced side condition, the result is balanced, well-formed and linked. -/
theorem books_linked_reachable (s : Core) (ops : List Op) (hw : CoreWF s) (hb : Books s) (hl : Linked s)
    (hok : RunOK2 s ops) : Books (run s ops) ∧ CoreWF (run s ops) ∧ Linked (run s ops) :=
  reachable_linked s ops hw hb hl hok

/-- … in particular the release operations need no side condition at all in a linked state -/
theorem release_needs_no_side_condition (s : Core) (tt : TermType) (app key : String) (hw : CoreWF s) (hb : Books s)
    (hl : Linked s) :
    (Books (s.releaseKeyT tt app key) ∧ CoreWF (s.releaseKeyT tt app key) ∧ Linked (s.releaseKeyT tt app key)) ∧
    (Books (s.releaseApp tt app) ∧ CoreWF (s.releaseApp tt app) ∧ Linked (s.releaseApp tt app)) ∧
    (Books (s.appRemove app) ∧ CoreWF (s.appRemove app) ∧ Linked (s.appRemove app)) :=
  ⟨⟨(releaseKeyT_props s tt app key hw hb (hl.releaseOK app key)).1, (releaseKeyT_props s tt app key hw hb (hl.releaseOK app key)).2,
     linked_releaseKeyT s tt app key hw hl⟩,
   ⟨(releaseApp_props s tt app hw hb (hl.appOnNodes app)).1, (releaseApp_props s tt app hw hb (hl.appOnNodes app)).2,
     linked_releaseApp tt app hw hl⟩,
   ⟨(appRemove_props s app hw hb (hl.appOnNodes app)).1, (appRemove_props s app hw hb (hl.appOnNodes app)).2,
     linked_appRemove app hw hl⟩⟩

/-! ### non-vacuity

`Example.exOps` (YkProofs/Core2Example.lean): from the empty partition — a node registers, a gang application is added,
asks for a placeholder (cpu 4) which the scheduler binds, asks for the real allocation (cpu 2), the scheduler starts the
swap on the same node, the shim confirms it, the real allocation is released, the node is removed.  Every step meets
its side condition (evaluated by the executable checkers `Op.okb`, sound for `Op.ok`), the states on the way are not
trivial, and at the end everything is back to zero.  `Example.exOps2`: the node is removed while the swap is in flight. -/

example : CoreWF Example.ex0 ∧ Books Example.ex0 ∧ RunOK Example.ex0 Example.exOps ∧
    (Example.s4.nodes.map (·.allocated)) = [[("cpu", 4)]] ∧
    (Example.s7.nodes.map (·.allocated)) = [[("cpu", 2)]] ∧
    (Example.s7.queues.map (·.allocated)) = [[("cpu", 2)], [("cpu", 2)]] ∧
    run Example.ex0 Example.exOps = Example.s9 ∧ Example.s9.nodes = [] ∧
    (Example.s9.queues.map (·.allocated)) = [[], []] :=
  ⟨Example.wf_ex0, Example.books_ex0, Example.exOps_ok, Example.s4_node.1, Example.s7_node, Example.s7_queues,
   Example.run_exOps, Example.s9_nodes, Example.s9_queues.1⟩

example : Books (run Example.ex0 Example.exOps) ∧ CoreWF (run Example.ex0 Example.exOps) :=
  books_reachable _ _ Example.wf_ex0 Example.books_ex0 Example.exOps_ok

example : RunOK Example.ex0 Example.exOps2 ∧ Books (run Example.ex0 Example.exOps2) :=
  ⟨Example.exOps2_ok, Example.example2_reachable.1⟩

/-- the same histories meet the reduced side conditions from the (trivially linked) empty partition; `Example.exOps3`: a
    cross-node swap (the real half is parked on `n2` while the placeholder sits on `n1`) -/
example : Linked Example.ex0 ∧ RunOK2 Example.ex0 Example.exOps ∧ RunOK2 Example.ex0 Example.exOps2 ∧
    RunOK2 Example.ex0 Example.exOps3 ∧
    (Books (run Example.ex0 Example.exOps3) ∧ CoreWF (run Example.ex0 Example.exOps3) ∧ Linked (run Example.ex0 Example.exOps3)) :=
  ⟨Example.linked_ex0, Example.exOps_ok2, Example.exOps2_ok2, Example.exOps3_ok2, Example.example3_reachable_linked⟩

end Yk.C03
