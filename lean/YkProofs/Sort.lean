/-
  Proofs for C19 (scheduling order): stable insertion sort, comparators are strict weak orders, the order on shares
  (exact fractions) with the lexicographic steps built on it, sorted asks.
-/
import YkModel.Sort
namespace Yk

/-! ### sortedBy as Pairwise -/

theorem sortedBy_iff {α} (lt : α → α → Bool) (l : List α) :
    sortedBy lt l = true ↔ l.Pairwise (fun a b => lt b a = false) := by
  induction l with
  | nil => simp [sortedBy]
  | cons x t ih => simp [sortedBy, ih, List.pairwise_cons]

theorem sortedBy_no_inversion {α} {lt : α → α → Bool} {out : List α} (hs : sortedBy lt out = true)
    (i j : Nat) (x y : α) (hij : i < j) (hy : out[i]? = some y) (hx : out[j]? = some x) : lt x y = false := by
  obtain ⟨hi, rfl⟩ := List.getElem?_eq_some_iff.mp hy
  obtain ⟨hj, rfl⟩ := List.getElem?_eq_some_iff.mp hx
  exact List.pairwise_iff_getElem.mp ((sortedBy_iff lt out).mp hs) i j hi hj hij

/-! ### insertion before the first element satisfying a predicate

Both `insertStable` (sort.SliceStable) and the middle case of `sortedRequests.insert` are instances. -/

def insBefore {α} (p : α → Bool) (a : α) : List α → List α
  | [] => [a]
  | y :: t => if p y then a :: y :: t else y :: insBefore p a t

theorem insBefore_perm {α} (p : α → Bool) (a : α) (s : List α) : (insBefore p a s).Perm (a :: s) := by
  induction s with
  | nil => exact List.Perm.refl _
  | cons y t ih =>
    simp only [insBefore]
    split
    · exact List.Perm.refl _
    · exact (List.Perm.cons y ih).trans (List.Perm.swap a y t)

theorem insBefore_eq_take_drop {α} (p : α → Bool) (a : α) (s : List α) :
    s.take ((s.findIdx? p).getD s.length) ++ [a] ++ s.drop ((s.findIdx? p).getD s.length) = insBefore p a s := by
  induction s with
  | nil => simp [insBefore]
  | cons y t ih =>
    rw [List.findIdx?_cons]
    unfold insBefore
    split
    next hy => simp
    next hy =>
      cases hf : t.findIdx? p with
      | none => rw [hf] at ih; simpa using ih
      | some i => rw [hf] at ih; simpa using ih

/-- The insertion keeps `R` between every earlier and every later element when `a` may follow what fails `p` and
    may precede the first element `y` that satisfies `p` together with everything `y` precedes. -/
theorem insBefore_pairwise {α} {R : α → α → Prop} (p : α → Bool) (a : α) (l : List α) (hl : l.Pairwise R)
    (hb : ∀ w ∈ l, p w = false → R w a)
    (ha : ∀ y ∈ l, p y = true → R a y ∧ ∀ z ∈ l, R y z → R a z) : (insBefore p a l).Pairwise R := by
  induction l with
  | nil => simp [insBefore]
  | cons y t ih =>
    obtain ⟨hy, ht⟩ := List.pairwise_cons.mp hl
    simp only [insBefore]
    split
    next hp =>
      obtain ⟨h1, h2⟩ := ha y List.mem_cons_self hp
      refine List.pairwise_cons.mpr ⟨fun z hz => ?_, hl⟩
      rcases List.mem_cons.mp hz with rfl | hz'
      · exact h1
      · exact h2 z hz (hy z hz')
    next hp =>
      refine List.pairwise_cons.mpr ⟨fun w hw => ?_, ih ht (fun w hw => hb w (List.mem_cons_of_mem _ hw))
        (fun z hz hpz => ⟨(ha z (List.mem_cons_of_mem _ hz) hpz).1,
          fun u hu => (ha z (List.mem_cons_of_mem _ hz) hpz).2 u (List.mem_cons_of_mem _ hu)⟩)⟩
      rcases List.mem_cons.mp ((insBefore_perm p a t).mem_iff.mp hw) with rfl | hw'
      · exact hb y List.mem_cons_self (by simpa using hp)
      · exact hy w hw'

/-! ### stable insertion sort -/

theorem insertStable_eq {α} (lt : α → α → Bool) (x : α) (l : List α) :
    insertStable lt x l = insBefore (lt x) x l := by
  induction l with
  | nil => rfl
  | cons y t ih => simp only [insertStable, insBefore, ih]

theorem insertStable_perm {α} (lt : α → α → Bool) (x : α) (l : List α) :
    (insertStable lt x l).Perm (x :: l) :=
  insertStable_eq lt x l ▸ insBefore_perm _ x l

/-- Insertion keeps a list inversion-free; the order axioms are needed only of the elements involved.
    Irreflexivity is required: with `lt := fun _ _ => true` (transitive) `stableSort lt [a, a]` has an inversion. -/
theorem insertStable_sorted {α} (lt : α → α → Bool) (x : α) (l : List α)
    (hirr : ∀ a ∈ x :: l, lt a a = false)
    (htr : ∀ a ∈ x :: l, ∀ b ∈ x :: l, ∀ c ∈ x :: l, lt a b = true → lt b c = true → lt a c = true)
    (hs : sortedBy lt l = true) : sortedBy lt (insertStable lt x l) = true := by
  have hx : x ∈ x :: l := List.mem_cons_self
  -- `z < x < y` is impossible when `z` is not below `y` (`y = z` included)
  have key : ∀ y ∈ l, lt x y = true → ∀ z ∈ l, lt z y = false → lt z x = false := fun y hy hxy z hz hzy => by
    cases hzx : lt z x with
    | false => rfl
    | true => rw [htr z (.tail _ hz) x hx y (.tail _ hy) hzx hxy] at hzy; cases hzy
  rw [sortedBy_iff] at hs ⊢
  rw [insertStable_eq]
  exact insBefore_pairwise _ x l hs (fun w _ h => h)
    (fun y hy hxy => ⟨key y hy hxy y hy (hirr y (.tail _ hy)), fun z hz => key y hy hxy z hz⟩)

theorem foldl_insertStable_perm {α} (lt : α → α → Bool) (l acc : List α) :
    (l.foldl (fun acc x => insertStable lt x acc) acc).Perm (l ++ acc) := by
  induction l generalizing acc with
  | nil => exact List.Perm.refl _
  | cons x t ih =>
    exact (ih _).trans (((insertStable_perm lt x acc).append_left t).trans List.perm_middle)

theorem stableSort_perm {α} (lt : α → α → Bool) (l : List α) : (stableSort lt l).Perm l := by
  simpa [stableSort] using foldl_insertStable_perm lt l []

theorem stableSort_sorted_on {α} (lt : α → α → Bool) (l : List α)
    (hirr : ∀ a ∈ l, lt a a = false)
    (htr : ∀ a ∈ l, ∀ b ∈ l, ∀ c ∈ l, lt a b = true → lt b c = true → lt a c = true) :
    sortedBy lt (stableSort lt l) = true := by
  unfold stableSort
  refine (List.foldlRecOn (motive := fun acc => (∀ x ∈ acc, x ∈ l) ∧ sortedBy lt acc = true) l _
    ⟨fun _ h => (List.not_mem_nil h).elim, rfl⟩ ?_).2
  rintro acc ⟨ha, hs⟩ x hx
  have hxa : ∀ a ∈ x :: acc, a ∈ l := fun a h => (List.mem_cons.mp h).elim (fun h => h ▸ hx) (ha a)
  exact ⟨fun z hz => hxa z ((insertStable_perm lt x acc).mem_iff.mp hz),
    insertStable_sorted lt x acc (fun a h => hirr a (hxa a h))
      (fun a h b hb c hc => htr a (hxa a h) b (hxa b hb) c (hxa c hc)) hs⟩

/-! ### a stable sort only looks at the comparator on the elements it sorts -/

theorem insertStable_congr {α} (lt lt' : α → α → Bool) (x : α) (l : List α) (h : ∀ y ∈ l, lt x y = lt' x y) :
    insertStable lt x l = insertStable lt' x l := by
  induction l with
  | nil => rfl
  | cons y t ih =>
    simp only [insertStable]
    rw [h y List.mem_cons_self, ih (fun z hz => h z (List.mem_cons_of_mem _ hz))]

theorem foldl_insertStable_congr {α} (lt lt' : α → α → Bool) (L l acc : List α)
    (h : ∀ x ∈ L, ∀ y ∈ L, lt x y = lt' x y) (hl : ∀ x ∈ l, x ∈ L) (ha : ∀ x ∈ acc, x ∈ L) :
    l.foldl (fun acc x => insertStable lt x acc) acc = l.foldl (fun acc x => insertStable lt' x acc) acc := by
  induction l generalizing acc with
  | nil => rfl
  | cons x t ih =>
    simp only [List.foldl_cons]
    have hx := hl x List.mem_cons_self
    rw [insertStable_congr lt lt' x acc (fun y hy => h x hx y (ha y hy))]
    apply ih _ (fun z hz => hl z (List.mem_cons_of_mem _ hz))
    intro z hz
    rcases List.mem_cons.mp ((insertStable_perm lt' x acc).mem_iff.mp hz) with rfl | hz'
    · exact hx
    · exact ha z hz'

theorem stableSort_congr {α} (lt lt' : α → α → Bool) (l : List α) (h : ∀ x ∈ l, ∀ y ∈ l, lt x y = lt' x y) :
    stableSort lt l = stableSort lt' l :=
  foldl_insertStable_congr lt lt' l l [] h (fun _ hx => hx) (fun _ hx => by cases hx)

theorem stableSort_false {α} (l : List α) : stableSort (fun _ _ => false) l = l := by
  have hins : ∀ (x : α) (acc : List α), insertStable (fun _ _ => false) x acc = acc ++ [x] := by
    intro x acc
    induction acc with
    | nil => rfl
    | cons y t ih => simp [insertStable, ih]
  have : ∀ (l acc : List α), l.foldl (fun acc x => insertStable (fun _ _ => false) x acc) acc = acc ++ l := by
    intro l
    induction l with
    | nil => intro acc; simp
    | cons x t ih => intro acc; simp only [List.foldl_cons]; rw [hins, ih]; simp
  simpa [stableSort] using this l []

theorem before_of_sorted {α} (lt : α → α → Bool) (out : List α) (hs : sortedBy lt out = true)
    (x y : α) (hx : x ∈ out) (hy : y ∈ out) (hxy : lt x y = true) (hirr : lt x x = false) :
    ∃ i j : Nat, i < j ∧ out[i]? = some x ∧ out[j]? = some y := by
  obtain ⟨i, hi⟩ := List.getElem?_of_mem hx
  obtain ⟨j, hj⟩ := List.getElem?_of_mem hy
  rcases Nat.lt_trichotomy i j with h | h | h
  · exact ⟨i, j, h, hi, hj⟩
  · subst h
    rw [hi] at hj; cases hj
    rw [hirr] at hxy; cases hxy
  · have := sortedBy_no_inversion hs j i x y h hj hi
    rw [this] at hxy; cases hxy

/-! ### strict weak orders -/

theorem isSWO_of {α} (lt : α → α → Bool) (l : List α)
    (h1 : ∀ x ∈ l, lt x x = false)
    (h2 : ∀ x ∈ l, ∀ y ∈ l, ∀ z ∈ l, lt x y = true → lt y z = true → lt x z = true)
    (h3 : ∀ x ∈ l, ∀ y ∈ l, ∀ z ∈ l, lt x y = false → lt y x = false → lt y z = false → lt z y = false →
      lt x z = false ∧ lt z x = false) : isSWO lt l = true := by
  unfold isSWO
  simp only [Bool.and_eq_true, List.all_eq_true]
  refine ⟨⟨?_, ?_⟩, ?_⟩
  · intro x hx; rw [h1 x hx]; rfl
  · intro x hx y hy z hz
    cases hxy : lt x y
    · rfl
    · cases hyz : lt y z
      · rfl
      · rw [h2 x hx y hy z hz hxy hyz]; rfl
  · intro x hx y hy z hz
    cases hg : (!lt x y && !lt y x && !lt y z && !lt z y)
    · rfl
    · simp only [Bool.and_eq_true, Bool.not_eq_true'] at hg
      obtain ⟨⟨⟨a, b⟩, c⟩, d⟩ := hg
      obtain ⟨e, f⟩ := h3 x hx y hy z hz a b c d
      rw [e, f]; rfl

theorem isSWO_lex {α} (lt : α → α → Bool) (f g : α → Int) (l : List α)
    (h : ∀ x ∈ l, ∀ y ∈ l, (lt x y = true ↔ f x < f y ∨ (f x = f y ∧ g x < g y))) : isSWO lt l = true := by
  have hF : ∀ x ∈ l, ∀ y ∈ l, (lt x y = false ↔ ¬ (f x < f y ∨ (f x = f y ∧ g x < g y))) := by
    intro x hx y hy; rw [← h x hx y hy, Bool.not_eq_true]
  apply isSWO_of
  · intro x hx; rw [hF x hx x hx]; omega
  · intro x hx y hy z hz; rw [h x hx y hy, h y hy z hz, h x hx z hz]; omega
  · intro x hx y hy z hz
    rw [hF x hx y hy, hF y hy x hx, hF y hy z hz, hF z hz y hy, hF x hx z hz, hF z hz x hx]; omega

/-- the shape of the two-key comparators of sorters.go: the first key decides, else `t` -/
theorem lexBool_iff {a b : Int} {t : Bool} :
    (if a > b then true else if a < b then false else t) = true ↔ a > b ∨ (a = b ∧ t = true) := by
  by_cases h1 : a > b
  · rw [if_pos h1]; exact ⟨fun _ => Or.inl h1, fun _ => rfl⟩
  · rw [if_neg h1]
    by_cases h2 : a < b
    · rw [if_pos h2]; exact ⟨fun h => (by cases h), fun h => by omega⟩
    · rw [if_neg h2]
      exact ⟨fun h => Or.inr ⟨by omega, h⟩, fun h => h.elim (fun h => absurd h h1) (·.2)⟩

theorem tieBool_iff {a b : Int} {t : Bool} :
    (if a == b then t else decide (a < b)) = true ↔ a < b ∨ (a = b ∧ t = true) := by
  by_cases h : a = b
  · rw [if_pos (beq_iff_eq.mpr h)]; exact ⟨fun ht => Or.inr ⟨h, ht⟩, fun ht => ht.elim (by omega) (·.2)⟩
  · rw [if_neg (by rwa [beq_iff_eq]), decide_eq_true_eq]; exact ⟨Or.inl, fun ht => ht.elim id (fun ht => absurd ht.1 h)⟩

theorem qLessPrio_iff (l r : QKey) : qLessPrio l r = true ↔ l.prio > r.prio := by
  simp [qLessPrio]

theorem aLessFairPrio_iff (l r : AKey) :
    aLessFairPrio l r = true ↔ (l.share < r.share ∨ (l.share = r.share ∧ l.prio > r.prio)) := by
  unfold aLessFairPrio
  split
  next h => simp only [bne_iff_ne, ne_eq] at h; simp only [decide_eq_true_eq]; omega
  next h => simp only [bne_iff_ne, ne_eq, Classical.not_not] at h; simp only [decide_eq_true_eq]; omega

theorem aLessPrioFair_iff (l r : AKey) :
    aLessPrioFair l r = true ↔ (l.prio > r.prio ∨ (l.prio = r.prio ∧ l.share < r.share)) := by
  unfold aLessPrioFair; rw [lexBool_iff, decide_eq_true_eq]

theorem aLessSubmitPrio_iff (l r : AKey) :
    aLessSubmitPrio l r = true ↔ (l.submit < r.submit ∨ (r.submit = l.submit ∧ l.prio > r.prio)) := by
  unfold aLessSubmitPrio; rw [lexBool_iff, decide_eq_true_eq]

theorem aLessPrioSubmit_iff (l r : AKey) :
    aLessPrioSubmit l r = true ↔ (l.prio > r.prio ∨ (l.prio = r.prio ∧ l.submit < r.submit)) := by
  unfold aLessPrioSubmit; rw [lexBool_iff, decide_eq_true_eq]

/-! ### fair queue policies -/

theorem qLessPrioFair_iff (x y : QKey) :
    qLessPrioFair x y = true ↔
      (x.prio > y.prio ∨ (x.prio = y.prio ∧ (x.share < y.share ∨ (x.share = y.share ∧ pendingGt x y = true)))) := by
  unfold qLessPrioFair; rw [lexBool_iff, tieBool_iff]

theorem qLessFairPrio_iff (x y : QKey) :
    qLessFairPrio x y = true ↔
      (x.share < y.share ∨ (x.share = y.share ∧ (x.prio > y.prio ∨ (x.prio = y.prio ∧ pendingGt x y = true)))) := by
  unfold qLessFairPrio; rw [tieBool_iff, lexBool_iff]

/-! ### shares: the order on exact fractions with positive denominators; lexicographic steps -/

/-- `a/b ≤ c/d ≤ e/f` for positive denominators, cross-multiplied; strict as soon as one step is:
    `(a f) d = (a d) f ≤ (c b) f = (c f) b ≤ (e d) b = (e b) d` -/
theorem mul_chain {a b c d e f : Int} (hb : 0 < b) (hd : 0 < d) (hf : 0 < f)
    (h1 : a * d ≤ c * b) (h2 : c * f ≤ e * d) :
    a * f ≤ e * b ∧ (a * d < c * b ∨ c * f < e * d → a * f < e * b) := by
  have e1 : a * f * d = a * d * f := Int.mul_right_comm a f d
  have e2 : c * b * f = c * f * b := Int.mul_right_comm c b f
  have e3 : e * d * b = e * b * d := Int.mul_right_comm e d b
  have s1 : a * d * f ≤ c * b * f := Int.mul_le_mul_of_nonneg_right h1 (Int.le_of_lt hf)
  have s2 : c * f * b ≤ e * d * b := Int.mul_le_mul_of_nonneg_right h2 (Int.le_of_lt hb)
  refine ⟨Int.le_of_mul_le_mul_right (show a * f * d ≤ e * b * d by omega) hd, fun hs => ?_⟩
  refine Int.lt_of_mul_lt_mul_right (show a * f * d < e * b * d from ?_) (Int.le_of_lt hd)
  rcases hs with hs | hs
  · have := Int.mul_lt_mul_of_pos_right hs hf
    omega
  · have := Int.mul_lt_mul_of_pos_right hs hb
    omega

theorem shareLt_iff (a b : Share) : shareLt a b = true ↔ a.num * b.den < b.num * a.den := by simp [shareLt]

theorem shareEq_iff (a b : Share) : shareEq a b = true ↔ a.num * b.den = b.num * a.den := by
  simp only [shareEq, shareLt, Bool.and_eq_true, Bool.not_eq_true', decide_eq_false_iff_not]; omega

theorem shareLt_trans {a b c : Share} (ha : 0 < a.den) (hb : 0 < b.den) (hc : 0 < c.den)
    (h1 : shareLt a b = true) (h2 : shareLt b c = true) : shareLt a c = true := by
  rw [shareLt_iff] at *
  exact (mul_chain ha hb hc (Int.le_of_lt h1) (Int.le_of_lt h2)).2 (Or.inl h1)

theorem shareLt_of_lt_eq {a b c : Share} (ha : 0 < a.den) (hb : 0 < b.den) (hc : 0 < c.den)
    (h1 : shareLt a b = true) (h2 : shareEq b c = true) : shareLt a c = true := by
  rw [shareLt_iff] at *; rw [shareEq_iff] at h2
  exact (mul_chain ha hb hc (Int.le_of_lt h1) (Int.le_of_eq h2)).2 (Or.inl h1)

theorem shareLt_of_eq_lt {a b c : Share} (ha : 0 < a.den) (hb : 0 < b.den) (hc : 0 < c.den)
    (h1 : shareEq a b = true) (h2 : shareLt b c = true) : shareLt a c = true := by
  rw [shareLt_iff] at *; rw [shareEq_iff] at h1
  exact (mul_chain ha hb hc (Int.le_of_eq h1) (Int.le_of_lt h2)).2 (Or.inr h2)

theorem shareEq_trans {a b c : Share} (ha : 0 < a.den) (hb : 0 < b.den) (hc : 0 < c.den)
    (h1 : shareEq a b = true) (h2 : shareEq b c = true) : shareEq a c = true := by
  rw [shareEq_iff] at *
  have l1 := (mul_chain ha hb hc (Int.le_of_eq h1) (Int.le_of_eq h2)).1
  have l2 := (mul_chain hc hb ha (Int.le_of_eq h2.symm) (Int.le_of_eq h1.symm)).1
  omega

theorem shareLt_irrefl (a : Share) : shareLt a a = false := by simp [shareLt]

theorem shareEq_not_lt {a b : Share} (h : shareEq a b = true) : shareLt a b = false := by
  simp only [shareEq, Bool.and_eq_true, Bool.not_eq_true'] at h; exact h.1

theorem shareTie_iff {a b : Share} {t : Bool} :
    (if shareEq a b then t else shareLt a b) = true ↔ shareLt a b = true ∨ (shareEq a b = true ∧ t = true) := by
  cases he : shareEq a b
  · simp
  · simp [shareEq_not_lt he]

theorem lex_trans_at {α} (A E B : α → α → Prop) (x y z : α)
    (hA : A x y → A y z → A x z) (hAE : A x y → E y z → A x z) (hEA : E x y → A y z → A x z)
    (hE : E x y → E y z → E x z) (hB : E x y → E y z → B x y → B y z → B x z) :
    (A x y ∨ (E x y ∧ B x y)) → (A y z ∨ (E y z ∧ B y z)) → (A x z ∨ (E x z ∧ B x z)) := by
  intro h1 h2
  rcases h1 with h1 | ⟨e1, b1⟩ <;> rcases h2 with h2 | ⟨e2, b2⟩
  · exact Or.inl (hA h1 h2)
  · exact Or.inl (hAE h1 e2)
  · exact Or.inl (hEA e1 h2)
  · exact Or.inr ⟨hE e1 e2, hB e1 e2 b1 b2⟩

theorem share_lex_trans {α} (s : α → Share) (B : α → α → Prop) (x y z : α)
    (dx : 0 < (s x).den) (dy : 0 < (s y).den) (dz : 0 < (s z).den)
    (hB : shareEq (s x) (s y) = true → shareEq (s y) (s z) = true → B x y → B y z → B x z) :
    (shareLt (s x) (s y) = true ∨ (shareEq (s x) (s y) = true ∧ B x y)) →
    (shareLt (s y) (s z) = true ∨ (shareEq (s y) (s z) = true ∧ B y z)) →
    (shareLt (s x) (s z) = true ∨ (shareEq (s x) (s z) = true ∧ B x z)) :=
  lex_trans_at (fun a b => shareLt (s a) (s b) = true) (fun a b => shareEq (s a) (s b) = true) B x y z
    (shareLt_trans dx dy dz) (shareLt_of_lt_eq dx dy dz) (shareLt_of_eq_lt dx dy dz) (shareEq_trans dx dy dz) hB

theorem prio_lex_trans {α} (pr : α → Int) (B : α → α → Prop) (x y z : α)
    (hB : pr x = pr y → pr y = pr z → B x y → B y z → B x z) :
    (pr x > pr y ∨ (pr x = pr y ∧ B x y)) → (pr y > pr z ∨ (pr y = pr z ∧ B y z)) →
    (pr x > pr z ∨ (pr x = pr z ∧ B x z)) :=
  lex_trans_at (fun a b => pr a > pr b) (fun a b => pr a = pr b) B x y z
    (by intros; omega) (by intros; omega) (by intros; omega) (by intros; omega) hB

/-! ### asks of an application -/

theorem askBefore_iff (a b : AskKey) :
    askBefore a b = true ↔ (a.prio > b.prio ∨ (a.prio = b.prio ∧ a.ctime < b.ctime)) := by
  simp [askBefore]

theorem askBefore_false_iff (a b : AskKey) :
    askBefore a b = false ↔ (a.prio < b.prio ∨ (a.prio = b.prio ∧ a.ctime ≥ b.ctime)) := by
  rw [← Bool.not_eq_true, askBefore_iff]; omega

theorem askLessThan_iff (a o : AskKey) : askLessThan a o = true ↔ askBefore a o = false := by
  rw [askBefore_false_iff]
  unfold askLessThan
  split
  next h => have h' : a.prio = o.prio := by simpa using h
            simp only [decide_eq_true_eq]; omega
  next h => have h' : a.prio ≠ o.prio := by simpa using h
            simp only [decide_eq_true_eq]; omega

/-- `a ≤ b ≤ c` in the documented preorder -/
theorem askBefore_false_trans (a b c : AskKey) (h1 : askBefore b a = false) (h2 : askBefore c b = false) :
    askBefore c a = false := by
  rw [askBefore_false_iff] at *; omega

theorem askInsert_middle_sorted (a : AskKey) (s : List AskKey) (hs : sortedBy askBefore s = true) :
    sortedBy askBefore (insBefore (fun x => askLessThan x a) a s) = true := by
  rw [sortedBy_iff] at hs ⊢
  refine insBefore_pairwise _ a s hs (fun w _ hw => ?_) (fun y _ hy => ?_)
  · rw [← Bool.not_eq_true, askLessThan_iff, askBefore_false_iff] at hw
    rw [askBefore_false_iff]; omega
  · rw [askLessThan_iff] at hy
    exact ⟨hy, fun z _ hz => askBefore_false_trans a y z hy hz⟩

end Yk
