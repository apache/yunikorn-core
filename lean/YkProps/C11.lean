/-
  C11 — Queue max-applications gate admits no untracked application beyond the limit (queue-level clauses).
  Property theorems only.  The clauses that relate the counters to the applications of the subtree
  (running ≤ #Running applications below, allocating ⊆ live applications, zero when empty) are decided on the
  full-stack model; see DESIGN.md C11.
-/
import YkProofs.QueueBudget
namespace Yk.C11
open Yk Yk.QTree

/-- The gate: canRunApp answers yes only if every queue on the path that configures a maximum either already
    tracks the application as allocating or still has room for one more next to the running and allocating ones. -/
theorem gate (t : QTree) (i : Nat) (app : String) (h : canRunApp t i app = true) :
    ∀ j ∈ chain t i, ∀ q, t[j]? = some q → q.maxApps ≠ 0 →
      app ∈ q.allocating ∨ q.running + q.allocating.length + 1 ≤ q.maxApps :=
  canRun_gate t i app h

/- `RunningLeMax t := ∀ q ∈ t, q.maxApps ≠ 0 → q.running ≤ q.maxApps` (YkProofs/QueueBudget.lean) -/

/-- The running count never exceeds the configured maximum: preserved by every counter operation
    (the increment clamps; the maximum itself is fixed here — lowering it is a configuration change). -/

theorem running_le_max (t : QTree) (ops : List CounterOp) (h : RunningLeMax t) :
    RunningLeMax (ops.foldl cstep t) := by
  induction ops generalizing t with
  | nil => exact h
  | cons op ops ih => rw [List.foldl_cons]; exact ih _ (running_le_max_step t op h)

/-- Once an application is counted as running it is no longer reported as allocating on its path. -/
theorem running_not_allocating (t : QTree) (i : Nat) (app : String) (hw : TreeWF t) :
    ∀ j ∈ chain t i, ∀ q', (incRunningApps t i app)[j]? = some q' → app ∉ q'.allocating := by
  intro j hj q' hq'
  unfold incRunningApps at hq'
  rw [applyChain_getElem? _ _ _ (chain_nodup hw i), if_pos hj] at hq'
  cases hq : t[j]? with
  | none => rw [hq] at hq'; cases hq'
  | some q =>
    rw [hq] at hq'
    simp only [Option.map_some, Option.some.injEq] at hq'
    subst hq'
    simp only [List.mem_filter]
    intro hc
    simp at hc

/- `Budget t := ∀ q ∈ t, q.maxApps ≠ 0 → q.running + q.allocating.length ≤ q.maxApps`; `gatedRun t ops`: every
   setAllocatingAccepted / incRunningApps of the history was issued in a state whose gate said yes for that
   application on that queue (what the scheduler does: application.go tryAllocate asks canRunApp for an Accepted
   application before anything is tried) — YkProofs/QueueBudget.lean -/

/-- The gate admits no untracked application beyond the limit, for every history: as long as every admission went
    through the gate, running + allocating never exceeds the maximum of any queue that configures one
    (so the clamp of incRunningApps never fires on such a history). -/
theorem budget (t : QTree) (ops : List CounterOp) (hw : TreeWF t) (h : Budget t) (hg : gatedRun t ops = true) :
    Budget (ops.foldl cstep t) := by
  induction ops generalizing t with
  | nil => exact h
  | cons op ops ih =>
    simp only [gatedRun, Bool.and_eq_true] at hg
    rw [List.foldl_cons]
    exact ih _ (cstep_wf t op hw) (budget_step t op hw h hg.1) hg.2

/-- The gate is necessary: one admission that did not ask (the forced recovery path) takes a queue with a maximum
    of one application to running + allocating = 2. -/
theorem budget_needs_gate :
    ∃ t : QTree, TreeWF t ∧ Budget t ∧ ¬ Budget (cstep (cstep t (.setAllocating 0 "b")) (.incRun 0 "a")) := by
  refine ⟨[{ path := "root", parent := none, max := none, guaranteed := none, allocated := [], maxApps := 1,
             running := 0, allocating := [] }], by decide, ?_, ?_⟩
  · intro q hq hm
    simp only [List.mem_singleton] at hq
    subst hq; simp
  · intro h
    have := h _ (List.mem_singleton.mpr rfl) (by decide)
    revert this
    decide

example : canRunApp exTree 1 "a" = true := by decide +kernel
example : gatedRun (updAt exTree 1 (fun q => { q with maxApps := 2 }))
    [.setAllocating 1 "a", .setAllocating 1 "b", .incRun 1 "a", .decRun 1, .incRun 1 "b"] = true := by decide +kernel
example : gatedRun (updAt exTree 1 (fun q => { q with maxApps := 2 }))
    [.setAllocating 1 "a", .setAllocating 1 "b", .setAllocating 1 "c"] = false := by decide +kernel
example : canRunApp (updAt exTree 1 (fun q => { q with maxApps := 1, running := 1 })) 1 "a" = false := by decide +kernel

end Yk.C11
