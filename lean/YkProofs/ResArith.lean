/- The overflow-checked int64 calculators of resources.go (`goAddVal`, `goSubVal`, `goMulVal`, regenerated from the source)
   are exact or saturate: each equals `clamp` of the exact result.  Behind the calculator theorems of YkProps/C18;
   `goMulValRatio`, which is not of that form, is characterised there (`mulValRatio_exact_or_saturates`). -/
import YkModel.Generated.ResArith
namespace Yk

theorem clamp_inR (x : Int) : inR (clamp x) := by
  unfold inR clamp minI maxI
  omega

theorem clamp_of_inR {x : Int} (h : inR x) : clamp x = x := by
  unfold inR at h; unfold clamp
  rw [if_neg (by omega), if_neg (by omega)]

theorem wrap64_inR (x : Int) : inR (wrap64 x) := by
  unfold inR wrap64 minI maxI; omega

theorem wrap64_id {x : Int} (h : inR x) : wrap64 x = x := by
  unfold inR minI maxI at h; unfold wrap64; omega

theorem wrap64_eq (x : Int) : ∃ k, wrap64 x = x - 18446744073709551616 * k :=
  ⟨(x + 9223372036854775808) / 18446744073709551616, by unfold wrap64; omega⟩

/-- Go's overflow test for `a + c` (compare the wrapped sum with `a`, and `c` with 0) saturates.  `c` may also be
    the negation of an int64, which is how `goSubVal` comes under it. -/
theorem sat_add {a c : Int} {p : Prop} [Decidable p] (ha : inR a) (hc1 : minI ≤ c) (hc2 : c ≤ maxI + 1)
    (hp : p ↔ c < 0) :
    (if (decide (wrap64 (a + c) < a) != decide p) = true then (if decide (a < 0) = true then minI else maxI)
      else wrap64 (a + c)) = clamp (a + c) := by
  unfold inR minI maxI at *
  unfold clamp wrap64 minI maxI
  simp only [bne_iff_ne, ne_eq, decide_eq_decide, decide_eq_true_eq, hp]
  omega

theorem goAddVal_spec {a b : Int} (ha : inR a) (hb : inR b) : goAddVal a b = clamp (a + b) :=
  sat_add ha hb.1 (Int.le_trans hb.2 (by decide)) Iff.rfl

theorem goSubVal_spec {a b : Int} (ha : inR a) (hb : inR b) : goSubVal a b = clamp (a - b) := by
  unfold inR minI maxI at hb
  exact sat_add (c := -b) ha (by unfold minI; omega) (by unfold maxI; omega) (by omega : b > 0 ↔ -b < 0)

theorem goSubVal_inR (a b : Int) : inR (goSubVal a b) := by
  unfold goSubVal
  simp only
  split
  · split
    · unfold inR minI maxI; omega
    · unfold inR minI maxI; omega
  · exact wrap64_inR _

theorem natAbs_tdiv_rem_lt (r : Int) {b : Int} (hb : b ≠ 0) : (r - b * r.tdiv b).natAbs < b.natAbs := by
  have h : r - b * r.tdiv b = r.tmod b := by have := Int.mul_tdiv_add_tmod r b; omega
  rw [h, Int.natAbs_tmod]
  exact Nat.mod_lt _ (by omega)

/-- Go's test for an overflowed product `r = wrap64 (a * b)`, namely `r / b ≠ a`, fires: `r` differs from `a * b` by
    a non-zero multiple of 2^64, while `r / b = a` would put it within `|b|` of `a * b`. -/
theorem mulOverflow_detect {a b : Int} (ha : inR a) (hb : inR b) (hb0 : b ≠ 0)
    (hm : ¬ inR (a * b)) (hs : ¬ (a = minI ∧ b = -1)) :
    wrap64 (Int.tdiv (wrap64 (a * b)) b) ≠ a := by
  intro heq
  obtain ⟨k, hk⟩ := wrap64_eq (a * b)
  have hr := wrap64_inR (a * b)
  generalize wrap64 (a * b) = r at heq hk hr
  have hq := Int.natAbs_tdiv_le_natAbs r b
  have ht := natAbs_tdiv_rem_lt r hb0
  generalize r.tdiv b = q at heq hq ht
  unfold inR minI maxI at *
  unfold wrap64 at heq
  by_cases hq63 : q = 9223372036854775808
  · -- the one quotient that does not fit: `r = minI`, `b = -1`, and then `a = minI`
    subst hq63
    clear hk hm ha hb  -- `omega` is several times cheaper on the facts the step needs
    omega
  · have hqa : q = a := by
      clear hk hm ht hb hs hb0
      omega
    subst hqa
    rw [Int.mul_comm q b] at hk hm
    clear heq hq hq63 hs ha
    omega

theorem mul_neg_iff_sign {a b : Int} (ha : a ≠ 0) (hb : b ≠ 0) : a * b < 0 ↔ ¬ (a < 0 ↔ b < 0) := by
  rcases Int.lt_or_gt_of_ne ha with h1 | h1 <;> rcases Int.lt_or_gt_of_ne hb with h2 | h2
  · have := Int.mul_pos_of_neg_of_neg h1 h2; omega
  · have := Int.mul_neg_of_neg_of_pos h1 h2; omega
  · have := Int.mul_neg_of_pos_of_neg h1 h2; omega
  · have := Int.mul_pos h1 h2; omega

theorem goMulVal_spec {a b : Int} (ha : inR a) (hb : inR b) : goMulVal a b = clamp (a * b) := by
  unfold goMulVal
  by_cases ha0 : a = 0
  · subst ha0; simp [clamp, minI, maxI]
  by_cases hb0 : b = 0
  · subst hb0; simp [clamp, minI, maxI]
  have hm1 : wrap64 (-1) = -1 := by decide
  have hguard : (¬ wrap64 ((wrap64 (a * b)).tdiv b) = a ∨ a = minI ∧ b = -1) ↔ ¬ inR (a * b) := by
    constructor
    · rintro h hm
      rw [wrap64_id hm, Int.mul_tdiv_cancel a hb0, wrap64_id ha] at h
      rcases h with h | ⟨h1, h2⟩
      · exact h rfl
      · subst h1 h2; exact absurd hm (by decide)
    · intro hm
      by_cases hs : a = minI ∧ b = -1
      · exact Or.inr hs
      · exact Or.inl (mulOverflow_detect ha hb hb0 hm hs)
  simp only [ha0, hb0, hm1, decide_false, Bool.or_self, Bool.false_eq_true, if_false, bne_iff_ne, ne_eq,
    decide_eq_decide, decide_eq_true_eq, Bool.or_eq_true, Bool.and_eq_true, ← mul_neg_iff_sign ha0 hb0, hguard]
  by_cases hm : inR (a * b)
  · rw [if_neg (not_not_intro hm), wrap64_id hm, clamp_of_inR hm]
  · rw [if_pos hm]
    unfold clamp inR minI maxI at *
    omega

end Yk
