/-
  C15: assembly.  `validate ps = .ok ps'` is taken apart into the checks of every partition, the per-check lemmas of
  YkProofs/Conf.lean and YkProofs/ConfLimits.lean are put together, and the propositional statements are turned into the
  executable clauses of YkModel/ConfSpec.lean (the ones the driver evaluates on the implementation's output).
  Load side: `QLoadOK` is what loading one queue (applyConf) needs of it, `loadQueue_all` reduces a property of the whole
  load to the queues of the walk; an accepted configuration loads under `LoadHyp` (`accepted_loads`), and a load whose
  quantities parse ends `Benign`: it succeeds or stops at an ACL or a template.
-/
import YkProofs.ConfLimits
namespace Yk.Conf
open Yk Yk.Res

/-- everything `validatePart` checked, for the root it wrote back -/
structure Accepted (p p' : Part) (root : QC) : Prop where
  out : p' = { p with queues := some [root] }
  struct : ∃ r0, checkQueuesStructure p.queues = .ok r0 ∧ checkLimitsStructure p.limits r0 = .ok root
  queues : checkQueues root = .ok ()
  res : ∃ g, checkQueueResource root none = .ok g
  rules : checkPlacementRules p.rules [root] = .ok ()
  nsp : checkNodeSortingPolicy p.nsp p.weights = .ok ()
  apps : checkQueueMaxApps root = .ok ()
  limRes : checkLimitResource root = .ok ()
  limApps : checkLimitMaxApps root = .ok ()

theorem validatePart_ok {p p' : Part} (h : validatePart p = .ok p') : ∃ root, Accepted p p' root := by
  unfold validatePart at h
  simp only [bind_ok, pure_ok] at h
  obtain ⟨r0, h0, root, h1, _, h2, g, h3, _, h4, _, h5, _, h6, _, h7, _, h8, h9⟩ := h
  exact ⟨root, ⟨h9.symm, ⟨r0, h0, h1⟩, h2, ⟨g, h3⟩, h4, h5, h6, h7, h8⟩⟩

theorem validateL_ok : ∀ (ps : List Part) (seen : List String) (ps' : List Part), validateL ps seen = .ok ps' →
    ∀ p' ∈ ps', ∃ p ∈ ps, validatePart { p with name := partName p } = .ok p'
  | [], _, ps', h => by cases h; exact fun p' hp' => nomatch hp'
  | p :: t, seen, ps', h => by
    unfold validateL at h
    simp only at h
    split at h
    · cases h
    · simp only [bind_ok, pure_ok] at h
      obtain ⟨p1, h1, rest, h2, h3⟩ := h
      subst h3
      intro p' hp'
      cases hp' with
      | head => exact ⟨p, List.mem_cons_self, h1⟩
      | tail _ hp' =>
        obtain ⟨q, hq, hv⟩ := validateL_ok t _ rest h2 p' hp'
        exact ⟨q, List.mem_cons_of_mem _ hq, hv⟩

theorem validate_ok {ps ps' : List Part} (h : validate ps = .ok ps') :
    ∀ p' ∈ ps', ∃ p ∈ ps, ∃ root, Accepted { p with name := partName p } p' root := by
  intro p' hp'
  obtain ⟨p, hp, hv⟩ := validateL_ok ps [] ps' h p' hp'
  obtain ⟨root, ha⟩ := validatePart_ok hv
  exact ⟨p, hp, root, ha⟩

/-! ### S1 -/

theorem toLower_root : toLower "root" = "root" := by decide

theorem topRoot_ok (qs : List QC) : toLower (topRoot qs).d.name = "root" ∧ (topRoot qs).d.parent = true := by
  unfold topRoot
  split
  · split
    · rename_i hn; exact ⟨by simpa [QC.d] using hn, rfl⟩
    · exact ⟨toLower_root, rfl⟩
  · exact ⟨toLower_root, rfl⟩

theorem checkQueuesStructure_ok {qs : Option (List QC)} {root : QC} (h : checkQueuesStructure qs = .ok root) :
    toLower root.d.name = "root" ∧ root.d.parent = true ∧ root.d.g = none ∧ root.d.m = none := by
  unfold checkQueuesStructure at h
  cases qs with
  | none => cases h
  | some l =>
    simp only at h
    split at h
    · cases h
    · rename_i hres
      injection h with h
      simp only [Bool.or_eq_true, not_or, Bool.not_eq_true, Option.isSome_eq_false_iff, Option.isNone_iff_eq_none] at hres
      subst h
      exact ⟨(topRoot_ok l).1, (topRoot_ok l).2, hres.1, hres.2⟩

theorem checkLimitsStructure_ok {pl : List Limit} {r0 root : QC} (h : checkLimitsStructure pl r0 = .ok root) :
    root.d.name = r0.d.name ∧ root.d.parent = r0.d.parent ∧ root.d.g = r0.d.g ∧ root.d.m = r0.d.m := by
  unfold checkLimitsStructure at h
  simp only [ite_err_ok] at h
  obtain ⟨_, _, h⟩ := h
  split at h <;> cases h <;> exact ⟨rfl, rfl, rfl, rfl⟩

/-! ### parents in `walk` -/

mutual
theorem walk_parent : ∀ (q : QC) (anc : List QD) (e : Entry), e ∈ walk anc q →
    e = (anc, q) ∨ ∃ p ancp, (ancp, p) ∈ walk anc q ∧ e.2 ∈ p.qs ∧ e.1 = p.d :: ancp
  | .mk d qs, anc => by
    obtain ⟨hself, hsub⟩ := forall_walk.mp fun e (he : e ∈ walk anc (.mk d qs)) => he
    refine forall_walk.mpr ⟨Or.inl rfl, fun e he => Or.inr ?_⟩
    rcases walkL_parent qs (d :: anc) e he with ⟨c, hc, rfl⟩ | ⟨p, ancp, hp, h1, h2⟩
    · exact ⟨.mk d qs, anc, hself, hc, rfl⟩
    · exact ⟨p, ancp, hsub _ hp, h1, h2⟩
theorem walkL_parent : ∀ (qs : List QC) (anc : List QD) (e : Entry), e ∈ walkL anc qs →
    (∃ c ∈ qs, e = (anc, c)) ∨ ∃ p ancp, (ancp, p) ∈ walkL anc qs ∧ e.2 ∈ p.qs ∧ e.1 = p.d :: ancp
  | [], _ => forall_walkL_nil
  | q :: t, anc => by
    obtain ⟨hl, hr⟩ := forall_walkL_cons.mp fun e (he : e ∈ walkL anc (q :: t)) => he
    refine forall_walkL_cons.mpr ⟨fun e he => ?_, fun e he => ?_⟩
    · rcases walk_parent q anc e he with rfl | ⟨p, ancp, hp, h1, h2⟩
      · exact Or.inl ⟨q, List.mem_cons_self, rfl⟩
      · exact Or.inr ⟨p, ancp, hl _ hp, h1, h2⟩
    · rcases walkL_parent t anc e he with ⟨c, hc, rfl⟩ | ⟨p, ancp, hp, h1, h2⟩
      · exact Or.inl ⟨c, List.mem_cons_of_mem _ hc, rfl⟩
      · exact Or.inr ⟨p, ancp, hr _ hp, h1, h2⟩
end

theorem ownG_le_sum : ∀ (qs : List QC) (c : QC) (t : String), c ∈ qs → ownG c t ≤ sumGuaranteed qs t
  | [], _, _, h => by cases h
  | q :: tl, c, t, h => by
    rw [sumGuaranteed_cons]
    cases h with
    | head => have := sumGuaranteed_nonneg tl t; omega
    | tail _ h => have := ownG_le_sum tl c t h; have := (ownG_nonneg q t).1; omega

/-- Q2 towards the ancestors: the guaranteed quantity of a queue is within the maximum of every ancestor -/
theorem guaranteed_within_ancestors (root : QC) (hres : ∀ e ∈ walk [] root, ResOK e) :
    ∀ e ∈ walk [] root, ∀ a ∈ e.1, ∀ t x v, qty e.2.d.g t = some x → qty a.m t = some v → x ≤ v := by
  intro e he a ha t x v hx hv
  rcases walk_parent root [] e he with rfl | ⟨p, ancp, hp, h1, h2⟩
  · cases ha
  · have h4 := (hres (ancp, p) hp).q4 a (by rw [h2] at ha; exact ha) t v hv
    have hle := ownG_le_sum p.qs e.2 t h1
    have hown : ownG e.2 t = x := by simp [ownG, hx]
    have := (qty_nonneg hx).2
    simp only at h4
    omega

theorem leDef_of {a b : Option Int} (h : ∀ x v, a = some x → b = some v → x ≤ v) : leDef a b = true := by
  cases a with
  | none => rfl
  | some x =>
    cases b with
    | none => rfl
    | some v => simpa [leDef] using h x v rfl rfl

/-! ### the theorem: every clause holds for every queue of every accepted partition -/

theorem accepted_root {p p' : Part} {root : QC} (h : Accepted p p' root) : rootOf p' = some root := by
  rw [h.out]; rfl

structure EntryFacts (e : Entry) : Prop where
  res : ResOK e
  gMax : ∀ a ∈ e.2.d :: e.1, ∀ t x v, qty e.2.d.g t = some x → qty a.m t = some v → x ≤ v
  apps : AppsOK e
  loc : LocalOK e
  limAppsAnc : ∀ l ∈ e.2.d.limits, ∀ a ∈ e.2.d :: e.1, a.maxApps ≠ 0 → l.maxApps ≤ a.maxApps
  limRes : LimAncOK resDom resOK false e ∧ LimAncOK resDom resOK true e
  limApps : LimAncOK appsDom appsOK false e ∧ LimAncOK appsDom appsOK true e

theorem clauses_of_facts {e : Entry} (f : EntryFacts e) : ∀ c ∈ clauseList true, c.2 e = true := by
  intro c hc
  simp only [clauseList, List.mem_cons, List.not_mem_nil, or_false] at hc
  rcases hc with rfl | rfl | rfl | rfl | rfl | rfl | rfl | rfl | rfl | rfl | rfl | rfl
  · exact f.loc.names
  · simp only [okMaxWithinAncestors, List.all_eq_true]
    exact fun a ha t _ => leDef_of (f.res.q1 a ha t)
  · simp only [okGuaranteedWithinMax, List.all_eq_true]
    exact fun a ha t _ => leDef_of (f.gMax a ha t)
  · simp only [okChildrenSumG, List.all_eq_true, if_true]
    exact fun t _ => leDef_of fun x v hx hv => Option.some.inj hx ▸ f.res.q3 t v hv
  · simp only [okChildrenSumMax, List.all_eq_true, if_true]
    exact fun a ha t _ => leDef_of fun x v hx hv => Option.some.inj hx ▸ f.res.q4 a ha t v hv
  · simp only [okMaxApps, List.all_eq_true, Bool.or_eq_true, beq_iff_eq, Bool.and_eq_true, bne_iff_ne, ne_eq, decide_eq_true_eq]
    exact fun a ha => (Decidable.em (a.maxApps = 0)).imp_right (f.apps a ha)
  · simp only [okLimitWithinQueueMaxV, Bool.or_eq_true, beq_iff_eq, List.all_eq_true]
    exact (Decidable.em (e.2.d.name = "root")).imp_right fun hn l hl t _ => leDef_of ((f.loc.lim l hl).2.1 hn t)
  · simp only [okLimitApps, List.all_eq_true, Bool.or_eq_true, beq_iff_eq, decide_eq_true_eq]
    exact fun l hl a hmem => (Decidable.em (a.maxApps = 0)).imp_right (f.limAppsAnc l hl a hmem)
  · exact okLimitAncestors_res false e f.limRes.1
  · exact okLimitAncestors_res true e f.limRes.2
  · exact okLimitAncestors_apps false e f.limApps.1
  · exact okLimitAncestors_apps true e f.limApps.2

theorem accepted_facts {p p' : Part} {root : QC} (h : Accepted p p' root) : ∀ e ∈ walk [] root, EntryFacts e := by
  obtain ⟨g, hg⟩ := h.res
  have hres := (cqr_spec root none g [] hg rfl (by intro a ha; cases ha)).1
  have hq2 := guaranteed_within_ancestors root hres
  have happs := cqma_spec root [] h.apps (by intro a ha; cases ha)
  have hloc := cq_spec root [] h.queues
  have hlr := checkLim_spec resDom resOK root [] [] [] h.limRes (inv_nil _ _ _) (inv_nil _ _ _) hloc
  have hla := checkLim_spec appsDom appsOK root [] [] [] h.limApps (inv_nil _ _ _) (inv_nil _ _ _) hloc
  intro e he
  refine ⟨hres e he, List.forall_mem_cons.mpr ⟨(hres e he).q2, hq2 e he⟩, happs e he, hloc e he, fun l hl => ?_, hlr e he, hla e he⟩
  -- the count of a limit is within that of its queue, which is within that of every ancestor that sets one
  refine List.forall_mem_cons.mpr ⟨((hloc e he).lim l hl).1, fun a ha h0 => ?_⟩
  obtain ⟨h1, h2⟩ := happs e he a ha h0
  exact Nat.le_trans (((hloc e he).lim l hl).1 h1) h2

/-- the queues of a validated partition, each with its ancestors (nearest first) -/
def queuesOf (p : Part) : List Entry := match rootOf p with | some r => walk [] r | none => []

theorem queuesOf_accepted {p p' : Part} {root : QC} (h : Accepted p p' root) : queuesOf p' = walk [] root := by
  simp [queuesOf, accepted_root h]

theorem validate_facts {ps ps' : List Part} (h : validate ps = .ok ps') : ∀ p' ∈ ps', ∀ e ∈ queuesOf p', EntryFacts e := by
  intro p' hp' e he
  obtain ⟨p, _, root, ha⟩ := validate_ok h p' hp'
  rw [queuesOf_accepted ha] at he
  exact accepted_facts ha e he

/-! ### loading what was accepted -/

structure QLoadOK (q : QC) : Prop where
  acl : aclLoads q.d.submitACL = true ∧ aclLoads q.d.adminACL = true
  tmpl : isLeafLoaded q = true ∨ tmplEmpty q.d.tmpl = true ∨
    ((∃ r, parseConf q.d.tmpl.m = .ok r) ∧ ∃ r, parseConf q.d.tmpl.g = .ok r)
  parses : ∃ g m, parseConf q.d.g = .ok g ∧ parseConf q.d.m = .ok m

theorem parses2_ok {a b : Option SMap} {e : LErr} {ra rb : Res} (ha : parseConf a = .ok ra) (hb : parseConf b = .ok rb) :
    parses2 a b e = .ok () := by
  unfold parses2; rw [ha, hb]

theorem loadQueueD_ok {q : QC} (isRoot : Bool) (h : QLoadOK q) : loadQueueD q.d (!q.qs.isEmpty) isRoot = .ok () := by
  obtain ⟨⟨a1, a2⟩, ht, ⟨g, m, hg, hm⟩⟩ := h
  have h1 : loadAcl q.d = .ok () := by simp [loadAcl, a1, a2]
  have h2 : loadTmpl q.d (!q.d.parent && !(!q.qs.isEmpty)) = .ok () := by
    unfold loadTmpl
    rcases ht with h1 | h1 | ⟨⟨r1, h1⟩, ⟨r2, h2⟩⟩
    · simp only [isLeafLoaded] at h1; simp [h1]
    · simp [h1]
    · rw [parses2_ok h1 h2]; split <;> rfl
  have h3 : loadRes q.d isRoot = .ok () := by
    unfold loadRes; rw [parses2_ok hm hg]; split <;> rfl
  unfold loadQueueD
  rw [h1, h2, h3]
  rfl

mutual
theorem loadQueue_all (P : Except LErr Unit → Prop) (hok : P (.ok ())) (hseq : ∀ x y, P x → P y → P (x >>= fun _ => y)) :
    ∀ (q : QC) (isRoot : Bool) (anc : List QD),
      (∀ e ∈ walk anc q, ∀ r, P (loadQueueD e.2.d (!e.2.qs.isEmpty) r)) → P (loadQueue q isRoot)
  | .mk d qs, isRoot, anc, h => by
    obtain ⟨h0, hr⟩ := forall_walk.mp h
    unfold loadQueue
    exact hseq _ _ (h0 isRoot) (loadQueueL_all P hok hseq qs (d :: anc) hr)
theorem loadQueueL_all (P : Except LErr Unit → Prop) (hok : P (.ok ())) (hseq : ∀ x y, P x → P y → P (x >>= fun _ => y)) :
    ∀ (qs : List QC) (anc : List QD),
      (∀ e ∈ walkL anc qs, ∀ r, P (loadQueueD e.2.d (!e.2.qs.isEmpty) r)) → P (loadQueueL qs)
  | [], _, _ => hok
  | q :: t, anc, h => by
    obtain ⟨hq, ht⟩ := forall_walkL_cons.mp h
    unfold loadQueueL
    exact hseq _ _ (loadQueue_all P hok hseq q false anc hq) (loadQueueL_all P hok hseq t anc ht)
end

theorem loadQueueL_ok : ∀ (qs : List QC) (anc : List QD), (∀ e ∈ walkL anc qs, QLoadOK e.2) → loadQueueL qs = .ok () :=
  fun qs anc h => loadQueueL_all (· = .ok ()) rfl (by rintro _ _ rfl rfl; rfl) qs anc fun e he r => loadQueueD_ok r (h e he)

mutual
theorem loadLimits_ok : ∀ (q : QC) (anc : List QD), (∀ e ∈ walk anc q, LimOK e.2.d) → loadLimits q = .ok ()
  | .mk d qs, anc, h => by
    obtain ⟨h0, hr⟩ := forall_walk.mp h
    unfold loadLimits
    have : d.limits.all limitParses = true := by
      rw [List.all_eq_true]
      intro l hl
      obtain ⟨lr, hlr⟩ := (h0 l hl).2.2
      simp [limitParses, hlr]
    simp only [this, Bool.not_true, Bool.false_eq_true, if_false]
    exact loadLimitsL_ok qs (d :: anc) hr
theorem loadLimitsL_ok : ∀ (qs : List QC) (anc : List QD), (∀ e ∈ walkL anc qs, LimOK e.2.d) → loadLimitsL qs = .ok ()
  | [], _, _ => rfl
  | q :: t, anc, h => by
    obtain ⟨hq, ht⟩ := forall_walkL_cons.mp h
    unfold loadLimitsL
    simp only [bind, Except.bind, loadLimits_ok q anc hq]
    exact loadLimitsL_ok t anc ht
end

/-- the hypotheses under which an accepted partition loads: each one excludes a class of documents that validation lets
    through (see the refutations in YkProps/C15.lean) -/
structure LoadHyp (root : QC) : Prop where
  rootName : root.d.name = "root"
  acl : ∀ e ∈ walk [] root, aclLoads e.2.d.submitACL = true ∧ aclLoads e.2.d.adminACL = true
  tmpl : ∀ e ∈ walk [] root, isLeafLoaded e.2 = true ∨ tmplEmpty e.2.d.tmpl = true ∨
    ((∃ r, parseConf e.2.d.tmpl.m = .ok r) ∧ ∃ r, parseConf e.2.d.tmpl.g = .ok r)

theorem accepted_loads {p p' : Part} {root : QC} (h : Accepted p p' root) (hl : LoadHyp root) :
    loadNew p' = .ok () ∧ (loadRules p'.rules = .ok () → loadRunning p' = .ok ()) := by
  have hf := accepted_facts h
  have hq : loadQueue root true = .ok () :=
    loadQueue_all (· = .ok ()) rfl (by rintro _ _ rfl rfl; rfl) root true []
      fun e he r => loadQueueD_ok r ⟨hl.acl e he, hl.tmpl e he, (hf e he).res.parses⟩
  have hlim : loadLimits root = .ok () := loadLimits_ok root [] (fun e he => (hf e he).loc.lim)
  rw [h.out]
  simp only [loadNew, loadRunning, loadQueues, hl.rootName, bne_self_eq_false, Bool.false_eq_true, if_false, hq, hlim, ok_bind, true_and]
  intro hr
  rw [hr]
  rfl

/-- a load result that is fine or fails for one of the two queue-level reasons validation does not cover -/
def Benign (r : Except LErr Unit) : Prop := r = .ok () ∨ r = .error .acl ∨ r = .error .tmplParse

theorem Benign.seq {x y : Except LErr Unit} (hx : Benign x) (hy : Benign y) : Benign (x >>= fun _ => y) := by
  rcases hx with rfl | rfl | rfl
  · exact hy
  · exact .inr (.inl rfl)
  · exact .inr (.inr rfl)

theorem loadQueueD_benign {d : QD} (hc isRoot : Bool) (hp : ∃ g m, parseConf d.g = .ok g ∧ parseConf d.m = .ok m) :
    Benign (loadQueueD d hc isRoot) := by
  obtain ⟨g, m, hg, hm⟩ := hp
  have h3 : loadRes d isRoot = .ok () := by
    unfold loadRes; rw [parses2_ok hm hg]; split <;> rfl
  have h1 : Benign (loadAcl d) := by
    unfold loadAcl; split
    · exact .inr (.inl rfl)
    · split
      · exact .inr (.inl rfl)
      · exact .inl rfl
  have h2 : Benign (loadTmpl d (!d.parent && !hc)) := by
    unfold loadTmpl; split
    · unfold parses2; split
      · exact .inr (.inr rfl)
      · split
        · exact .inr (.inr rfl)
        · exact .inl rfl
    · exact .inl rfl
  exact h1.seq (h2.seq (.inl h3))

theorem loadQueueL_benign : ∀ (qs : List QC) (anc : List QD),
    (∀ e ∈ walkL anc qs, ∃ g m, parseConf e.2.d.g = .ok g ∧ parseConf e.2.d.m = .ok m) → Benign (loadQueueL qs) :=
  fun qs anc h => loadQueueL_all Benign (.inl rfl) (fun _ _ => Benign.seq) qs anc fun e he r => loadQueueD_benign _ r (h e he)

end Yk.Conf
