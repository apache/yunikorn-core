/- Manager level: Manager.Headroom followed by IncreaseTrackedResource applies `headroom_enforces_tree` to the user's
   tracker tree and to the tree of the group resolved for the application; Manager.CanRunApp likewise with
   `canRun_enforces_tree`. -/
import YkProofs.UgmOps
namespace Yk.Ugm
open Yk Yk.Res

/-- resource vectors of the manager are Go maps -/
structure MgrWf (m : Mgr) : Prop where
  wild : WildWf m.userWild
  users : ∀ u ut, aget m.users u = some ut → TreeWf ut.qt
  groups : ∀ g gt, aget m.groups g = some gt → TreeWf gt.qt

theorem wildWf_nil : WildWf [] := by intro p l h; cases h

theorem newTree_wf {w : List (Path × Limit)} (hw : WildWf w) (isUser : Bool) : TreeWf (newTree w isUser) := by
  intro p n hn
  rw [aget_newTree] at hn
  split at hn
  · cases hn; exact newNode_wf hw isUser _
  · cases hn

theorem headroom_wf {w : List (Path × Limit)} (hw : WildWf w) (isUser : Bool) {t : Tree} (ht : TreeWf t) (q : Path) :
    oresWf (headroom w isUser t q).2 = true :=
  headroom_fold_wf (ensurePath_wf hw isUser ht q) _

theorem eGTFA_user (m : Mgr) (q : Path) (app u : String) (ugs : List String) {ut : UT} (hut : aget m.users u = some ut) :
    ∃ ut', aget (ensureGroupTrackerForApp m q app u ugs).users u = some ut' ∧ ut'.qt = ut.qt ∧
      hasGroupForApp (ensureGroupTrackerForApp m q app u ugs) u app = true ∧
      (ensureGroupTrackerForApp m q app u ugs).userWild = m.userWild := by
  obtain ⟨f, hf, e⟩ := eGTFA_users m q app u ugs
  refine ⟨f ut, by rw [e, aget_amod, if_pos rfl, hut]; rfl, hf ut, ?_, (eGTFA_frame m q app u ugs).2.2⟩
  exact hasGroup_eGTFA (by rw [ahas_eq, hut]; rfl) q app ugs

theorem eGTFA_groups (m : Mgr) (q : Path) (app u : String) (ugs : List String) (hg : ∀ g gt, aget m.groups g = some gt → TreeWf gt.qt) :
    ∀ g gt, aget (ensureGroupTrackerForApp m q app u ugs).groups g = some gt → TreeWf gt.qt := by
  intro g gt hgt
  rcases eGTFA_groups_cases m q app u ugs with e | ⟨_, _, e⟩
  · exact hg g gt (e ▸ hgt)
  · rw [e, aget_append_single] at hgt
    cases hm : aget m.groups g with
    | some gt0 => rw [hm] at hgt; cases hgt; exact hg g _ hm
    | none =>
      rw [hm] at hgt
      by_cases e' : ensureGroup m ugs q = g
      · simp only [e', if_true, Option.some.injEq] at hgt; subst hgt
        exact newTree_wf wildWf_nil false
      · simp [e'] at hgt

/-! ### the state Headroom and CanRunApp leave -/

theorem touchUser_shape (m : Mgr) (q : Path) (app u : String) (ugs : List String) :
    ∃ ut0 ut3, aget (ensureUser m u).users u = some ut0 ∧ aget (touchUser m q app u ugs).users u = some ut3 ∧
      ut3.qt = ensurePath m.userWild true ut0.qt q ∧ hasGroupForApp (touchUser m q app u ugs) u app = true ∧
      (touchUser m q app u ugs).userWild = m.userWild := by
  obtain ⟨ut0, hut0⟩ : ∃ ut0, aget (ensureUser m u).users u = some ut0 := by
    rw [aget_ensureUser]; cases aget m.users u <;> simp
  have hw0 := (ensureUser_frame m u).2.1
  have hut2 : aget (updUser (ensureUser m u) u (fun ut => { ut with qt := ensurePath (ensureUser m u).userWild true ut.qt q })).users u =
      some { ut0 with qt := ensurePath (ensureUser m u).userWild true ut0.qt q } := by
    rw [aget_updUser, hut0]; simp
  obtain ⟨ut3, h1, h2, h3, h4⟩ := eGTFA_user _ q app u ugs hut2
  exact ⟨ut0, ut3, hut0, h1, by rw [h2, hw0], h3, h4.trans hw0⟩

theorem touchUser_groups_wf {m : Mgr} (hm : MgrWf m) (q : Path) (app u : String) (ugs : List String) :
    ∀ g gt, aget (touchUser m q app u ugs).groups g = some gt → TreeWf gt.qt := by
  apply eGTFA_groups
  have := (ensureUser_frame m u).1
  intro g gt h
  exact hm.groups g gt (this ▸ h)

theorem touchM_shape (m : Mgr) (q : Path) (app u : String) (ugs : List String) :
    (touchM m q app u ugs).users = (touchUser m q app u ugs).users ∧
    (touchM m q app u ugs).userWild = (touchUser m q app u ugs).userWild ∧
    ∀ gt1, groupForApp (touchUser m q app u ugs) u app ≠ "" →
      aget (touchM m q app u ugs).groups (groupForApp (touchUser m q app u ugs) u app) = some gt1 →
      ∃ gt0, aget (touchUser m q app u ugs).groups (groupForApp (touchUser m q app u ugs) u app) = some gt0 ∧
        gt1.qt = ensurePath [] false gt0.qt q := by
  simp only [touchM]
  generalize touchUser m q app u ugs = m3
  by_cases hg : (groupForApp m3 u app == "") = true
  · rw [if_pos hg]
    exact ⟨rfl, rfl, fun gt1 hne => absurd (by simpa using hg) hne⟩
  · rw [if_neg hg]
    refine ⟨rfl, rfl, fun gt1 _ h => ?_⟩
    rw [aget_updGroup, if_pos rfl] at h
    cases hgt : aget m3.groups (groupForApp m3 u app) with
    | none => rw [hgt] at h; cases h
    | some gt0 => rw [hgt] at h; cases h; exact ⟨gt0, rfl, rfl⟩

theorem groupForApp_users_eq {m m' : Mgr} (h : m'.users = m.users) (u app : String) : groupForApp m' u app = groupForApp m u app :=
  groupForApp_congr (linkOf_users_eq (congrArg (aget · u) h) app)

theorem hasGroup_users_eq {m m' : Mgr} (h : m'.users = m.users) (u app : String) : hasGroupForApp m' u app = hasGroupForApp m u app := by
  rw [hasGroup_linkOf, hasGroup_linkOf, linkOf_users_eq (congrArg (aget · u) h)]

/-! ### what Headroom and CanRunApp answer -/

theorem touchGroup_snd {γ : Type} (m : Mgr) (g : String) (f : GT → GT) (a : γ) (b : GT → γ) :
    (if g == "" then (m, a) else match aget m.groups g with | none => (m, a) | some gt => (updGroup m g f, b gt)).2 =
      if g == "" then a else match aget m.groups g with | none => a | some gt => b gt := by
  split
  · rfl
  · split <;> rfl

theorem headroomM_snd (m : Mgr) (q : Path) (app u : String) (ugs : List String) {ut0 : UT}
    (hut0 : aget (ensureUser m u).users u = some ut0) :
    (headroomM m q app u ugs).2 =
      if groupForApp (touchUser m q app u ugs) u app == "" then (headroom (ensureUser m u).userWild true ut0.qt q).2
      else match aget (touchUser m q app u ugs).groups (groupForApp (touchUser m q app u ugs) u app) with
        | none => (headroom (ensureUser m u).userWild true ut0.qt q).2
        | some gt => componentWiseMin (headroom (ensureUser m u).userWild true ut0.qt q).2 (headroom [] false gt.qt q).2 := by
  unfold headroomM
  refine (touchGroup_snd _ _ _ _ _).trans ?_
  rw [eGTFA_absorb, hut0]
  rfl

theorem canRunM_snd (m : Mgr) (q : Path) (app u : String) (ugs : List String) {ut0 : UT}
    (hut0 : aget (ensureUser m u).users u = some ut0) :
    (canRunM m q app u ugs).2 =
      if groupForApp (touchUser m q app u ugs) u app == "" then (canRunApp (ensureUser m u).userWild true ut0.qt q app).2
      else match aget (touchUser m q app u ugs).groups (groupForApp (touchUser m q app u ugs) u app) with
        | none => (canRunApp (ensureUser m u).userWild true ut0.qt q app).2
        | some gt => (canRunApp (ensureUser m u).userWild true ut0.qt q app).2 && (canRunApp [] false gt.qt q app).2 := by
  unfold canRunM
  refine (touchGroup_snd _ _ _ _ _).trans ?_
  rw [eGTFA_absorb, hut0]
  rfl

theorem increaseM_shape (m1 : Mgr) (q : Path) (app : String) (r : Res) (u : String) (ugs : List String)
    (hq : q ≠ []) (happ : app ≠ "") (hu : u ≠ "") {ut1 : UT} (hut1 : aget m1.users u = some ut1)
    (hhas : hasGroupForApp m1 u app = true) :
    (∃ ut2, aget (increaseM m1 q app r u ugs).users u = some ut2 ∧ ut2.qt = increase m1.userWild true ut1.qt q app r) ∧
    (∀ gt1, groupForApp m1 u app ≠ "" → aget m1.groups (groupForApp m1 u app) = some gt1 →
      ∃ gt2, aget (increaseM m1 q app r u ugs).groups (groupForApp m1 u app) = some gt2 ∧ gt2.qt = increase [] false gt1.qt q app r) := by
  have heu : ensureUser m1 u = m1 := ensureUser_of_has (by rw [ahas_eq, hut1]; rfl)
  have hbook : bookUser m1 q app r u ugs = updUser m1 u (fun ut => { ut with qt := increase m1.userWild true ut.qt q app r }) := by
    unfold bookUser ensureGroupTrackerForApp
    rw [heu, if_pos hhas]
  rw [increaseM_eq (guard_false hq happ hu), hbook]
  generalize hm3 : updUser m1 u (fun ut => { ut with qt := increase m1.userWild true ut.qt q app r }) = m3
  have hut3 : aget m3.users u = some { ut1 with qt := increase m1.userWild true ut1.qt q app r } := by
    rw [← hm3, aget_updUser, hut1]; simp
  have hg3 : groupForApp m3 u app = groupForApp m1 u app := by
    rw [← hm3]; refine groupForApp_congr (linkOf_updUser_qt _ _ _ ?_ _ _); intro ut; rfl
  have hgr3 : m3.groups = m1.groups := by rw [← hm3]; rfl
  by_cases hgE : (groupForApp m3 u app == "") = true
  · rw [if_pos hgE]
    refine ⟨⟨_, hut3, rfl⟩, ?_⟩
    intro gt1 hne; rw [← hg3] at hne; exact absurd (by simpa using hgE) hne
  · rw [if_neg hgE]
    refine ⟨⟨_, hut3, rfl⟩, ?_⟩
    intro gt1 _ hgt1
    rw [hg3, aget_updGroup, hgr3, hgt1]
    simp

/-- ENFORCEMENT at the manager: when the ask fits (FitInMaxUndef) in what Manager.Headroom answered, then after
    IncreaseTrackedResource the usage of the user AND of the group resolved for the application is within every limit on
    the path, on the types of the ask the limit defines, provided it was before. -/
theorem manager_enforces (m : Mgr) (q : Path) (app u : String) (ugs : List String) (r : Res) (hm : MgrWf m)
    (hq : q ≠ []) (happ : app ≠ "") (hu : u ≠ "") (hr : wf r = true)
    (hfit : fitInMaxUndef (headroomM m q app u ugs).2 (some r) = true) :
    (∃ ut1 ut2, aget (headroomM m q app u ugs).1.users u = some ut1 ∧
      aget (increaseM (headroomM m q app u ugs).1 q app r u ugs).users u = some ut2 ∧ Within ut1.qt ut2.qt q r) ∧
    (∀ gt1, groupForApp (headroomM m q app u ugs).1 u app ≠ "" →
      aget (headroomM m q app u ugs).1.groups (groupForApp (headroomM m q app u ugs).1 u app) = some gt1 →
      ∃ gt2, aget (increaseM (headroomM m q app u ugs).1 q app r u ugs).groups (groupForApp (headroomM m q app u ugs).1 u app) = some gt2 ∧
        Within gt1.qt gt2.qt q r) := by
  obtain ⟨ut0, ut1, hut0, hut1, hqt1, hhas, hw1⟩ := touchUser_shape m q app u ugs
  obtain ⟨sU, sW, sG⟩ := touchM_shape m q app u ugs
  have hwf0 : TreeWf ut0.qt := by
    rw [aget_ensureUser] at hut0
    cases hh : aget m.users u with
    | some ut => rw [hh] at hut0; cases hut0; exact hm.users u _ hh
    | none => rw [hh, if_pos rfl] at hut0; cases hut0; exact newTree_wf hm.wild true
  have hw0 := (ensureUser_frame m u).2.1
  have hgwf := touchUser_groups_wf hm q app u ugs
  have huh := headroom_wf hm.wild true hwf0 q
  -- the answer is at most the user's headroom and, with a group tracker, the group's
  have hans := headroomM_snd m q app u ugs hut0
  rw [hw0] at hans
  rw [headroomM_fst]
  rw [← sU] at hut1
  obtain ⟨⟨ut2, hut2, hqt2⟩, hg2⟩ := increaseM_shape (touchM m q app u ugs) q app r u ugs hq happ hu hut1
    ((hasGroup_users_eq sU u app).trans hhas)
  rw [groupForApp_users_eq sU u app] at hg2 ⊢
  generalize groupForApp (touchUser m q app u ugs) u app = G at hans sG hg2 ⊢
  constructor
  · refine ⟨ut1, ut2, hut1, hut2, ?_⟩
    rw [hqt2, hqt1, sW, hw1]
    refine headroom_enforces_tree m.userWild true ut0.qt q app r hm.wild hwf0 hr _ ?_ hfit
    rw [hans]
    split
    · exact Yk.Tighter.refl _
    · split
      · exact Yk.Tighter.refl _
      · exact (cwm_le huh (headroom_wf wildWf_nil false (hgwf _ _ ‹_›) q)).1
  · intro gt1 hne hgt1
    obtain ⟨gt0, hgt0, hq0⟩ := sG gt1 hne hgt1
    obtain ⟨gt2, hgt2, hgq2⟩ := hg2 gt1 hne hgt1
    refine ⟨gt2, hgt2, ?_⟩
    rw [hgq2, hq0]
    refine headroom_enforces_tree [] false gt0.qt q app r wildWf_nil (hgwf _ _ hgt0) hr _ ?_ hfit
    rw [hans, if_neg (by simpa using hne), hgt0]
    exact (cwm_le huh (headroom_wf wildWf_nil false (hgwf _ _ hgt0) q)).2

/-! ### CanRunApp -/

/-- ENFORCEMENT at the manager, applications: when Manager.CanRunApp said yes, after IncreaseTrackedResource every tracker
    on the path of the user's tree and of the resolved group's tree runs at most its maximum number of applications
    (unless the application was already running there). -/
theorem manager_canRun_enforces (m : Mgr) (q : Path) (app u : String) (ugs : List String) (r : Res)
    (hq : q ≠ []) (happ : app ≠ "") (hu : u ≠ "") (hcan : (canRunM m q app u ugs).2 = true) :
    (∃ ut1 ut2, aget (canRunM m q app u ugs).1.users u = some ut1 ∧
      aget (increaseM (canRunM m q app u ugs).1 q app r u ugs).users u = some ut2 ∧ WithinApps ut1.qt ut2.qt q app) ∧
    (∀ gt1, groupForApp (canRunM m q app u ugs).1 u app ≠ "" →
      aget (canRunM m q app u ugs).1.groups (groupForApp (canRunM m q app u ugs).1 u app) = some gt1 →
      ∃ gt2, aget (increaseM (canRunM m q app u ugs).1 q app r u ugs).groups (groupForApp (canRunM m q app u ugs).1 u app) = some gt2 ∧
        WithinApps gt1.qt gt2.qt q app) := by
  obtain ⟨ut0, ut1, hut0, hut1, hqt1, hhas, hw1⟩ := touchUser_shape m q app u ugs
  obtain ⟨sU, sW, sG⟩ := touchM_shape m q app u ugs
  have hw0 := (ensureUser_frame m u).2.1
  have hans := canRunM_snd m q app u ugs hut0
  rw [hw0, hcan] at hans
  rw [canRunM_fst]
  rw [← sU] at hut1
  obtain ⟨⟨ut2, hut2, hqt2⟩, hg2⟩ := increaseM_shape (touchM m q app u ugs) q app r u ugs hq happ hu hut1
    ((hasGroup_users_eq sU u app).trans hhas)
  rw [groupForApp_users_eq sU u app] at hg2 ⊢
  generalize groupForApp (touchUser m q app u ugs) u app = G at hans sG hg2 ⊢
  constructor
  · refine ⟨ut1, ut2, hut1, hut2, ?_⟩
    rw [hqt2, hqt1, sW, hw1]
    refine canRun_enforces_tree m.userWild true ut0.qt q app r ?_
    split at hans
    · exact hans.symm
    · split at hans
      · exact hans.symm
      · exact (Bool.and_eq_true_iff.mp hans.symm).1
  · intro gt1 hne hgt1
    obtain ⟨gt0, hgt0, hq0⟩ := sG gt1 hne hgt1
    obtain ⟨gt2, hgt2, hgq2⟩ := hg2 gt1 hne hgt1
    refine ⟨gt2, hgt2, ?_⟩
    rw [hgq2, hq0]
    refine canRun_enforces_tree [] false gt0.qt q app r ?_
    rw [if_neg (by simpa using hne), hgt0] at hans
    exact (Bool.and_eq_true_iff.mp hans.symm).2

end Yk.Ugm
