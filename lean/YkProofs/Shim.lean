/- C04: what acceptance by the shim-side monitor automaton (`ShimView.step/run`) guarantees. -/
import YkModel.Shim
import YkProofs.Lists
namespace Yk
open ShimView

def KInv (asks : List (String × String)) (bound : List (String × String × String)) : Prop :=
  (bound.map (·.1)).Nodup ∧ (asks.map (·.1)).Nodup ∧ ∀ k, k ∈ asks.map (·.1) → k ∉ bound.map (·.1)

def RegInv (v : ShimView) : Prop := v.apps.Nodup ∧ v.nodes.Nodup

theorem not_mem_map_filter_ne {α : Type} (f : α → String) (l : List α) (key : String) :
    key ∉ (l.filter (fun x => f x != key)).map f := by
  intro h
  obtain ⟨x, hx, hk⟩ := List.mem_map.mp h
  have := (List.mem_filter.mp hx).2
  simp [hk] at this

theorem KInv.nil : KInv [] [] := ⟨List.nodup_nil, List.nodup_nil, fun _ h => by cases h⟩

theorem KInv.filter {a : List (String × String)} {b : List (String × String × String)} (h : KInv a b)
    (p : String × String → Bool) (q : String × String × String → Bool) : KInv (a.filter p) (b.filter q) :=
  ⟨nodup_map_filter _ q h.1, nodup_map_filter _ p h.2.1,
   fun k hk hb => h.2.2 k ((List.filter_sublist.map _).subset hk) ((List.filter_sublist.map _).subset hb)⟩

theorem KInv.ask {a : List (String × String)} {b : List (String × String × String)} (h : KInv a b)
    (key app : String) (ha : key ∉ a.map (·.1)) (hb : key ∉ b.map (·.1)) : KInv ((key, app) :: a) b := by
  refine ⟨h.1, ?_, ?_⟩
  · rw [List.map_cons, List.nodup_cons]; exact ⟨ha, h.2.1⟩
  · intro k hk
    rw [List.map_cons, List.mem_cons] at hk
    rcases hk with rfl | hk
    · exact hb
    · exact h.2.2 k hk

theorem KInv.alloc {a : List (String × String)} {b : List (String × String × String)} (h : KInv a b)
    (key app node : String) (hb : key ∉ b.map (·.1)) :
    KInv (a.filter (fun x => x.1 != key)) ((key, app, node) :: b) := by
  refine ⟨?_, nodup_map_filter _ _ h.2.1, ?_⟩
  · rw [List.map_cons, List.nodup_cons]; exact ⟨hb, h.1⟩
  · intro k hk hkb
    rw [List.map_cons, List.mem_cons] at hkb
    rcases hkb with rfl | hkb
    · exact not_mem_map_filter_ne (fun x : String × String => x.1) a _ hk
    · exact h.2.2 k ((List.filter_sublist.map _).subset hk) hkb

theorem KInv.place {a : List (String × String)} {b : List (String × String × String)} (h : KInv a b)
    (key app node : String) :
    KInv (a.filter (fun x => x.1 != key)) ((key, app, node) :: b.filter (fun x => x.1 != key)) :=
  (h.filter (fun _ => true) (fun x => x.1 != key)).alloc key app node
    (not_mem_map_filter_ne (fun x : String × String × String => x.1) b key) |> fun r => by
      simpa [List.filter_filter] using r

theorem any_fst_iff {β : Type} (l : List (String × β)) (key : String) :
    l.any (fun x => x.1 == key) = true ↔ key ∈ l.map (·.1) := by
  simp only [List.any_eq_true, List.mem_map, beq_iff_eq]

theorem keyKnown_iff (v : ShimView) (key : String) :
    v.keyKnown key = true ↔ (key ∈ v.asks.map (·.1) ∨ key ∈ v.bound.map (·.1)) := by
  unfold keyKnown
  rw [Bool.or_eq_true, any_fst_iff, any_fst_iff]

theorem any_ask_iff (l : List (String × String)) (key app : String) :
    l.any (fun a => a.1 == key && a.2 == app) = true ↔ (key, app) ∈ l := by
  rw [List.any_eq_true]
  constructor
  · rintro ⟨⟨a, b⟩, hx, hk⟩
    simp only [Bool.and_eq_true, beq_iff_eq] at hk
    obtain ⟨rfl, rfl⟩ := hk
    exact hx
  · intro h
    exact ⟨(key, app), h, by simp⟩

theorem nodup_cons_unless {l : List String} (a : String) (h : l.Nodup) :
    (if l.contains a = true then l else a :: l).Nodup := by
  by_cases hc : l.contains a = true
  · simp only [hc, if_true]; exact h
  · simp only [hc, Bool.false_eq_true, if_false]
    exact List.nodup_cons.mpr ⟨fun hm => hc (List.contains_iff_mem.mpr hm), h⟩

theorem ShimView.step_inv (v : ShimView) (m : ShimMsg) (h : KInv v.asks v.bound ∧ RegInv v) :
    ∀ v' ∈ v.step m, KInv v'.asks v'.bound ∧ RegInv v' := by
  obtain ⟨hk, hr⟩ := h
  -- the cases are the 26 branches of `ShimView.step` numbered in the order of its text, one per message and per `if` below
  -- it (binders by position): a new message or guard there renumbers all that follow, and the last line then meets the wrong goal
  fun_cases step v m
  all_goals simp only [Option.mem_def, Option.some.injEq, forall_eq', reduceCtorEq, false_implies, implies_true]
  case case2 => exact ⟨hk, hr.1, hr.2.filter _⟩                 -- nodeRemove
  case case4 => exact ⟨hk.filter _ _, hr.1.filter _, hr.2⟩      -- appRemove
  case case6 key app hkn =>                                      -- ask, the key is not known yet
    rw [keyKnown_iff, not_or] at hkn
    exact ⟨hk.ask key app hkn.1 hkn.2, hr⟩
  case case7 key app node => exact ⟨hk.place key app node, hr⟩  -- place
  -- newAlloc, the last branch: all four checks passed
  case case15 key app node _ _ _ _ hb => exact ⟨hk.alloc key app node (mt (any_fst_iff _ _).mpr hb), hr⟩
  case case20 app _ => exact ⟨hk, nodup_cons_unless app hr.1, hr.2⟩   -- appAccepted of a submitted application
  case case24 n _ => exact ⟨hk, hr.1, nodup_cons_unless n hr.2⟩       -- nodeAccepted of a submitted node
  all_goals first | exact ⟨hk, hr⟩ | exact ⟨hk.filter _ _, hr⟩

theorem ShimView.run_inv {P : ShimView → Prop} (hstep : ∀ v m, P v → ∀ v' ∈ v.step m, P v') {trace : List ShimMsg} {v0 v : ShimView}
    (h0 : P v0) (h : run v0 trace = some v) : P v := by
  induction trace generalizing v0 with
  | nil => exact Option.some.inj h ▸ h0
  | cons m ms ih =>
    simp only [run] at h
    cases hs : v0.step m with
    | none => rw [hs] at h; cases h
    | some v1 => rw [hs] at h; exact ih (hstep v0 m h0 v1 hs) h

/-! `step` answers a message of the core by a chain of guards; these two read `isSome` off such a chain -/

theorem isSome_ite_none {α : Type} {c : Prop} [Decidable c] {x : Option α} :
    (if c then none else x).isSome = true ↔ ¬ c ∧ x.isSome = true := by
  split <;> simp [*]

theorem isSome_ite_some {α : Type} {c : Prop} [Decidable c] {a : α} {x : Option α} :
    (if c then some a else x).isSome = true ↔ c ∨ x.isSome = true := by
  split <;> simp [*]

end Yk
