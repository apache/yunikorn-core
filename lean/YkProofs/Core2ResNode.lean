/-
  C09 on the stepped Core model: the reservation invariant `ResInv` (YkProofs/Core2Res.lean) is preserved by the removal
  of a node (`nodeRemove`).  Between the fold that cancels the reservations on the node and the final drop of the node
  the node still lists its original reservations while the applications have forgotten them, so `ResInv` does not hold
  of the states in between.  The proof follows the state in which the node lists only what is still to be cancelled
  (`ResD.setResv id l c`): there `ResInv` itself holds (`res_setResv` at the start), one round of the fold is
  `ResA.res_drop` (`res_unreserveOn`), a round of the loop over the allocations gives one application a new record
  (`ResD.resAway_shape`, with the record lemmas of Core2ResRel.lean), and the final drop is the step "a node that lists
  nothing leaves" (`res_dropNode`).  `res_nodeRemove` carries `ResInv (setResv id [] ·)` through loop and sweep: that is what
  the `resAway_…` lemmas are about.

  `ResMid id l c` (the keys `l` of the node are still to be cancelled) and `ResOff id c = ResMid id [] c` say what holds of
  the state `c` itself in between, `ResInv` "away from the node": the invariant of the loop as a statement of its own.
  `resOff_of_setResv` / `res_of_resOff` show that `ResOff id c` says the same as `ResInv (setResv id [] c)`, and
  `resOff_leaveApp` is the one step stated with it; `res_nodeRemove` does not go through them.
-/
import YkProofs.Core2ResApp
import YkProofs.Core2LifeNode
namespace Yk
open Res Core
open ResS
open ResC (nsig qsig quietSt)

namespace ResD

/-! ### the invariant away from the node that is being removed -/

/-- `ResC.quietSt`, under the name the statement of `ResMid` uses -/
def Bad (st : String) : Prop := st = "Failing" ∨ st = "Completing" ∨ terminated st = true

/-- `ResInv` while node `id` is being removed and the reservations `l` of the node are still to be cancelled: the
    node-side clauses only speak about the other nodes; a reservation of an application on node `id` is one of `l`, and
    every key of `l` is still reserved by some application (`todo`).  (`queueNone` / `queueCount` are the two halves of
    `ResInv.queueCount`.) -/
structure ResMid (id : String) (l : List String) (c : Core) : Prop where
  appNode : ∀ a ∈ c.apps, a.live = true → ∀ r ∈ a.reservations,
    (r.2 = id → r.1 ∈ l) ∧ (r.2 ≠ id → ∃ n, c.findNode r.2 = some n ∧ r.1 ∈ n.reservations)
  todo : ∀ k ∈ l, ∃ a ∈ c.apps, a.live = true ∧ (k, id) ∈ a.reservations
  todoKeys : l.Nodup
  outstanding : ∀ a ∈ c.apps, a.live = true → ∀ r ∈ a.reservations, ∃ i ∈ a.items, i.key = r.1 ∧ i.outstanding = true
  onePerAsk : ∀ a ∈ c.apps, a.live = true → (a.reservations.map (·.1)).Nodup
  nodeApp : ∀ n ∈ c.nodes, n.id ≠ id → ∀ k ∈ n.reservations, ∃ a ∈ c.apps, a.live = true ∧ (k, n.id) ∈ a.reservations
  nodeKeys : ∀ n ∈ c.nodes, n.id ≠ id → n.reservations.Nodup
  owner : ∀ a ∈ c.apps, ∀ b ∈ c.apps, a.live = true → b.live = true → ∀ r, r ∈ a.reservations → r ∈ b.reservations → a.id = b.id
  queueNone : ∀ a ∈ c.apps, a.live = true → (∀ q ∈ c.queues, q.path ≠ a.queue) → a.reservations = []
  queueCount : ∀ a ∈ c.apps, a.live = true → ∀ q ∈ c.queues, q.path = a.queue →
    (q.reserved.lookup a.id).getD 0 = a.reservations.length
  queueKeys : ∀ q ∈ c.queues, (q.reserved.map (·.1)).Nodup
  queueApp : ∀ q ∈ c.queues, ∀ r ∈ q.reserved, r.2 = 0 ∨ ∃ a ∈ c.apps, a.live = true ∧ a.id = r.1 ∧ a.queue = q.path
  counter : resvTotal c ≤ c.reservations
  nodeExcl : ∀ n ∈ c.nodes, n.id ≠ id → (n.reservations.length ≤ 1 ∨
    ∀ k ∈ n.reservations, ∃ a ∈ c.apps, a.live = true ∧ (k, n.id) ∈ a.reservations ∧ ∃ i ∈ a.items, i.key = k ∧ i.reqNode = n.id)
  quiet : ∀ a ∈ c.apps, a.live = true → Bad a.state → a.reservations = []

end ResD

/-- `ResInv` away from node `id`: what holds from the end of the reservation fold of `nodeRemove` until the node is
    dropped.  No live application holds a reservation on `id` any more (`ResOff.noneOn`). -/
def ResOff (id : String) (c : Core) : Prop := ResD.ResMid id [] c

theorem ResOff.noneOn {id : String} {c : Core} (h : ResOff id c) :
    ∀ a ∈ c.apps, a.live = true → ∀ r ∈ a.reservations, r.2 ≠ id := by
  intro a ha hl r hr he
  cases (h.appNode a ha hl r hr).1 he

namespace ResD

/-! ### the state in which the node lists nothing (`setResv id [] c`): `ResInv` of it is `ResOff id c` -/

def setResv (id : String) (l : List String) (c : Core) : Core :=
  { c with nodes := updNs c.nodes id (fun n => { n with reservations := l }) }

theorem mem_setResv_nil {id : String} {c : Core} {m : CNode} (hm : m ∈ (setResv id [] c).nodes) :
    m.reservations = [] ∨ (m ∈ c.nodes ∧ m.id ≠ id) := by
  obtain ⟨n, hn, rfl⟩ := List.mem_map.mp hm
  by_cases hd : (n.id == id) = true
  · rw [if_pos hd]; exact Or.inl rfl
  · rw [if_neg hd]; exact Or.inr ⟨hn, by simpa using hd⟩

theorem findNode_setResv_nil {id : String} {c : Core} {j k : String} {n' : CNode}
    (hn' : (setResv id [] c).findNode j = some n') (hk : k ∈ n'.reservations) :
    j ≠ id ∧ c.findNode j = some n' := by
  rw [findNode_of_map (s := c) _ (fun m => by split <;> rfl) rfl] at hn'
  obtain ⟨n, hcn, rfl⟩ := Option.map_eq_some_iff.mp hn'
  have hid := (findNode_some hcn).2
  by_cases hd : (n.id == id) = true
  · rw [if_pos hd] at hk; cases hk
  · rw [if_neg hd]
    exact ⟨fun he => hd (by simpa using hid.trans he), hcn⟩

theorem resOff_of_setResv {id : String} {c : Core} (h : ResInv (setResv id [] c)) : ResOff id c := by
  have hnode : ∀ n ∈ c.nodes, n.id ≠ id → n ∈ (setResv id [] c).nodes := fun n hn hne =>
    List.mem_map.mpr ⟨n, hn, by rw [if_neg (by simpa using hne)]⟩
  refine ⟨?_, fun k hk => absurd hk List.not_mem_nil, List.nodup_nil, h.outstanding, h.onePerAsk,
    fun n hn hne => h.nodeApp n (hnode n hn hne), fun n hn hne => h.nodeKeys n (hnode n hn hne), h.owner,
    fun a ha hl => ((queueCount_iff _ a).mp (h.queueCount a ha hl)).1,
    fun a ha hl => ((queueCount_iff _ a).mp (h.queueCount a ha hl)).2, h.queueKeys, h.queueApp, h.counter,
    fun n hn hne => h.nodeExcl n (hnode n hn hne), h.quiet⟩
  intro a ha hl r hr
  obtain ⟨n', hn', hk⟩ := h.appNode a ha hl r hr
  obtain ⟨hne, hcn⟩ := findNode_setResv_nil hn' hk
  exact ⟨fun he => absurd he hne, fun _ => ⟨n', hcn, hk⟩⟩

theorem res_of_resOff {id : String} {c : Core} (hr : ResOff id c) : ResInv (setResv id [] c) := by
  refine ⟨?_, hr.outstanding, hr.onePerAsk, ?_, ?_, hr.owner,
    fun a ha hl => (queueCount_iff _ a).mpr ⟨hr.queueNone a ha hl, hr.queueCount a ha hl⟩, hr.queueKeys, hr.queueApp,
    hr.counter, ?_, hr.quiet⟩
  · intro a ha hl r hrr
    obtain ⟨h1, h2⟩ := hr.appNode a ha hl r hrr
    have hne : r.2 ≠ id := fun he => by cases h1 he
    obtain ⟨n, hn, hk⟩ := h2 hne
    refine ⟨n, ?_, hk⟩
    rw [findNode_of_map (s := c) _ (fun m => by split <;> rfl) rfl, hn]
    show some (if (n.id == id) = true then _ else n) = _
    rw [if_neg (by simpa using fun e : n.id = id => hne ((findNode_some hn).2.symm.trans e))]
  · intro m hm k hk
    rcases mem_setResv_nil hm with h0 | ⟨hc, hne⟩
    · rw [h0] at hk; cases hk
    · exact hr.nodeApp m hc hne k hk
  · intro m hm
    rcases mem_setResv_nil hm with h0 | ⟨hc, hne⟩
    · rw [h0]; exact List.nodup_nil
    · exact hr.nodeKeys m hc hne
  · intro m hm
    rcases mem_setResv_nil hm with h0 | ⟨hc, hne⟩
    · exact Or.inl (by rw [h0]; exact Nat.zero_le 1)
    · exact hr.nodeExcl m hc hne

/-- `res_upd1` on the states in which the node `id` lists nothing, for a step described by a `Shape` -/
theorem resAway_shape {id : String} {c t : Core} {app : String} {a a' : CApp} {fq : CQueue → CQueue}
    (sh : Shape c t app a a' fq (fun n => n))
    (hu : c.apps.Pairwise (fun a b => a.live = true → b.live = true → a.id ≠ b.id)) (hr : ResInv (setResv id [] c))
    (hfq : ∀ q, qsig (fq q) = qsig q) (hk : ResS.AppStep nogone a a')
    (hfl : a'.live = true ∨ a'.reservations = []) : ResInv (setResv id [] t) :=
  res_upd1 (s := setResv id [] c) (t := setResv id [] t) (f := fun _ => a') hu hr sh.find sh.apps
    (by show (updNs t.nodes id _).map nsig = (updNs c.nodes id _).map nsig; rw [sh.nodes, List.map_id'])
    (by show t.queues.map qsig = c.queues.map qsig; rw [sh.queues, List.map_map]; exact List.map_congr_left fun q _ => hfq q)
    (Nat.le_of_eq sh.resv.symm) hk hfl

/-! ### the application records of the rounds (`nodeRmApp` and `confirmApp` are `relAppT` / `replApp` kept in the partition) -/

theorem itemKeeps_unlink : ItemKeeps (fun z => { z with release := none }) := fun _ => ⟨rfl, rfl, id⟩

theorem deallocApp_appStep {s : Core} (hr : ResInv s) {a : CApp} (ham : a ∈ s.apps) (hl : a.live = true) (hwa : AppWF a)
    (key other : String) (r : CItem) : ResS.AppStep nogone a (deallocApp key other r a) :=
  AppStep.of_outstanding hr ham hl hwa rfl rfl (stay_none _).symm
    (((KeepsAsks.refl _).updItem key (g := fun z => { z with allocated := false, release := none })
      (fun z => ⟨rfl, rfl, fun h => by show (z.inReq && !false) = true; rw [(outstanding_inReq h).1]; rfl⟩)).updItem other
      itemKeeps_unlink) Or.inl

/-- `runAgain` only moves a Completing application, which holds no reservation, to Running -/
theorem deallocAppRun_appStep {s : Core} (hr : ResInv s) {a : CApp} (ham : a ∈ s.apps) (hl : a.live = true) (hwa : AppWF a)
    (key other : String) (r : CItem) : ResS.AppStep nogone a (deallocAppRun key other r a) := by
  have hk := deallocApp_appStep hr ham hl hwa key other r
  refine ⟨(runAgain_id _).trans hk.id, (runAgain_queue _).trans hk.queue, (runAgain_reservations _).trans hk.resv, ?_, ?_⟩
  · intro r' hr' i hi hik
    unfold deallocAppRun at hr' ⊢
    rw [runAgain_reservations] at hr'
    rw [runAgain_items]
    exact hk.items r' hr' i hi hik
  · intro hq
    by_cases hs : (deallocApp key other r a).state = "Completing"
    · exact Or.inl (Or.inr (Or.inl hs))
    · unfold deallocAppRun at hq
      rw [runAgain_of_ne _ hs] at hq
      exact Or.inl hq

theorem unlinkApp_appStep {s : Core} (hr : ResInv s) {a : CApp} (ham : a ∈ s.apps) (hl : a.live = true) (hwa : AppWF a)
    (k1 k2 : String) : ResS.AppStep nogone a (unlinkApp k1 k2 a) :=
  AppStep.of_outstanding hr ham hl hwa rfl rfl (stay_none _).symm
    (((KeepsAsks.refl _).updItem k1 itemKeeps_unlink).updItem k2 itemKeeps_unlink) Or.inl

/-! ### one round of the loop of removeNodeAllocations -/

theorem resAway_nodeRmBound {id : String} (c : Core) (app key : String) (hw : CoreWF c) (hb : Books c)
    (hL : LifeCore c) (hr : ResInv (setResv id [] c)) : ResInv (setResv id [] (nodeRmBound c app key)) := by
  refine nodeRmBound_elim (M := fun t => ResInv (setResv id [] t)) c app key (fun _ => hr) ?_
  intro a i hfind hitem hbd
  obtain ⟨ham, hl, _⟩ := findApp_some hfind
  exact resAway_shape (shape_nodeRmBound c app key a i hw hfind hitem hbd) hw.appIds hr
    (qsig_onChain _ (qsig_of (nodeRmQ_path_reserved i)))
    ((ResB.relAppT_appStep (s := setResv id [] c) hr ham hl (hw.app ham hl) (hb.apps a ham hl) (Life.appCore_of hL ham)
      .unknown (find_key_some hitem).1 (find_key_some hitem).2 hbd).setLive true) (Or.inl rfl)

end ResD

open ResD in
theorem resAway_nodeRmAlloc {id : String} (c : Core) (nodeId app key : String) (hw : CoreWF c)
    (hb : Books c) (hL : LifeCore c) (hok : NodeRmOK c nodeId app key) (hr : ResInv (setResv id [] c)) :
    ResInv (setResv id [] (nodeRmAlloc c nodeId app key)) := by
  exact nodeRmAlloc_elim (M1 := fun t => LifeCore t ∧ ResInv (setResv id [] t)) (M := fun t => ResInv (setResv id [] t))
    c nodeId app key hw hb hok ⟨hL, hr⟩
    (fun a rk hfind =>
      have ⟨ham, hl, _⟩ := findApp_some hfind
      ⟨LifeD.lifeCore_unlink c app rk key hL,
        resAway_shape (shape_unlinkApp c app rk key a hw hfind) hw.appIds hr (fun _ => rfl)
          (unlinkApp_appStep (s := setResv id [] c) hr ham hl (hw.app ham hl) rk key) (Or.inl hl)⟩)
    (fun a r k o hfind _ _ _ _ _ _ =>
      have ⟨ham, hl, _⟩ := findApp_some hfind
      ⟨LifeD.lifeCore_dealloc c app k o r _ _ hL,
        resAway_shape (shape_deallocAppRun c app k o r a hw hfind) hw.appIds hr (qsig_onChain _ (fun _ => rfl))
          (deallocAppRun_appStep (s := setResv id [] c) hr ham hl (hw.app ham hl) k o r) (Or.inl ((runAgain_live _).trans hl))⟩)
    (fun c1 hw1 hb1 h => resAway_nodeRmBound c1 app key hw1 hb1 h.1 h.2)
    (fun a i _ r hfind _ _ _ _ _ _ _ _ =>
      have ⟨ham, hl, _⟩ := findApp_some hfind
      resAway_shape (shape_confirmApp c app a i r hw hfind) hw.appIds hr
        (qsig_onChain _ (qsig_of (nodeConfirmQ_path_reserved _)))
        ((ResB.replApp_appStep (s := setResv id [] c) hr ham hl (hw.app ham hl) i r).setLive true) (Or.inl rfl))

namespace ResD

/-! ### the reservations on the node are cancelled one by one (`unreserveOn`) -/

theorem updNs_setResv_filter (nodes : List CNode) (id k : String) (t : List String) (hk : k ∉ t) :
    updNs (updNs nodes id (fun n => { n with reservations := k :: t })) id
        (fun n => { n with reservations := n.reservations.filter (· != k) }) =
      updNs nodes id (fun n => { n with reservations := t }) := by
  have hf : (k :: t).filter (· != k) = t := by
    rw [List.filter_cons_of_neg (by simp)]
    exact List.filter_eq_self.mpr (fun x hx => by simpa using fun e : x = k => hk (e ▸ hx))
  unfold updNs
  rw [List.map_map]
  refine List.map_congr_left (fun n _ => ?_)
  by_cases hd : (n.id == id) = true
  · simp only [Function.comp, if_pos hd, hf]
  · simp only [Function.comp, if_neg hd]

theorem res_unreserveOn {id k : String} {t : List String} (c : Core) (hw : CoreWF c) {n0 : CNode}
    (hn : c.findNode id = some n0) (h : ResInv (setResv id (k :: t) c)) :
    ResInv (setResv id t (unreserveOn c id k)) := by
  obtain ⟨hnm, hnid⟩ := findNode_some hn
  have hV : ({ n0 with reservations := k :: t } : CNode) ∈ (setResv id (k :: t) c).nodes :=
    List.mem_map.mpr ⟨n0, hnm, by rw [if_pos (by simpa using hnid)]⟩
  have hkeys : k ∉ t ∧ t.Nodup := List.nodup_cons.mp (h.nodeKeys _ hV)
  obtain ⟨b, hb, hbl, hbr⟩ := h.nodeApp _ hV k List.mem_cons_self
  have hbr' : (k, id) ∈ b.reservations := hnid ▸ hbr
  rcases unreserveOn_cases c id k with ⟨hf, _⟩ | ⟨a, hf, he⟩
  · have := List.find?_eq_none.mp hf b (mem_liveApps.mpr ⟨hb, hbl⟩)
    simp at this
    exact absurd hbr' this
  · have ham := mem_liveApps.mp (List.mem_of_find?_eq_some hf)
    have hres : (k, id) ∈ a.reservations := by simpa using List.find?_some hf
    rw [he]
    exact ResA.res_drop (s := setResv id (k :: t) c) hw.appIds h ham.1 ham.2 rfl hres rfl
      (updNs_setResv_filter c.nodes id k t hkeys.1).symm rfl (by show c.reservations ≤ c.reservations - 1 + 1; omega)

theorem res_unreserveFold {id : String} (l : List String) (c : Core) (hw : CoreWF c) (hb : Books c) {n0 : CNode}
    (hn : c.findNode id = some n0) (h : ResInv (setResv id l c)) :
    ResInv (setResv id [] (l.foldl (fun c k => unreserveOn c id k) c)) :=
  (foldl_inv (J := fun l t => CoreWF t ∧ Books t ∧ t.findNode id = some n0 ∧ ResInv (setResv id l t)) _
    (fun k _ t ht => ⟨(unreserveOn_props t id k ht.1 ht.2.1).2, (unreserveOn_props t id k ht.1 ht.2.1).1,
      by unfold findNode; rw [unreserveOn_nodes]; exact ht.2.2.1, res_unreserveOn t ht.1 ht.2.2.1 ht.2.2.2⟩)
    l c ⟨hw, hb, hn, h⟩).2.2.2

theorem res_setResv {s : Core} {id : String} {n : CNode} (hw : CoreWF s) (hn : s.findNode id = some n) (h : ResInv s) :
    ResInv (setResv id n.reservations s) := by
  obtain ⟨hnm, hnid⟩ := findNode_some hn
  refine res_apps_eq h rfl (NodesStep.keep ?_) (QueuesStep.keep rfl) (Nat.le_refl _)
  show (updNs s.nodes id _).map nsig = _
  unfold updNs
  rw [List.map_map]
  refine List.map_congr_left (fun m hm => ?_)
  by_cases hd : (m.id == id) = true
  · have hmn : m = n := nodeIds_eq hw hnm hm ((by simpa using hd : m.id = id).trans hnid.symm)
    subst hmn
    simp only [Function.comp, if_pos hd]
  · simp only [Function.comp, if_neg hd]

end ResD

/-! ### the terminated applications leave (`leaveApp`, `sweepTerminated`) -/

open ResD in
theorem resAway_leaveApp {id : String} (c : Core) (app : String) (hw : CoreWF c)
    (hterm : ∀ a, c.findApp app = some a → terminated a.state = true) (hr : ResInv (setResv id [] c)) :
    ResInv (setResv id [] (c.leaveApp app)) := by
  rcases shape_leaveApp c app hw with ⟨_, e⟩ | ⟨a, hfind, sh⟩
  · rw [e]; exact hr
  · obtain ⟨ham, hl, _⟩ := findApp_some hfind
    have hnil : a.reservations = [] := hr.quiet a ham hl (Or.inr (Or.inr (hterm a hfind)))
    exact resAway_shape sh hw.appIds hr (qsig_onChain _ (fun _ => rfl)) (AppStep.of_nil rfl rfl hnil hnil) (Or.inr hnil)

open ResD in
theorem resAway_sweepTerminated {id : String} (c : Core) (hw : CoreWF c) (hb : Books c)
    (hr : ResInv (setResv id [] c)) : ResInv (setResv id [] c.sweepTerminated) :=
  (sweepTerminated_inv (I := fun c => CoreWF c ∧ Books c ∧ ResInv (setResv id [] c)) (fun _ h => h.1.appIds)
    (fun c app h ht =>
      let ⟨hb1, hw1⟩ := leaveApp_props c app h.1 h.2.1
      ⟨hw1, hb1, resAway_leaveApp c app h.1 ht h.2.2⟩)
    c ⟨hw, hb, hr⟩).2.2

theorem resOff_leaveApp {id : String} (c : Core) (app : String) (hw : CoreWF c)
    (hterm : ∀ a, c.findApp app = some a → terminated a.state = true) (hr : ResOff id c) : ResOff id (c.leaveApp app) :=
  ResD.resOff_of_setResv (resAway_leaveApp c app hw hterm (ResD.res_of_resOff hr))

/-! ### the node, which lists nothing any more, is dropped; `nodeRemove` -/

open ResD in
theorem res_dropNode (c : Core) (id : String) (t t' : Res) (h : ResInv (setResv id [] c)) :
    ResInv (setRootMax { c with nodes := c.nodes.filter (·.id != id), total := t } t') := by
  refine res_apps_eq (s := setResv id [] c) h rfl (NodesStep.of_same ?_ ?_) (QueuesStep.keep (ResA.qsig_setRootMax _ _))
    (Nat.le_refl _)
  · intro j n hn hne
    obtain ⟨k, hk⟩ := List.exists_mem_of_ne_nil _ hne
    obtain ⟨hj, hcn⟩ := findNode_setResv_nil hn hk
    exact (findNode_filter_ne c id j t hj).trans hcn
  · intro m hm
    obtain ⟨hc, hne⟩ := List.mem_filter.mp hm
    exact Or.inl (List.mem_map.mpr ⟨m, hc, by rw [if_neg (by simpa using hne)]⟩)

theorem res_nodeRemove (s : Core) (id : String) (order : List (String × String)) (hi : CoreInv s) (hr : ResInv s)
    (hok : NodeRemoveOK s id order) : ResInv (s.nodeRemove id order) := by
  unfold nodeRemove
  split
  · exact hr
  · rename_i n hn
    obtain ⟨hb0, hw0, _⟩ := unreserveFold_props id n.reservations s hi.wf hi.books
    have hL0 := lifeCore_unreserveFold id n.reservations s hi.life.toLifeCore
    have hr0 := ResD.res_unreserveFold n.reservations s hi.wf hi.books hn (ResD.res_setResv hi.wf hn hr)
    obtain ⟨hb1, hw1, _⟩ := nodeLoop_props id _ _ hw0 hb0 (hok n hn)
    have hr1 := (nodeLoop_inv (J := fun _ t => LifeCore t ∧ ResInv (ResD.setResv id [] t)) id
      (fun p _ c hw hb h1 h => ⟨lifeCore_nodeRmAlloc c id p.1 p.2 hw hb h.1 h1,
        resAway_nodeRmAlloc c id p.1 p.2 hw hb h.1 h1 h.2⟩) _ _ hw0 hb0 (hok n hn) ⟨hL0, hr0⟩).2.2.2
    exact res_dropNode _ id _ _ (resAway_sweepTerminated _ hw1 hb1 hr1)

end Yk
