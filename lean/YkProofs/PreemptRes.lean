/- Resource-vector facts the preemption model needs beyond YkProofs/Res.lean: where the entries of ComponentWiseMin /
   MergeIfNotPresent / SubOnlyExisting come from (no unique keys needed), and sums of allocation sizes (`sumRes`). -/
import YkModel.Preempt
import YkProofs.Res
namespace Yk
namespace Pre
open Res

/-! ### sums of resource vectors -/

theorem sumRes_append_one (l : List Res) (r : Res) : sumRes (l ++ [r]) = addX (sumRes l) r := by
  unfold sumRes; simp [List.foldl_append]

theorem sumRes_getD_nonneg (k : String) (l : List Res) (h : ∀ r ∈ l, wf r = true ∧ 0 ≤ r.getD k) : 0 ≤ (sumRes l).getD k :=
  List.foldlRecOn (motive := fun acc : Res => 0 ≤ acc.getD k) _ _ (Int.le_refl 0) fun _ ha r hr => by
    have := h r hr
    rw [addX_getD _ _ this.1]; omega

theorem sumRes_wf (l : List Res) : wf (sumRes l) = true := foldl_addX_wf l [] rfl

theorem sumRes_map_getD (l : List PAlloc) (hr : ∀ a ∈ l, wf a.res = true) (k : String) :
    (sumRes (l.map (·.res))).getD k = (l.map (fun a => a.res.getD k)).sum :=
  foldl_addX_map_getD l (·.res) hr k

theorem sgte_zero_of_nonneg (r : Res) (h : ∀ p ∈ r, 0 ≤ p.2) : strictlyGreaterThanOrEquals (some r) (some []) = true := by
  simp only [strictlyGreaterThanOrEquals, orZero, Option.getD_some, getD_nil, List.all_nil, Bool.and_true, List.all_eq_true]
  exact fun p hp => decide_eq_true (h p hp)

/-! ### where the entries of ComponentWiseMin / MergeIfNotPresent come from, and when the result is empty -/

theorem mem_set {r : Res} {k : String} {v : Int} {x : String × Int} (h : x ∈ Res.set r k v) : x ∈ r ∨ x = (k, v) := by
  induction r with
  | nil => exact Or.inr (List.mem_singleton.mp h)
  | cons p t ih =>
    unfold Res.set at h
    split at h
    · rename_i hk
      rcases List.mem_cons.mp h with h | h
      · exact Or.inr (by rw [h, beq_iff_eq.mp hk])
      · exact Or.inl (List.mem_cons_of_mem _ h)
    · rcases List.mem_cons.mp h with h | h
      · exact Or.inl (h ▸ List.mem_cons_self)
      · exact (ih h).imp_left (List.mem_cons_of_mem _)

theorem set_isEmpty (r : Res) (k : String) (v : Int) : (Res.set r k v).isEmpty = false := by
  cases r with
  | nil => rfl
  | cons p t => unfold Res.set; split <;> rfl

theorem mem_foldl_set (g : String × Int → Int) (x : String × Int) (l acc : Res)
    (h : x ∈ l.foldl (fun (out : Res) p => out.set p.1 (g p)) acc) : x ∈ acc ∨ ∃ p ∈ l, x = (p.1, g p) :=
  List.foldlRecOn (motive := fun out : Res => x ∈ out → x ∈ acc ∨ ∃ p ∈ l, x = (p.1, g p)) _ _ Or.inl
    (fun _ ih p hp hx => (mem_set hx).elim ih fun e => Or.inr ⟨p, hp, e⟩) h

theorem foldl_set_isEmpty (g : String × Int → Int) :
    ∀ (l acc : Res), (l.foldl (fun (out : Res) p => out.set p.1 (g p)) acc).isEmpty = (acc.isEmpty && l.isEmpty) := by
  intro l
  induction l with
  | nil => intro acc; simp
  | cons p t ih => intro acc; rw [List.foldl_cons, ih, set_isEmpty]; simp

theorem cwmVal_cases (o : Res) (p : String × Int) : cwmVal o p = p.2 ∨ (p.1, cwmVal o p) ∈ o := by
  unfold cwmVal
  cases hg : get? o p.1 with
  | none => exact Or.inl rfl
  | some v =>
    rcases Int.le_total p.2 v with hle | hle
    · exact Or.inl (Int.min_eq_left hle)
    · right
      show (p.1, min p.2 v) ∈ o
      rw [Int.min_eq_right hle]; exact mem_of_get? hg

theorem cwm_mem {a b : ORes} {x : String × Int} (hx : x ∈ orZero (componentWiseMin a b)) : x ∈ orZero a ∨ x ∈ orZero b := by
  cases a with
  | none => cases b <;> exact Or.inr hx
  | some la =>
    cases b with
    | none => exact Or.inl hx
    | some rb =>
      rw [cwm_eq] at hx
      have own : ∀ {o l : Res} {p}, p ∈ l → x = (p.1, cwmVal o p) → x ∈ l ∨ x ∈ o := fun {o l p} hp e =>
        (cwmVal_cases o p).imp (fun (hc : cwmVal o p = p.2) => (show x = p by rw [e, hc]) ▸ hp) (fun hc => e ▸ hc)
      rcases mem_foldl_set _ x rb _ hx with h1 | ⟨p, hp, e⟩
      · rcases mem_foldl_set _ x la _ h1 with h2 | ⟨p, hp, e⟩
        · cases h2
        · exact own hp e
      · exact (own hp e).symm

theorem isEmpty_cwm (a b : ORes) : isEmpty (componentWiseMin a b) = (isEmpty a && isEmpty b) := by
  cases a with
  | none => cases b <;> rfl
  | some la =>
    cases b with
    | none => exact (Bool.and_true _).symm
    | some rb =>
      rw [cwm_eq]
      simp only [isEmpty, foldl_set_isEmpty, List.isEmpty_nil, Bool.true_and]

theorem merge_mem {a b : ORes} {x : String × Int} (hx : x ∈ orZero (mergeIfNotPresent a b)) : x ∈ orZero a ∨ x ∈ orZero b := by
  cases a with
  | none => cases b <;> exact Or.inr hx
  | some la =>
    cases b with
    | none => exact Or.inl hx
    | some rb =>
      refine List.foldlRecOn (motive := fun out : Res => x ∈ out → x ∈ la ∨ x ∈ rb) _ _ Or.inl (fun out ih p hp hx => ?_) hx
      split at hx
      · exact ih hx
      · exact (mem_set hx).elim ih fun (e : x = _) => Or.inr (e ▸ hp)

theorem isEmpty_subOE (b d : ORes) : isEmpty (subOE b d) = isEmpty b := by
  cases b with
  | none => rfl
  | some b => cases d <;> simp [subOE, isEmpty]

theorem mem_subOE {g : ORes} {u : Res} {k : String} {v : Int} (h : (k, v) ∈ orZero (subOE g (some u))) :
    ∃ g' gv, g = some g' ∧ (k, gv) ∈ g' ∧ v = gv - u.getD k := by
  cases g with
  | none => cases h
  | some g' =>
    obtain ⟨e, he, heq⟩ := List.mem_map.mp h
    obtain ⟨rfl, rfl⟩ := Prod.mk.inj heq
    exact ⟨g', e.2, rfl, he, rfl⟩

/-- the types on which `u` exceeds `g`, with the excess: what both quota computations start from -/
theorem mem_negPart {g : ORes} {u : Res} {k : String} {v : Int}
    (h : (k, v) ∈ ((orZero (subOE g (some u))).filter (fun p => decide (p.2 < 0))).map (fun p => (p.1, -p.2))) :
    ∃ g' gv, g = some g' ∧ (k, gv) ∈ g' ∧ gv < u.getD k ∧ v = u.getD k - gv := by
  obtain ⟨p, hp, e⟩ := List.mem_map.mp h
  obtain ⟨hm, hneg⟩ := List.mem_filter.mp hp
  obtain ⟨rfl, rfl⟩ := Prod.mk.inj e
  obtain ⟨g', gv, hg, hgv, e'⟩ := mem_subOE (k := p.1) (v := p.2) hm
  have := of_decide_eq_true hneg
  exact ⟨g', gv, hg, hgv, by omega, by omega⟩

theorem mem_cwmOE {l r : Res} {k : String} {v : Int} (h : (k, v) ∈ orZero (componentWiseMinOnlyExisting (some l) (some r))) :
    ∃ v', (k, v') ∈ l ∧ v ≤ v' := by
  obtain ⟨p, hp, e⟩ := List.mem_map.mp h
  cases hg : get? r p.1 with
  | none => rw [hg] at e; exact ⟨v, e ▸ hp, Int.le_refl v⟩
  | some x =>
    rw [hg] at e
    obtain ⟨rfl, rfl⟩ := Prod.mk.inj e
    exact ⟨p.2, hp, Int.min_le_left _ _⟩

end Pre
end Yk
