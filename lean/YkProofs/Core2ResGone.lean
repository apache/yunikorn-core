/-
  C09 on the stepped Core model: the "reservations disappear" clauses as step theorems.
-/
import YkProofs.Core2ResApp
namespace Yk
open Res Core

namespace ResE

theorem updNs_filter_gone (nodes : List CNode) (node key : String) :
    ∀ n' ∈ updNs nodes node (fun n => { n with reservations := n.reservations.filter (· != key) }), n'.id = node →
      key ∉ n'.reservations := by
  intro n' hn' hid
  obtain ⟨n, hn, rfl⟩ := List.mem_map.mp hn'
  by_cases hd : (n.id == node) = true
  · rw [if_pos hd]
    intro hm
    simpa using (List.mem_filter.mp hm).2
  · rw [if_neg hd] at hid
    exact absurd (by simpa using hid) hd

theorem gone_refl {s : Core} {app key : String}
    (hno : ∀ a, s.findApp app = some a → ∀ r ∈ a.reservations, r.1 ≠ key) :
    (∀ a', s.findApp app = some a' → ∀ r ∈ a'.reservations, r.1 ≠ key) ∧
    (∀ a1, s.findApp app = some a1 → ∀ nd, (key, nd) ∈ a1.reservations →
      ∀ n' ∈ s.nodes, n'.id = nd → key ∉ n'.reservations) :=
  ⟨hno, fun a1 h1 _ hnd => absurd rfl (hno a1 h1 _ hnd)⟩

end ResE

/-- `unreserve` (what partition.allocate does before it binds a reserved ask) for a reservation the live application
    holds: each of the four views shows one reservation less (the queue entry is gone at zero). -/
theorem unreserve_gone (s : Core) (app key node : String) (a : CApp) (h : ResInv s)
    (ha : s.findApp app = some a) (hr : (key, node) ∈ a.reservations) :
    (∃ a', (s.unreserve app key node).findApp app = some a' ∧ a'.reservations = a.reservations.filter (· != (key, node)) ∧
      (∀ r ∈ a'.reservations, r.1 ≠ key) ∧ a'.reservations.length + 1 = a.reservations.length) ∧
    (∀ n' ∈ (s.unreserve app key node).nodes, n'.id = node → key ∉ n'.reservations) ∧
    (∀ q' ∈ (s.unreserve app key node).queues, q'.path = a.queue →
      q'.reserved.lookup app = if a.reservations.length ≤ 1 then none else some (a.reservations.length - 1)) ∧
    (s.unreserve app key node).reservations + 1 = s.reservations := by
  obtain ⟨ham, hl, hid⟩ := findApp_some ha
  have hc : a.reservations.contains (key, node) = true := by simpa using hr
  have hone := h.onePerAsk a ham hl
  have e : s.unreserve app key node =
      { s with apps := updApps s.apps app (fun x => { x with reservations := x.reservations.filter (· != (key, node)) }),
               nodes := updNs s.nodes node (fun n => { n with reservations := n.reservations.filter (· != key) }),
               queues := s.queues.map (fun q => if q.path == a.queue then { q with reserved := q.reserved.filterMap (ResA.decEntry app) } else q),
               reservations := s.reservations - 1 } := by
    unfold Core.unreserve
    simp only [ha, hc, Bool.not_true, Bool.false_eq_true, if_false]
    rfl
  rw [e]
  refine ⟨?_, ?_, ?_, ?_⟩
  · refine ⟨_, findApp_updApps (f := fun x => { x with reservations := x.reservations.filter (· != (key, node)) }) rfl ha hl hid,
      rfl, ?_, ?_⟩
    · intro r hr'
      obtain ⟨hrm, hne⟩ := List.mem_filter.mp hr'
      intro hk
      have : r = (key, node) := eq_of_map_eq (·.1) hone hrm hr hk
      simp [this] at hne
    · exact filter_ne_length' (nodup_of_map _ hone) hr
  · exact ResE.updNs_filter_gone s.nodes node key
  · intro q' hq' hp
    obtain ⟨q, hq, rfl⟩ := List.mem_map.mp hq'
    have hqp : q.path = a.queue := by split at hp <;> exact hp
    have hd : (q.path == a.queue) = true := by simpa using hqp
    rw [if_pos hd]
    have hlen : 1 ≤ a.reservations.length := List.length_pos_of_mem hr
    have hc1 := ((ResS.queueCount_iff s a).mp (h.queueCount a ham hl)).2 q hq hqp
    rw [hid] at hc1
    show (q.reserved.filterMap (ResA.decEntry app)).lookup app = _
    rw [ResA.lookup_dec_self app _ (h.queueKeys q hq)]
    cases hlk : q.reserved.lookup app with
    | none => rw [hlk] at hc1; simp at hc1; omega
    | some c =>
      rw [hlk] at hc1
      simp only [Option.getD_some] at hc1
      subst hc1
      rfl
  · have h1 : a.reservations.length ≤ resvTotal s := ResC.le_resvTotal ham hl
    have h2 := h.counter
    have hlen : 1 ≤ a.reservations.length := List.length_pos_of_mem hr
    show s.reservations - 1 + 1 = s.reservations
    omega

namespace ResE

/-- with the two clauses of `ResInv` it needs as hypotheses: `releaseKeyT_gone` uses it on the state after `relBoundT` -/
theorem askRemoveT_gone_aux (s1 : Core) (app key : String) (chain : List String)
    (hout : ∀ a1, s1.findApp app = some a1 → ∀ r ∈ a1.reservations, ∃ i ∈ a1.items, i.key = r.1 ∧ i.outstanding = true)
    (hone : ∀ a1, s1.findApp app = some a1 → (a1.reservations.map (·.1)).Nodup) :
    (∀ a', (askRemoveT s1 app key chain).findApp app = some a' → ∀ r ∈ a'.reservations, r.1 ≠ key) ∧
    (∀ a1, s1.findApp app = some a1 → ∀ nd, (key, nd) ∈ a1.reservations →
      ∀ n' ∈ (askRemoveT s1 app key chain).nodes, n'.id = nd → key ∉ n'.reservations) := by
  obtain hfind | ⟨a1, hfind⟩ := Option.eq_none_or_eq_some (s1.findApp app)
  · have e : askRemoveT s1 app key chain = s1 := by unfold askRemoveT; simp only [hfind]
    rw [e]
    exact gone_refl (fun a h' => by rw [hfind] at h'; cases h')
  · obtain ⟨ham, hl, hid⟩ := findApp_some hfind
    cases hitem : a1.items.find? (fun x => x.key == key && x.inReq) with
    | none =>
      have e : askRemoveT s1 app key chain = s1 := by unfold askRemoveT; simp only [hfind, hitem]
      rw [e]
      refine gone_refl (fun a h' r hr hk => ?_)
      cases hfind.symm.trans h'
      obtain ⟨i, hi, hik, ho⟩ := hout a1 hfind r hr
      have := List.find?_eq_none.mp hitem i hi
      simp [hik, hk, (ResS.outstanding_inReq ho).1] at this
    | some x =>
      refine ⟨?_, ?_⟩
      · intro a' h'
        have hf := findApp_updApps (f := askAppT key x) (askRemoveT_maps s1 app key chain hfind hitem).1 hfind
          (by rw [askAppT_live]; exact hl) (by rw [askAppT_id]; exact hid)
        cases hf.symm.trans h'
        intro r hr
        rw [ResB.askAppT_reservations] at hr
        simpa using (List.mem_filter.mp hr).2
      · intro a2 h2 nd hnd
        cases hfind.symm.trans h2
        cases hres : a1.reservations.find? (·.1 == key) with
        | none => simpa using List.find?_eq_none.mp hres _ hnd
        | some r =>
          have hrk : r.1 = key := by simpa using List.find?_some hres
          have hr : r = (key, nd) := eq_of_map_eq (·.1) (hone a1 hfind) (List.mem_of_find?_eq_some hres) hnd hrk
          rw [(askRemoveT_maps s1 app key chain hfind hitem).2.2.1,
            show askResvN key a1 = dropResvN key nd from funext fun n => by simp only [askResvN, hres, hr]]
          exact updNs_filter_gone s1.nodes nd key

end ResE

/-- RemoveAllocationAsk(key): the reservation for `key` is gone from the application (if still live) and from the node
    that held it. -/
theorem askRemoveT_gone (s1 : Core) (app key : String) (chain : List String) (h : ResInv s1) :
    (∀ a', (askRemoveT s1 app key chain).findApp app = some a' → ∀ r ∈ a'.reservations, r.1 ≠ key) ∧
    (∀ a1, s1.findApp app = some a1 → ∀ nd, (key, nd) ∈ a1.reservations →
      ∀ n' ∈ (askRemoveT s1 app key chain).nodes, n'.id = nd → key ∉ n'.reservations) := by
  apply ResE.askRemoveT_gone_aux
  · intro a1 h1
    obtain ⟨ham, hl, _⟩ := findApp_some h1
    exact h.outstanding a1 ham hl
  · intro a1 h1
    obtain ⟨ham, hl, _⟩ := findApp_some h1
    exact h.onePerAsk a1 ham hl

/-- partition.removeAllocation(app, key, tt) with a termination type other than TIMEOUT (only then the ask is removed) -/
theorem releaseKeyT_gone (s : Core) (tt : TermType) (app key : String) (hw : CoreWF s) (h : ResInv s) (htt : tt ≠ .timeout) :
    (∀ a', (s.releaseKeyT tt app key).findApp app = some a' → ∀ r ∈ a'.reservations, r.1 ≠ key) ∧
    (∀ a, s.findApp app = some a → ∀ nd, (key, nd) ∈ a.reservations →
      ∀ n' ∈ (s.releaseKeyT tt app key).nodes, n'.id = nd → key ∉ n'.reservations) := by
  have htt' : (tt == TermType.timeout) = false := by
    cases tt <;> first | rfl | exact absurd rfl htt
  obtain hfind | ⟨a, hfind⟩ := Option.eq_none_or_eq_some (s.findApp app)
  · have e : s.releaseKeyT tt app key = s := by unfold releaseKeyT; simp only [hfind]
    rw [e]
    exact ResE.gone_refl (fun a h' => by rw [hfind] at h'; cases h')
  · obtain ⟨ham, hl, hid⟩ := findApp_some hfind
    cases hitem : a.items.find? (·.key == key) with
    | none =>
      have e : s.releaseKeyT tt app key = s := by unfold releaseKeyT; simp only [hfind, hitem]
      rw [e]
      refine ResE.gone_refl (fun a' h' r hr hk => ?_)
      cases hfind.symm.trans h'
      obtain ⟨i, hi, hik, _⟩ := h.outstanding a ham hl r hr
      have := List.find?_eq_none.mp hitem i hi
      simp [hik, hk] at this
    | some i =>
      have e : s.releaseKeyT tt app key = askRemoveT (relBoundT s tt app key a i) app key (pathChain s a.queue) := by
        unfold releaseKeyT
        simp only [hfind, hitem, htt', Bool.false_eq_true, if_false]
      rw [e]
      cases hbd : i.bound with
      | false =>
        rw [relBoundT_unbound _ _ _ _ _ _ hbd]
        exact askRemoveT_gone s app key (pathChain s a.queue) h
      | true =>
        have sh := shape_relBoundT s tt app key a i hfind hbd
        cases hlv : (relAppT tt key i a).live with
        | false =>
          -- the application left the partition: it was Failing / Completing and held no reservation
          have hnone := sh.find_after_none hw hlv
          have e2 : askRemoveT (relBoundT s tt app key a i) app key (pathChain s a.queue) = relBoundT s tt app key a i := by
            unfold askRemoveT; simp only [hnone]
          rw [e2]
          have ht : terminated (LifeB.relSt tt i a) = true := by simpa [hlv] using (LifeB.relAppT_live tt key i a).symm
          have hq : a.reservations = [] := h.quiet a ham hl
            ((ResS.quiet_of_moves (LifeB.relSt_moves tt i a) (Or.inr (Or.inr ht))).resolve_right
              (fun e => by rw [e, LifeB.terminated_completing] at ht; cases ht))
          refine ⟨fun a' h' => (by rw [hnone] at h'; cases h'), fun a2 h2 nd hnd => ?_⟩
          cases hfind.symm.trans h2
          rw [hq] at hnd; cases hnd
        | true =>
          have hf1 := sh.find_after hlv
          obtain ⟨g1, g2⟩ := ResE.askRemoveT_gone_aux (relBoundT s tt app key a i) app key (pathChain s a.queue)
            (fun a1 h1 r hr => by
              cases hf1.symm.trans h1
              rw [ResB.relAppT_reservations] at hr
              obtain ⟨i0, hi0, hk0, ho0⟩ := h.outstanding a ham hl r hr
              obtain ⟨y, hy, hyk, _, hyo⟩ := ResB.unbound_keeps _ key a.items r hr i0 hi0 hk0 ho0
              exact ⟨y, by rw [relAppT_items]; exact hy, hyk.trans hk0, hyo⟩)
            (fun a1 h1 => by
              cases hf1.symm.trans h1
              rw [ResB.relAppT_reservations]
              exact h.onePerAsk a ham hl)
          refine ⟨g1, fun a2 h2 nd hnd => ?_⟩
          cases hfind.symm.trans h2
          exact g2 _ hf1 nd (by rw [ResB.relAppT_reservations]; exact hnd)

namespace ResE

theorem empty_queue (s : Core) (a : CApp) (h : ResInv s) (ham : a ∈ s.apps) (hl : a.live = true) (he : a.reservations = []) :
    ∀ q ∈ s.queues, q.path = a.queue → ∀ e ∈ q.reserved, e.1 = a.id → e.2 = 0 := by
  intro q hq hp e hem hid
  have h1 := ((ResS.queueCount_iff s a).mp (h.queueCount a ham hl)).2 q hq hp
  rw [← hid, (lookup_iff_mem (h.queueKeys q hq) e.1 e.2).mpr hem, he] at h1
  exact h1

/-- `b`: whether `unreserveApp` runs -/
theorem unresN_gone (b : Bool) (a : CApp) (n : CNode) (hb : b = true ∨ a.reservations = []) :
    ∀ k ∈ (unresN b a n).reservations, (k, n.id) ∉ a.reservations := by
  intro k hk
  by_cases he : a.reservations = []
  · rw [he]; exact List.not_mem_nil
  · obtain rfl := hb.resolve_right he
    unfold unresN at hk
    rw [if_pos (by simpa using he)] at hk
    simpa using (List.mem_filter.mp hk).2

/-- `q'`: the queue `q` of `s` after the other queue maps of the step, which keep the view -/
theorem unresQ_gone {s : Core} (b : Bool) {a : CApp} (h : ResInv s) (ham : a ∈ s.apps) (hl : a.live = true)
    (hb : b = true ∨ a.reservations = []) {q q' : CQueue} (hq : q ∈ s.queues) (hsig : ResC.qsig q' = ResC.qsig q)
    (hp : q.path = a.queue) : ∀ e ∈ (unresQ b a q').reserved, e.1 = a.id → e.2 = 0 ∧ e ∈ q.reserved := by
  obtain ⟨hsp, hsr⟩ := ResS.qsig_eq_iff.mp hsig
  intro e hem hid
  unfold unresQ at hem
  by_cases he : a.reservations = []
  · rw [if_neg (by simp [he])] at hem
    rw [hsr] at hem
    exact ⟨empty_queue s a h ham hl he q hq hp e hem hid, hem⟩
  · obtain rfl := hb.resolve_right he
    rw [if_pos (by simpa [hsp, hp] using he)] at hem
    have := (List.mem_filter.mp hem).2
    simp [hid] at this

theorem unboundAll_any (l : List CItem) (h : l.any (·.inReq) = true) : (unboundAll l).any (·.inReq) = true := by
  obtain ⟨i, hi, hr⟩ := List.any_eq_true.mp h
  refine List.any_eq_true.mpr ⟨{ i with bound := false }, ?_, hr⟩
  unfold unboundAll
  exact List.mem_filter.mpr ⟨List.mem_map.mpr ⟨i, hi, rfl⟩, hr⟩

end ResE

/-- partition.removeApplication.  `ResInv` allows queue entries with count 0, so an entry for the removed application may
    be left: an old one with count 0 (without such entries: `appRemove_gone_noentry`). -/
theorem appRemove_gone (s : Core) (app : String) (a : CApp) (h : ResInv s) (ha : s.findApp app = some a) :
    (∀ n' ∈ (s.appRemove app).nodes, ∀ k ∈ n'.reservations, (k, n'.id) ∉ a.reservations) ∧
    (∀ q' ∈ (s.appRemove app).queues, q'.path = a.queue → ∀ e ∈ q'.reserved, e.1 = app →
      e.2 = 0 ∧ ∃ q ∈ s.queues, q.path = a.queue ∧ e ∈ q.reserved) ∧
    (s.appRemove app).findApp app = none := by
  obtain ⟨ham, hl, hid⟩ := findApp_some ha
  obtain ⟨ea, eq, en, _⟩ := appRemove_maps s app a ha
  refine ⟨?_, ?_, ?_⟩
  · rw [en]
    intro n' hn'
    obtain ⟨n, _, rfl⟩ := List.mem_map.mp hn'
    rw [(unresN_irrel true a _).1]
    exact ResE.unresN_gone true a _ (Or.inl rfl)
  · rw [eq]
    intro q' hq' hp e hem hide
    obtain ⟨q, hq, rfl⟩ := List.mem_map.mp hq'
    have hsig := ResS.qsig_onChain (pathChain s a.queue) (ResS.qsig_of (rmQ_path_reserved a)) q
    rw [(unresQ_irrel true a _).1, (ResS.qsig_eq_iff.mp hsig).1] at hp
    obtain ⟨h0, hm⟩ := ResE.unresQ_gone true h ham hl (Or.inl rfl) hq hsig hp e hem (hide.trans hid.symm)
    exact ⟨h0, q, hq, hp, hm⟩
  · apply findApp_eq_none
    intro y hy hyl
    rw [ea] at hy
    have := (List.mem_filter.mp hy).2
    simpa [hyl] using this

theorem appRemove_gone_noentry (s : Core) (app : String) (a : CApp) (h : ResInv s) (ha : s.findApp app = some a)
    (hz : ∀ q ∈ s.queues, ∀ e ∈ q.reserved, e.2 ≠ 0) :
    ∀ q' ∈ (s.appRemove app).queues, q'.path = a.queue → ∀ e ∈ q'.reserved, e.1 ≠ app := by
  intro q' hq' hp e he hid
  obtain ⟨h0, q, hq, _, hem⟩ := (appRemove_gone s app a h ha).2.1 q' hq' hp e he hid
  exact hz q hq e hem h0

/-- partition.removeAllocation(app, "", tt) with a termination type other than TIMEOUT for an application that has
    requests (only then the asks go, and the reservations with them). -/
theorem releaseApp_gone (s : Core) (tt : TermType) (app : String) (a : CApp) (hw : CoreWF s) (h : ResInv s)
    (ha : s.findApp app = some a) (htt : tt ≠ .timeout) (hreq : a.items.any (·.inReq) = true) :
    (∀ a', (s.releaseApp tt app).findApp app = some a' → a'.reservations = []) ∧
    (∀ n' ∈ (s.releaseApp tt app).nodes, ∀ k ∈ n'.reservations, (k, n'.id) ∉ a.reservations) ∧
    (∀ q' ∈ (s.releaseApp tt app).queues, q'.path = a.queue → ∀ e ∈ q'.reserved, e.1 = app →
      e.2 = 0 ∧ ∃ q ∈ s.queues, q.path = a.queue ∧ e ∈ q.reserved) := by
  obtain ⟨ham, hl, hid⟩ := findApp_some ha
  have sh := shape_releaseApp s tt app a ha
  have htt' : (tt != TermType.timeout) = true := by
    cases tt <;> first | rfl | exact absurd rfl htt
  have hany : (relAllApp a).items.any (·.inReq) = true := by
    rw [relAllApp_items]; exact ResE.unboundAll_any _ hreq
  have hasks : relAsks tt a = (relAllApp a).live := by
    unfold relAsks; rw [htt', hany]; simp
  -- the reservations are dropped with the asks; when the asks stay, the application left in `RemoveAllAllocations`:
  -- it was Completing (or terminated) and held no reservation
  have hb : relAsks tt a = true ∨ a.reservations = [] := by
    rw [hasks]
    cases hlv : (relAllApp a).live with
    | true => exact Or.inl rfl
    | false =>
      have ht : terminated (relAllApp a).state = true := by simpa [hlv] using (Yk.relAllApp_live a).symm
      rw [Yk.relAllApp_state] at ht
      refine Or.inr (h.quiet a ham hl ?_)
      split at ht
      · exact Or.inr (Life.complete_terminated _ ht)
      · exact Or.inr (Or.inr ht)
  refine ⟨?_, ?_, ?_⟩
  · intro a' h'
    have e := sh.found_after hw h'
    have hl' := (findApp_some h').2.1
    rw [e, ResC.relAll2_live, Bool.and_eq_true] at hl'
    rw [e, ResC.relAll2_reservations, hasks, hl'.1, if_pos rfl]
  · rw [sh.nodes]
    intro n' hn'
    obtain ⟨n, _, rfl⟩ := List.mem_map.mp hn'
    rw [(unresN_irrel _ a _).1]
    exact ResE.unresN_gone _ a _ hb
  · rw [sh.queues]
    intro q' hq' hp e hem hide
    obtain ⟨q, hq, rfl⟩ := List.mem_map.mp hq'
    have hsig := ResS.qsig_onChain (pathChain s a.queue) (ResS.qsig_of (relAllQ_path_reserved
      (sumRes ((onNodes s a.items).map (·.res))) (sumRes (((onNodes s a.items).filter (·.preempted)).map (·.res)))
      (relAllApp a) (relAll2 tt a) (relAsks tt a))) q
    rw [(unresQ_irrel _ a _).1, (ResS.qsig_eq_iff.mp hsig).1] at hp
    obtain ⟨h0, hm⟩ := ResE.unresQ_gone _ h ham hl hb hq hsig hp e hem (hide.trans hid.symm)
    exact ⟨h0, q, hq, hp, hm⟩

end Yk
