/-
  The recursive MarkQueueForRemoval walk (`markDown` / `markRec`, YkModel/Reload.lean) against its characterisation
  (`markMissing`): equal on every well-formed tree; well-formedness (parents first and present, distinct non-empty paths,
  W0 = nothing managed below an unmanaged queue, parents named by path) is an invariant of every modelled operation.
-/
import YkProofs.Reload
namespace Yk.Reload
open Yk Yk.Res

/-- the Remove event on every queue whose path is in `S` -/
def markSet (S : List String) (t : Tree) : Tree := t.map (fun q => if q.path ∈ S then q.mark else q)

theorem remove_idem (s : QState) : s.remove.remove = s.remove := by cases s <;> rfl

theorem remove_draining {s : QState} (h : ¬ s = .stopped) : s.remove = .draining := by
  cases s with
  | stopped => exact absurd rfl h
  | _ => rfl

theorem mark_mark (q : RQ) : q.mark.mark = q.mark := by
  unfold RQ.mark; simp [remove_idem]

theorem mark_path (q : RQ) : q.mark.path = q.path := rfl
theorem mark_parent (q : RQ) : q.mark.parent = q.parent := rfl
theorem mark_managed (q : RQ) : q.mark.managed = q.managed := rfl

theorem markSet_nil (t : Tree) : markSet [] t = t := by
  unfold markSet
  simp

theorem markSet_length (S : List String) (t : Tree) : (markSet S t).length = t.length := by
  unfold markSet; simp

theorem markSet_markSet (S1 S2 : List String) (t : Tree) : markSet S2 (markSet S1 t) = markSet (S1 ++ S2) t := by
  unfold markSet
  rw [List.map_map]
  apply List.map_congr_left
  intro q _
  simp only [Function.comp]
  by_cases h1 : q.path ∈ S1 <;> by_cases h2 : q.path ∈ S2 <;> simp [h1, h2, mark_path, mark_mark]

theorem upd_mark_eq (t : Tree) (p : String) : t.upd p RQ.mark = markSet [p] t := by
  unfold Tree.upd markSet
  apply List.map_congr_left
  intro q _
  by_cases h : q.path = p <;> simp [h]

theorem markSet_find (S : List String) (t : Tree) (p : String) :
    (markSet S t).find p = (t.find p).map (fun q => if q.path ∈ S then q.mark else q) := by
  unfold markSet
  apply find_map_pres
  intro q; split <;> rfl

theorem markSet_filter_paths (S : List String) (t : Tree) (pred : RQ → Bool)
    (hpred : ∀ q, pred q.mark = pred q) :
    ((markSet S t).filter pred).map (·.path) = (t.filter pred).map (·.path) := by
  unfold markSet
  rw [List.filter_map, List.map_map]
  have h1 : (pred ∘ fun q => if q.path ∈ S then q.mark else q) = pred := by
    funext q; simp only [Function.comp]; split <;> simp [hpred]
  have h2 : ((fun x : RQ => x.path) ∘ fun q => if q.path ∈ S then q.mark else q) = (fun x : RQ => x.path) := by
    funext q; simp only [Function.comp]; split <;> rfl
  rw [h1, h2]

/-- the paths MarkQueueForRemoval marks when called on `p`: mirrors `markDown` on the shape of the tree -/
def reach : Nat → Tree → String → List String
  | 0, _, _ => []
  | fuel + 1, t, p =>
    match t.find p with
    | none => []
    | some q =>
      if !q.managed then []
      else p :: ((t.filter (fun c => decide (c.parent = p))).map (·.path)).flatMap (fun cp => reach fuel t cp)

theorem reach_markSet (S : List String) : ∀ (f : Nat) (t : Tree) (p : String), reach f (markSet S t) p = reach f t p := by
  intro f
  induction f with
  | zero => intro t p; rfl
  | succ f ih =>
    intro t p
    unfold reach
    rw [markSet_find]
    cases h : t.find p with
    | none => rfl
    | some q =>
      simp only [Option.map_some]
      have hm : (if q.path ∈ S then q.mark else q).managed = q.managed := by split <;> rfl
      rw [hm]
      rw [markSet_filter_paths S t (fun c => decide (c.parent = p)) (fun q => rfl)]
      simp only [ih]

theorem markDown_fold (f : Nat) (a : Tree)
    (ih : ∀ (t : Tree) (p : String), markDown f t p = markSet (reach f t p) t) :
    ∀ (ps : List String) (S : List String),
      ps.foldl (fun acc cp => markDown f acc cp) (markSet S a) = markSet (S ++ ps.flatMap (fun cp => reach f a cp)) a := by
  intro ps
  induction ps with
  | nil => intro S; simp
  | cons p r ihr =>
    intro S
    simp only [List.foldl_cons, List.flatMap_cons]
    rw [ih (markSet S a) p, reach_markSet, markSet_markSet, ihr (S ++ reach f a p), List.append_assoc]

theorem markDown_eq : ∀ (f : Nat) (t : Tree) (p : String), markDown f t p = markSet (reach f t p) t := by
  intro f
  induction f with
  | zero => intro t p; unfold markDown reach; exact (markSet_nil t).symm
  | succ f ih =>
    intro t p
    unfold markDown reach
    cases h : t.find p with
    | none => exact (markSet_nil t).symm
    | some q =>
      simp only
      by_cases hm : q.managed = true
      · simp only [hm, Bool.not_true, Bool.false_eq_true, if_false]
        rw [upd_mark_eq, markDown_fold f t ih]
        rfl
      · simp only [hm, Bool.not_false, if_true]
        exact (markSet_nil t).symm

/-- the paths `markRec` marks: every unvisited child of a visited queue and what the walk reaches below it -/
def markedPaths (t : Tree) (conf : List QC) : List String :=
  conf.flatMap (fun c => ((t.filter (fun ch => decide (ch.parent = c.path) && !(configured conf ch.path))).map (·.path)).flatMap
    (fun r => reach t.length t r))

theorem markRec_eq_markSet (t : Tree) (conf : List QC) : markRec t conf = markSet (markedPaths t conf) t := by
  unfold markRec markedPaths
  -- generalise the configuration that is folded over (the predicate keeps referring to the whole configuration)
  have key : ∀ (cs : List QC) (S : List String),
      cs.foldl (fun acc c =>
        ((acc.filter (fun ch => decide (ch.parent = c.path) && !(configured conf ch.path))).map (·.path)).foldl
          (fun a r => markDown t.length a r) acc) (markSet S t) =
      markSet (S ++ cs.flatMap (fun c => ((t.filter (fun ch => decide (ch.parent = c.path) && !(configured conf ch.path))).map (·.path)).flatMap
        (fun r => reach t.length t r))) t := by
    intro cs
    induction cs with
    | nil => intro S; simp
    | cons c r ih =>
      intro S
      simp only [List.foldl_cons, List.flatMap_cons]
      rw [markSet_filter_paths S t (fun ch => decide (ch.parent = c.path) && !(configured conf ch.path)) (fun q => rfl)]
      rw [markDown_fold t.length t (markDown_eq t.length), ih, List.append_assoc]
  have := key conf []
  rw [markSet_nil] at this
  simpa using this

theorem pfAux_cons (seen : List String) (q : RQ) (r : Tree) :
    pfAux seen (q :: r) = true ↔
      (q.parent = "" ∨ q.parent ∈ seen) ∧ q.path ∉ seen ∧ ¬ q.path = "" ∧ pfAux (q.path :: seen) r = true := by
  rw [pfAux]
  simp only [Bool.and_eq_true, Bool.or_eq_true, decide_eq_true_eq, Bool.not_eq_true', decide_eq_false_iff_not,
    List.contains_eq_mem, and_assoc]

theorem pfAux_notin : ∀ (t : Tree) (seen : List String), pfAux seen t = true → ∀ x ∈ t, x.path ∉ seen := by
  intro t
  induction t with
  | nil => intro _ _ x hx; cases hx
  | cons a r ih =>
    intro seen h x hx
    obtain ⟨_, hnot, _, hrest⟩ := (pfAux_cons seen a r).mp h
    cases hx with
    | head => exact hnot
    | tail _ hm => exact fun hmem => ih _ hrest x hm (List.mem_cons_of_mem _ hmem)

theorem pfAux_find : ∀ (t : Tree) (seen : List String), pfAux seen t = true → ∀ x ∈ t, t.find x.path = some x := by
  intro t
  induction t with
  | nil => intro _ _ x hx; cases hx
  | cons a r ih =>
    intro seen h x hx
    obtain ⟨_, _, _, hrest⟩ := (pfAux_cons seen a r).mp h
    unfold Tree.find
    cases hx with
    | head => rw [List.find?_cons_of_pos (by simp)]
    | tail _ hm =>
      have hne : ¬ a.path = x.path := fun he => pfAux_notin r _ hrest x hm (he ▸ List.mem_cons_self ..)
      rw [List.find?_cons_of_neg (by simp [hne])]
      exact ih _ hrest x hm

theorem pf_find {t : Tree} (hpf : parentsFirst t = true) {x : RQ} (hx : x ∈ t) : t.find x.path = some x :=
  pfAux_find t [] hpf x hx

theorem pfAux_nonempty : ∀ (t : Tree) (seen : List String), pfAux seen t = true → ∀ x ∈ t, ¬ x.path = "" := by
  intro t
  induction t with
  | nil => intro _ _ x hx; cases hx
  | cons a r ih =>
    intro seen h x hx
    obtain ⟨_, _, hne, hrest⟩ := (pfAux_cons seen a r).mp h
    cases hx with
    | head => exact hne
    | tail _ hm => exact ih _ hrest x hm

theorem pf_nonempty {t : Tree} (hpf : parentsFirst t = true) {x : RQ} (hx : x ∈ t) : ¬ x.path = "" :=
  pfAux_nonempty t [] hpf x hx

theorem pfAux_split : ∀ (pre : Tree) (seen : List String) (q : RQ) (suf : Tree), pfAux seen (pre ++ q :: suf) = true →
    q.parent = "" ∨ q.parent ∈ seen ∨ ∃ y ∈ pre, y.path = q.parent := by
  intro pre
  induction pre with
  | nil =>
    intro seen q suf h
    exact ((pfAux_cons seen q suf).mp h).1.imp id Or.inl
  | cons a pre' ih =>
    intro seen q suf h
    rcases ih (a.path :: seen) q suf ((pfAux_cons seen a _).mp h).2.2.2 with h1 | h1 | ⟨y, hy, hyp⟩
    · exact Or.inl h1
    · rcases List.mem_cons.mp h1 with h1 | h1
      · exact Or.inr (Or.inr ⟨a, List.mem_cons_self .., h1.symm⟩)
      · exact Or.inr (Or.inl h1)
    · exact Or.inr (Or.inr ⟨y, List.mem_cons_of_mem _ hy, hyp⟩)

theorem pf_parent {pre suf : Tree} {q : RQ} (hpf : parentsFirst (pre ++ q :: suf) = true) :
    q.parent = "" ∨ ∃ y ∈ pre, y.path = q.parent :=
  (pfAux_split pre [] q suf hpf).imp id (fun h => h.resolve_left (fun h => nomatch h))

def W0 (t : Tree) : Prop := ∀ x ∈ t, x.managed = true → ∀ y ∈ t, y.path = x.parent → y.managed = true

theorem w0_spec (t : Tree) (h : w0 t = true) : W0 t := by
  intro x hx hm y hy hp
  unfold w0 at h
  have h1 := List.all_eq_true.mp h x hx
  simp only [hm, Bool.not_true, Bool.false_or] at h1
  have h2 := List.all_eq_true.mp h1 y hy
  simpa [hp] using h2

theorem mem_reach_succ (f : Nat) (t : Tree) (p y : String) :
    y ∈ reach (f + 1) t p ↔
      ∃ q, t.find p = some q ∧ q.managed = true ∧ (y = p ∨ ∃ c ∈ t, c.parent = p ∧ y ∈ reach f t c.path) := by
  rw [reach]
  cases t.find p with
  | none => simp
  | some q =>
    cases hm : q.managed with
    | false => simp [hm]
    | true =>
      simp only [hm, Bool.not_true, Bool.false_eq_true, if_false, List.mem_cons, List.mem_flatMap, List.mem_map, List.mem_filter,
        decide_eq_true_eq, Option.some.injEq, exists_eq_left', true_and]
      constructor
      · rintro (h | ⟨_, ⟨c, ⟨hc, hcp⟩, rfl⟩, hy⟩)
        · exact Or.inl h
        · exact Or.inr ⟨c, hc, hcp, hy⟩
      · rintro (h | ⟨c, hc, hcp, hy⟩)
        · exact Or.inl h
        · exact Or.inr ⟨c.path, ⟨c, ⟨hc, hcp⟩, rfl⟩, hy⟩

theorem reach_sound (t : Tree) (conf : List QC) (hpf : parentsFirst t = true)
    (hclosed : ∀ q ∈ t, configured conf q.path = true → q.parent = "" ∨ configured conf q.parent = true) :
    ∀ (f : Nat) (p : String), configured conf p = false → ∀ y ∈ reach f t p,
      configured conf y = false ∧ ∃ q, t.find y = some q ∧ q.managed = true := by
  intro f
  induction f with
  | zero => intro p _ y hy; simp [reach] at hy
  | succ f ih =>
    intro p hp y hy
    obtain ⟨q, hf, hm, rfl | ⟨c, hc, hcp, hyr⟩⟩ := (mem_reach_succ f t p y).mp hy
    · exact ⟨hp, q, hf, hm⟩
    · -- a child of an unconfigured queue is not configured: the configuration is closed under parents
      have hcu : configured conf c.path = false := by
        cases hcc : configured conf c.path with
        | false => rfl
        | true =>
          rcases hclosed c hc hcc with h0 | h0
          · exact absurd (find_some_path hf ▸ hcp ▸ h0) (pf_nonempty hpf (find_mem hf))
          · rw [hcp, hp] at h0; cases h0
      exact ih c.path hcu y hyr

theorem reach_child (t : Tree) (hpf : parentsFirst t = true) (x : RQ) (hx : x ∈ t) (hxm : x.managed = true) :
    ∀ (g : Nat) (rp : String) (yp : String), x.parent = yp → yp ∈ reach g t rp → x.path ∈ reach (g + 1) t rp := by
  intro g
  induction g with
  | zero => intro rp yp _ h; simp [reach] at h
  | succ g ih =>
    intro rp yp hpar h
    obtain ⟨q, hf, hm, rfl | ⟨c, hc, hcp, hr⟩⟩ := (mem_reach_succ g t rp yp).mp h
    · exact (mem_reach_succ _ t _ _).mpr ⟨q, hf, hm, Or.inr ⟨x, hx, hpar,
        (mem_reach_succ g t _ _).mpr ⟨x, pf_find hpf hx, hxm, Or.inl rfl⟩⟩⟩
    · exact (mem_reach_succ _ t _ _).mpr ⟨q, hf, hm, Or.inr ⟨c, hc, hcp, ih c.path yp hpar hr⟩⟩

/-- every managed queue the configuration does not name is reached from one of the marking calls of updateQueues -/
theorem marked_complete (t : Tree) (conf : List QC) (hpf : parentsFirst t = true) (hw0 : W0 t)
    (hroot : ∀ q ∈ t, q.parent = "" → configured conf q.path = true) :
    ∀ x ∈ t, x.managed = true → configured conf x.path = false → x.path ∈ markedPaths t conf := by
  -- S x n: some marking call reaches x with any fuel from n on
  let S : RQ → Nat → Prop := fun x n => ∃ r ∈ t, (∃ c ∈ conf, r.parent = c.path) ∧ configured conf r.path = false ∧
      ∀ f, n ≤ f → x.path ∈ reach f t r.path
  have main : ∀ (suf pre : Tree), t = pre ++ suf →
      (∀ x ∈ pre, x.managed = true → configured conf x.path = false → S x pre.length) →
      ∀ x ∈ t, x.managed = true → configured conf x.path = false → S x t.length := by
    intro suf
    induction suf with
    | nil => intro pre ht h; simp only [List.append_nil] at ht; rw [ht]; exact h
    | cons q suf' ih =>
      intro pre ht h
      apply ih (pre ++ [q]) (by rw [ht]; simp)
      intro x hx hxm hxu
      rw [List.length_append, List.length_singleton]
      rcases List.mem_append.mp hx with hxp | hxq
      · obtain ⟨r, hr, hc, hu, hf⟩ := h x hxp hxm hxu
        exact ⟨r, hr, hc, hu, fun f hle => hf f (by omega)⟩
      · have hxeq : x = q := by simpa using hxq
        subst hxeq
        have hxt : x ∈ t := by rw [ht]; simp
        have hfx : t.find x.path = some x := pf_find hpf hxt
        rcases pf_parent (ht ▸ hpf) with h0 | ⟨y, hy, hyp⟩
        · have := hroot x hxt h0; rw [hxu] at this; cases this
        · have hyt : y ∈ t := by rw [ht]; exact List.mem_append_left _ hy
          have hym : y.managed = true := hw0 x hxt hxm y hyt hyp
          cases hyc : configured conf y.path with
          | true =>
            obtain ⟨c, hc, hcp⟩ := (configured_iff conf y.path).mp hyc
            refine ⟨x, hxt, ⟨c, hc, by rw [hcp, hyp]⟩, hxu, ?_⟩
            intro f hle
            cases f with
            | zero => omega
            | succ f' => exact (mem_reach_succ f' t _ _).mpr ⟨x, hfx, hxm, Or.inl rfl⟩
          | false =>
            obtain ⟨r, hr, hc, hu, hf⟩ := h y hy hym hyc
            refine ⟨r, hr, hc, hu, ?_⟩
            intro f hle
            cases f with
            | zero => omega
            | succ f' => exact reach_child t hpf x hxt hxm f' r.path y.path hyp.symm (hf f' (by omega))
  intro x hx hxm hxu
  obtain ⟨r, hr, ⟨c, hc, hrc⟩, hu, hf⟩ := main t [] rfl (fun x hx => by cases hx) x hx hxm hxu
  unfold markedPaths
  refine List.mem_flatMap.mpr ⟨c, hc, List.mem_flatMap.mpr ⟨r.path, ?_, hf t.length (Nat.le_refl _)⟩⟩
  exact List.mem_map.mpr ⟨r, List.mem_filter.mpr ⟨hr, by simp [hrc, hu]⟩, rfl⟩

theorem marked_sound (t : Tree) (conf : List QC) (hpf : parentsFirst t = true)
    (hclosed : ∀ q ∈ t, configured conf q.path = true → q.parent = "" ∨ configured conf q.parent = true) :
    ∀ x ∈ t, x.path ∈ markedPaths t conf → x.managed = true ∧ configured conf x.path = false := by
  intro x hx h
  unfold markedPaths at h
  obtain ⟨c, _, h⟩ := List.mem_flatMap.mp h
  obtain ⟨rp, hrp, h⟩ := List.mem_flatMap.mp h
  obtain ⟨r, hr, hrpath⟩ := List.mem_map.mp hrp
  have hr' := (List.mem_filter.mp hr).2
  simp only [Bool.and_eq_true, decide_eq_true_eq, Bool.not_eq_true'] at hr'
  rw [← hrpath] at h
  obtain ⟨hu, q, hq, hm⟩ := reach_sound t conf hpf hclosed t.length r.path hr'.2 x.path h
  rw [pf_find hpf hx] at hq
  injection hq with hq
  subst hq
  exact ⟨hm, hu⟩

theorem markRec_eq_markMissing (t : Tree) (conf : List QC) (hpf : parentsFirst t = true) (hw0 : W0 t)
    (hclosed : ∀ q ∈ t, configured conf q.path = true → q.parent = "" ∨ configured conf q.parent = true)
    (hroot : ∀ q ∈ t, q.parent = "" → configured conf q.path = true) :
    markRec t conf = markMissing t conf := by
  rw [markRec_eq_markSet]
  unfold markSet markMissing
  apply List.map_congr_left
  intro q hq
  by_cases h : q.path ∈ markedPaths t conf
  · obtain ⟨hm, hu⟩ := marked_sound t conf hpf hclosed q hq h
    simp [h, hm, hu, RQ.mark]
  · have : ¬ (q.managed = true ∧ configured conf q.path = false) := fun ⟨hm, hu⟩ => h (marked_complete t conf hpf hw0 hroot q hq hm hu)
    by_cases hm : q.managed = true
    · have hc : configured conf q.path = true := by
        cases hcc : configured conf q.path with
        | true => rfl
        | false => exact absurd ⟨hm, hcc⟩ this
      simp [h, hm, hc]
    · simp [h, hm]

structure TreeOK (t : Tree) : Prop where
  pf : parentsFirst t = true
  w0 : W0 t
  pp : ∀ q ∈ t, q.parent = parentPath q.path

theorem pf_map_shape (f : RQ → RQ) (hp : ∀ q, (f q).path = q.path) (hpar : ∀ q, (f q).parent = q.parent) :
    ∀ (t : Tree) (seen : List String), pfAux seen (t.map f) = pfAux seen t := by
  intro t
  induction t with
  | nil => intro _; rfl
  | cons a r ih => intro seen; simp only [List.map_cons, pfAux, hp, hpar, ih]

theorem pfAux_append : ∀ (t : Tree) (seen : List String) (n : RQ), pfAux seen t = true →
    (n.parent = "" ∨ n.parent ∈ seen ∨ ∃ y ∈ t, y.path = n.parent) →
    n.path ∉ seen → (∀ y ∈ t, ¬ y.path = n.path) → ¬ n.path = "" → pfAux seen (t ++ [n]) = true := by
  intro t
  induction t with
  | nil =>
    intro seen n _ hpar hs _ hne
    refine (pfAux_cons seen n []).mpr ⟨?_, hs, hne, rfl⟩
    exact hpar.imp id (fun h => h.resolve_right (fun ⟨_, hy, _⟩ => nomatch hy))
  | cons a r ih =>
    intro seen n h hpar hs hdist hne
    obtain ⟨h1, h2, h3, hrest⟩ := (pfAux_cons seen a r).mp h
    refine (pfAux_cons seen a (r ++ [n])).mpr ⟨h1, h2, h3, ih _ n hrest ?_ ?_ (fun y hy => hdist y (List.mem_cons_of_mem _ hy)) hne⟩
    · rcases hpar with h0 | h0 | ⟨y, hy, hyp⟩
      · exact Or.inl h0
      · exact Or.inr (Or.inl (List.mem_cons_of_mem _ h0))
      · rcases List.mem_cons.mp hy with rfl | hm
        · exact Or.inr (Or.inl (hyp ▸ List.mem_cons_self ..))
        · exact Or.inr (Or.inr ⟨y, hm, hyp⟩)
    · intro hmem
      rcases List.mem_cons.mp hmem with h' | h'
      · exact hdist a (List.mem_cons_self ..) h'.symm
      · exact hs h'

theorem pfAux_filter (p : String) : ∀ (t : Tree) (seen : List String), pfAux seen t = true → (∀ x ∈ t, ¬ x.parent = p) →
    pfAux (seen.filter (fun s => !(decide (s = p)))) (t.filter (fun x => !(decide (x.path = p)))) = true := by
  intro t
  induction t with
  | nil => intro _ _ _; rfl
  | cons a r ih =>
    intro seen h hnp
    obtain ⟨hpar, hnot, hne, hrest⟩ := (pfAux_cons seen a r).mp h
    have ih' := ih (a.path :: seen) hrest (fun x hx => hnp x (List.mem_cons_of_mem _ hx))
    by_cases hap : a.path = p
    · rw [List.filter_cons_of_neg (by simp [hap])]
      rw [List.filter_cons_of_neg (by simp [hap])] at ih'
      exact ih'
    · rw [List.filter_cons_of_pos (by simp [hap])]
      rw [List.filter_cons_of_pos (by simp [hap])] at ih'
      refine (pfAux_cons _ a _).mpr ⟨?_, fun hmem => hnot (List.mem_filter.mp hmem).1, hne, ih'⟩
      exact hpar.imp id (fun h0 => List.mem_filter.mpr ⟨h0, by simpa using hnp a (List.mem_cons_self ..)⟩)

theorem find_none_forall {t : Tree} {p : String} (h : t.find p = none) : ∀ y ∈ t, ¬ y.path = p := by
  intro y hy
  unfold Tree.find at h
  have := List.find?_eq_none.mp h y hy
  simpa using this

theorem find_isSome_mem {t : Tree} {p : String} (h : (t.find p).isSome) : ∃ y ∈ t, y.path = p := by
  cases hf : t.find p with
  | none => rw [hf] at h; cases h
  | some y => exact ⟨y, find_mem hf, find_some_path hf⟩

theorem TreeOK.map_mono {t : Tree} (h : TreeOK t) (f : RQ → RQ) (hp : ∀ q, (f q).path = q.path) (hpar : ∀ q, (f q).parent = q.parent)
    (hmono : ∀ q, q.managed = true → (f q).managed = true)
    (hnew : ∀ x ∈ t, (f x).managed = true → x.managed = true ∨ ∀ y ∈ t, y.path = x.parent → y.managed = true) :
    TreeOK (t.map f) := by
  refine ⟨?_, ?_, ?_⟩
  · unfold parentsFirst; rw [pf_map_shape f hp hpar]; exact h.pf
  · intro x hx hxm y hy hyp
    obtain ⟨x0, hx0, rfl⟩ := List.mem_map.mp hx
    obtain ⟨y0, hy0, rfl⟩ := List.mem_map.mp hy
    rw [hp, hpar] at hyp
    apply hmono
    rcases hnew x0 hx0 hxm with hm | hm
    · exact h.w0 x0 hx0 hm y0 hy0 hyp
    · exact hm y0 hy0 hyp
  · intro q hq
    obtain ⟨q0, hq0, rfl⟩ := List.mem_map.mp hq
    rw [hp, hpar]; exact h.pp q0 hq0

/-- covers every change of allocations, applications, states, limits -/
theorem TreeOK.map {t : Tree} (h : TreeOK t) (f : RQ → RQ) (hp : ∀ q, (f q).path = q.path) (hpar : ∀ q, (f q).parent = q.parent)
    (hm : ∀ q, (f q).managed = q.managed) : TreeOK (t.map f) :=
  h.map_mono f hp hpar (fun q hq => by rw [hm]; exact hq) (fun x _ hx => Or.inl (by rw [← hm]; exact hx))

/-- what NewConfiguredQueue / NewDynamicQueue append: a managed queue only below a managed one -/
theorem TreeOK.append {t : Tree} (h : TreeOK t) (n : RQ) (hne : ¬ n.path = "") (hnew : t.find n.path = none)
    (hpp : n.parent = parentPath n.path) (hpar : n.parent = "" ∨ (t.find n.parent).isSome)
    (hm : n.managed = true → ∀ y ∈ t, y.path = n.parent → y.managed = true) : TreeOK (t ++ [n]) := by
  refine ⟨?_, ?_, ?_⟩
  · exact pfAux_append t [] n h.pf (hpar.imp id (fun hs => Or.inr (find_isSome_mem hs))) (fun h => nomatch h) (find_none_forall hnew) hne
  · intro x hx hxm y hy hyp
    rcases List.mem_append.mp hx with hxt | hxn
    · rcases List.mem_append.mp hy with hyt | hyn
      · exact h.w0 x hxt hxm y hyt hyp
      · -- the new queue cannot be the parent of an old one: its path was not there, and parents are present
        obtain rfl : y = n := by simpa using hyn
        exfalso
        obtain ⟨pre, suf, hsplit⟩ := List.append_of_mem hxt
        rcases pf_parent (hsplit ▸ h.pf) with h0 | ⟨z, hz, hzp⟩
        · exact hne (hyp.trans h0)
        · exact find_none_forall hnew z (by rw [hsplit]; exact List.mem_append_left _ hz) (by rw [hzp, hyp])
    · obtain rfl : x = n := by simpa using hxn
      rcases List.mem_append.mp hy with hyt | hyn
      · exact hm hxm y hyt hyp
      · obtain rfl : y = x := by simpa using hyn
        exact hxm
  · intro x hx
    rcases List.mem_append.mp hx with hxt | hxn
    · exact h.pp x hxt
    · obtain rfl : x = n := by simpa using hxn
      exact hpp

theorem applyEntry_ok_tree (t : Tree) (c : QC) (h : TreeOK t) (hcp : c.parent = parentPath c.path) (hne : ¬ c.path = "")
    (hparent : c.parent = "" ∨ ∃ qy, t.find c.parent = some qy ∧ qy.managed = true) : TreeOK (applyEntry t c).1 := by
  have hpm : ∀ y ∈ t, y.path = c.parent → y.managed = true := by
    intro y hy hyp
    rcases hparent with h0 | ⟨qy, hqy, hqm⟩
    · exact absurd (hyp.trans h0) (pf_nonempty h.pf hy)
    · have := pf_find h.pf hy
      rw [hyp, hqy] at this
      cases this
      exact hqm
  refine applyEntry_elim t c h ?_ ?_
  · intro _ _
    refine h.map_mono _ ?_ ?_ ?_ ?_
    · intro q; split
      · exact updExisting_frame frame_path ..
      · rfl
    · intro q; split
      · exact updExisting_frame frame_parent ..
      · rfl
    · intro q hq; split
      · exact updExisting_managed_mono q c _ hq
      · exact hq
    · intro x hx hxm
      by_cases hxc : x.path = c.path
      · exact Or.inr (fun y hy hyp => hpm y hy (by rw [hyp, h.pp x hx, hxc, ← hcp]))
      · exact Or.inl (by simpa only [hxc, if_false] using hxm)
  · intro hf _
    have hpath : (updExisting (blank c) c (parentOf t c)).path = c.path := updExisting_frame frame_path ..
    have hpar : (updExisting (blank c) c (parentOf t c)).parent = c.parent := updExisting_frame frame_parent ..
    refine h.append _ (by rw [hpath]; exact hne) (by rw [hpath]; exact hf) (by rw [hpath, hpar]; exact hcp) ?_
      (fun _ => by rw [hpar]; exact hpm)
    rw [hpar]
    exact hparent.imp id (fun ⟨qy, hqy, _⟩ => by rw [hqy]; rfl)

theorem confPaths_spec (conf : List QC) (h : confPaths conf = true) : ∀ c ∈ conf, c.parent = parentPath c.path ∧ ¬ c.path = "" := by
  intro c hc
  unfold confPaths at h
  have := List.all_eq_true.mp h c hc
  simpa using this

theorem applyAll_ok_tree_aux (conf : List QC) : ∀ (seen : List QC) (t0 t : Tree), TreeOK t → Walked t0 seen t →
    confWFAux seen conf = true → (∀ c ∈ conf, c.parent = parentPath c.path ∧ ¬ c.path = "") → TreeOK (applyAll t conf).1 := by
  induction conf with
  | nil => intro _ _ t h _ _ _; exact h
  | cons a r ih =>
    intro seen t0 t h hw hwf hcp
    obtain ⟨hnew, hpar, hrest⟩ := (confWFAux_cons seen a r).mp hwf
    have hparent : a.parent = "" ∨ ∃ qy, t.find a.parent = some qy ∧ qy.managed = true :=
      hpar.imp id (fun ⟨p, hp, hpp, _⟩ => by obtain ⟨q, hq, _, _, hm⟩ := hw.settled hp; exact ⟨q, hpp ▸ hq, hm⟩)
    have hstep := applyEntry_ok_tree t a h (hcp a (List.mem_cons_self ..)).1 (hcp a (List.mem_cons_self ..)).2 hparent
    cases he : (applyEntry t a).2 with
    | some e => rw [applyAll_cons_err r he]; exact hstep
    | none =>
      rw [applyAll_cons_ok r he]
      exact ih _ t0 _ hstep (hw.step (applyEntry_noerr_entryErr t a he) hnew hpar).2 hrest
        (fun c hc => hcp c (List.mem_cons_of_mem _ hc))

theorem applyAll_ok_tree (t : Tree) (conf : List QC) (h : TreeOK t) (hwf : confWF conf = true) (hcp : confPaths conf = true) :
    TreeOK (applyAll t conf).1 :=
  applyAll_ok_tree_aux conf [] t t h (Walked.nil t) hwf (confPaths_spec conf hcp)

theorem TreeOK.mark {t : Tree} (h : TreeOK t) (p : RQ → Prop) [DecidablePred p] :
    TreeOK (t.map (fun q => if p q then q.mark else q)) := by
  apply h.map
  · intro q; split <;> rfl
  · intro q; split <;> rfl
  · intro q; split <;> rfl

theorem markMissing_ok_tree (t : Tree) (conf : List QC) (h : TreeOK t) : TreeOK (markMissing t conf) :=
  h.mark (fun q => (q.managed && !(configured conf q.path)) = true)

theorem markRec_ok_tree (t : Tree) (conf : List QC) (h : TreeOK t) : TreeOK (markRec t conf) := by
  rw [markRec_eq_markSet]
  exact h.mark (fun q => q.path ∈ markedPaths t conf)

theorem updateTree_ok_tree (t : Tree) (conf : List QC) (h : TreeOK t) (hwf : confWF conf = true) (hcp : confPaths conf = true) :
    TreeOK (updateTree t conf).1 := by
  have ha := applyAll_ok_tree t conf h hwf hcp
  rcases updateTree_fst t conf with e | e <;> rw [e]
  · exact ha
  · exact markMissing_ok_tree _ conf ha

theorem updateTreeRec_fst (t : Tree) (conf : List QC) :
    (updateTreeRec t conf).1 = (applyAll t conf).1 ∨ (updateTreeRec t conf).1 = markRec (applyAll t conf).1 conf := by
  unfold updateTreeRec
  cases applyAll t conf with
  | mk t1 e1 => cases e1 with
    | some e => exact Or.inl rfl
    | none => exact Or.inr rfl

theorem updateTreeRec_ok_tree (t : Tree) (conf : List QC) (h : TreeOK t) (hwf : confWF conf = true) (hcp : confPaths conf = true) :
    TreeOK (updateTreeRec t conf).1 := by
  have ha := applyAll_ok_tree t conf h hwf hcp
  rcases updateTreeRec_fst t conf with e | e <;> rw [e]
  · exact ha
  · exact markRec_ok_tree _ conf ha

theorem cleanStep_ok_tree (t : Tree) (q : RQ) (h : TreeOK t) : TreeOK (cleanStep t q) := by
  unfold cleanStep
  split
  · rename_i hrem
    have hnp : ∀ x ∈ t, ¬ x.parent = q.path := by
      have hnc := (removable_spec hrem).2.2
      unfold Tree.hasChild at hnc
      rw [List.any_eq_false] at hnc
      intro x hx; simpa using hnc x hx
    refine ⟨?_, ?_, ?_⟩
    · simpa [parentsFirst] using pfAux_filter q.path t [] h.pf hnp
    · intro x hx hxm y hy hyp
      exact h.w0 x (List.mem_filter.mp hx).1 hxm y (List.mem_filter.mp hy).1 hyp
    · intro x hx; exact h.pp x (List.mem_filter.mp hx).1
  · exact h

theorem clean_ok_tree (t : Tree) (h : TreeOK t) : TreeOK (clean t) :=
  List.foldlRecOn _ cleanStep h fun acc ha a _ => cleanStep_ok_tree acc a ha

/-- the trees the modelled operations can produce: a fresh load, configuration updates (accepted or stopped by an error),
    the queue cleaner, creation of a dynamic queue by a submission, and anything that leaves path, parent and the
    managed flag of every queue alone (allocations, applications, scheduling) -/
inductive Reachable : Tree → Prop
  | fresh (conf : List QC) : confWF conf = true → confPaths conf = true → Reachable (applyAll [] conf).1
  | update (t : Tree) (conf : List QC) : Reachable t → confWF conf = true → confPaths conf = true → Reachable (updateTree t conf).1
  | updateRec (t : Tree) (conf : List QC) : Reachable t → confWF conf = true → confPaths conf = true → Reachable (updateTreeRec t conf).1
  | clean (t : Tree) : Reachable t → Reachable (clean t)
  | dynamic (t : Tree) (q : RQ) : Reachable t → q.managed = false → ¬ q.path = "" → t.find q.path = none →
      q.parent = parentPath q.path → (t.find q.parent).isSome → Reachable (t ++ [q])
  | other (t : Tree) (f : RQ → RQ) : Reachable t → (∀ q, (f q).path = q.path) → (∀ q, (f q).parent = q.parent) →
      (∀ q, (f q).managed = q.managed) → Reachable (t.map f)

theorem treeOK_nil : TreeOK [] := ⟨rfl, fun _ hx => (nomatch hx), fun _ hx => (nomatch hx)⟩

theorem updateTreeRec_eq_updateTree (t : Tree) (conf : List QC) (h : TreeOK t) (hwf : confWF conf = true) (hcp : confPaths conf = true)
    (htop : ∀ q ∈ t, q.parent = "" → configured conf q.path = true) : updateTreeRec t conf = updateTree t conf := by
  have ha := applyAll_ok_tree t conf h hwf hcp
  have hother := applyAll_find_other conf t
  unfold updateTreeRec updateTree
  cases he : applyAll t conf with
  | mk t1 e1 =>
    rw [he] at ha hother
    cases e1 with
    | some e => rfl
    | none =>
      simp only
      rw [markRec_eq_markMissing t1 conf ha.pf ha.w0]
      · intro q hq hc
        obtain ⟨c, hcm, hcpath⟩ := (configured_iff conf q.path).mp hc
        have hqpar : q.parent = c.parent := by
          rw [ha.pp q hq, ← hcpath]; exact ((confPaths_spec conf hcp) c hcm).1.symm
        rw [hqpar]
        exact (confWF_parent hwf c hcm).imp id (fun ⟨p, hp, hpp, _⟩ => (configured_iff conf c.parent).mpr ⟨p, hp, hpp⟩)
      · intro q hq hpar
        -- a top queue the configuration does not name is a queue of the old tree, where the configuration names the top
        cases hc : configured conf q.path with
        | true => rfl
        | false =>
          have hq0 := hother q.path (not_configured hc)
          rw [pf_find ha.pf hq] at hq0
          rw [← hc]
          exact htop q (find_mem hq0.symm) hpar

theorem no_entry_below_leaf (conf : List QC) (hwf : confWF conf = true) (p : String) (hp : ¬ p = "")
    (hleaf : ∀ c ∈ conf, c.path = p → c.isParent = false) : ∀ c ∈ conf, ¬ c.parent = p := by
  intro c hc hpar
  rcases confWF_parent hwf c hc with h0 | ⟨e, he, hep, hei⟩
  · exact hp (by rw [← hpar, h0])
  · rw [hleaf e he (by rw [hep, hpar])] at hei
    cases hei

/-- a parent that becomes a leaf: an entry of leaf type has no entry below it, so the children the queue had are not
    named by the configuration and take the Remove event -/
theorem children_of_leaf_not_configured (t : Tree) (conf : List QC) (h : TreeOK t) (hwf : confWF conf = true) (hcp : confPaths conf = true)
    (p : String) (hp : ¬ p = "") (hleaf : ∀ c ∈ conf, c.path = p → c.isParent = false)
    (x : String) (q : RQ) (hq : t.find x = some q) (hpar : q.parent = p) : configured conf x = false := by
  cases hc : configured conf x with
  | false => rfl
  | true =>
    obtain ⟨c, hcm, hcx⟩ := (configured_iff conf x).mp hc
    have h1 := (confPaths_spec conf hcp c hcm).1
    have h2 := h.pp q (find_mem hq)
    have hqx := find_some_path hq
    exact absurd (by rw [h1, hcx, ← hqx, ← h2, hpar]) (no_entry_below_leaf conf hwf p hp hleaf c hcm)

end Yk.Reload
