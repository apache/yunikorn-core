/-
  C15, placement rules: a single fully static rule (`fixed`) that validation accepted does resolve at run time — when the
  spellings agree: rule name and value in lower case, queue names in lower case, the parent flag set on every queue that has
  children, a static path whose first component is root, a value that is not merely prefixed by "root", and not the
  recovery queue.  (Each hypothesis excludes one of the refuted classes C15.P1.* of YkProps/C15.lean.)
-/
import YkProofs.ConfMain
namespace Yk.Conf
open Yk Yk.Res

theorem checkStaticPaths_cons {sp : StaticPath} {t : List StaticPath} {queues : List QC}
    (h : checkStaticPaths (sp :: t) queues = .ok ()) :
    hierarchy (splitDots (toLower sp.path)) sp.create sp.dynamic queues none = .ok ∧ checkStaticPaths t queues = .ok () := by
  unfold checkStaticPaths at h
  generalize hierarchy (splitDots (toLower sp.path)) sp.create sp.dynamic queues none = res at h ⊢
  cases res with
  | ok => exact ⟨rfl, h⟩
  | nonExisting => cases h
  | notLeaf => cases h
  | lastLeaf => cases h

/-- every rule of an accepted rule list with a static path inside `root…` passed checkQueueHierarchyForPlacement -/
theorem staticPaths_checked : ∀ (rules : List Rule) (paths : List StaticPath) (queues : List QC),
    longestPaths rules = .ok paths → checkStaticPaths paths queues = .ok () →
    ∀ r ∈ rules, ∀ p dyn, longestStatic r = .ok (p, dyn) → hasPrefix p "root" = true →
      hierarchy (splitDots (toLower p)) ((r.head?.map (·.create)).getD false) dyn queues none = .ok
  | [], _, _, _, _ => by intro r hr; cases hr
  | rule :: t, paths, queues, hl, hc => by
    unfold longestPaths at hl
    simp only [bind_ok] at hl
    obtain ⟨⟨p0, dyn0⟩, h0, rest, hrest, hl⟩ := hl
    intro r hr p dyn hp hpre
    cases hpr : hasPrefix p0 "root" with
    | true =>
      rw [hpr, if_pos rfl] at hl
      cases pure_ok.mp hl
      obtain ⟨hh, hc'⟩ := checkStaticPaths_cons hc
      cases hr with
      | head => cases h0.symm.trans hp; exact hh
      | tail _ hr => exact staticPaths_checked t rest queues hrest hc' r hr p dyn hp hpre
    | false =>
      rw [hpr, if_neg Bool.false_ne_true] at hl
      cases pure_ok.mp hl
      cases hr with
      | head => cases h0.symm.trans hp; rw [hpr] at hpre; cases hpre
      | tail _ hr => exact staticPaths_checked t _ queues hrest hc r hr p dyn hp hpre

def staticPathOf (d : RuleD) : String := if hasPrefix d.value "root" then d.value else "root" ++ "." ++ d.value

theorem longestStatic_single (d : RuleD) (hn : d.name = "fixed") : longestStatic [d] = .ok (staticPathOf d, false) := by
  unfold longestStatic staticPathOf
  simp only [List.reverse_cons, List.reverse_nil, List.nil_append]
  unfold longestStaticAux
  simp only [Bool.false_eq_true, if_false, hn, bne_self_eq_false]
  by_cases hq : hasPrefix d.value "root" = true
  · simp [hq, longestStaticAux]
  · simp [hq, longestStaticAux]

theorem staticPathOf_prefix (d : RuleD) : hasPrefix (staticPathOf d) "root" = true := by
  unfold staticPathOf
  by_cases hq : hasPrefix d.value "root" = true
  · simp [hq]
  · simp only [hq, Bool.false_eq_true, if_false]
    simp [hasPrefix, String.toList_append]

mutual
/-- spelling agrees between configuration and run time: queue names in lower case, parent flag on every queue with children -/
def CanonTree : QC → Prop
  | .mk d qs => (qs ≠ [] → d.parent = true) ∧ CanonList qs
def CanonList : List QC → Prop
  | [] => True
  | c :: t => toLower c.d.name = c.d.name ∧ CanonTree c ∧ CanonList t
end

theorem canonList_mem : ∀ {qs : List QC}, CanonList qs → ∀ c ∈ qs, toLower c.d.name = c.d.name ∧ CanonTree c
  | [], _, c, hc => by cases hc
  | q :: t, h, c, hc => by
    unfold CanonList at h
    cases hc with
    | head => exact ⟨h.1, h.2.1⟩
    | tail _ hc => exact canonList_mem h.2.2 c hc

theorem find?_congr {α : Type} {p q : α → Bool} : ∀ {l : List α}, (∀ x ∈ l, p x = q x) → l.find? p = l.find? q
  | [], _ => rfl
  | a :: t, h => by
    simp only [List.find?_cons, h a List.mem_cons_self]
    rw [find?_congr (fun x hx => h x (List.mem_cons_of_mem _ hx))]

/-- below a queue with canonical spelling, what checkQueueHierarchyForPlacement accepts for a static path is what the
    run-time lookup finds: the path ends in a leaf, or leaves the configured tree below a parent (the test `resolves` makes) -/
theorem hierarchy_descend : ∀ (path : List String) (create : Bool) (q : QC), CanonTree q → path ≠ [] →
    hierarchy path create false q.qs (some q.d) = .ok →
    (if (descend path q).2.isEmpty then isLeafLoaded (descend path q).1 else !isLeafLoaded (descend path q).1) = true
  | [], _, _, _, hne, _ => absurd rfl hne
  | n :: rest, create, .mk d qs, hc, _, hh => by
    unfold CanonTree at hc
    obtain ⟨hflag, hlist⟩ := hc
    simp only [QC.qs, QC.d] at hh
    unfold hierarchy at hh
    unfold descend
    rw [show (QC.mk d qs).qs = qs from rfl,
      find?_congr (q := fun c => c.d.name == n) (fun c hcm => by rw [(canonList_mem hlist c hcm).1])]
    cases hf : qs.find? (fun c => c.d.name == n) with
    | none =>
      -- the path leaves the configured tree at a queue that has children or is flagged as parent
      cases qs with
      | cons _ _ => simp [isLeafLoaded, QC.qs]
      | nil =>
        have hp : d.parent = true := by
          cases hdp : d.parent
          · simp [hdp] at hh
          · rfl
        simp [isLeafLoaded, QC.d, hp]
    | some c =>
      have hcm : c ∈ qs := List.mem_of_find?_eq_some hf
      obtain ⟨_, hcc⟩ := canonList_mem hlist c hcm
      have hqs : qs.isEmpty = false := List.isEmpty_eq_false_iff.mpr (List.ne_nil_of_mem hcm)
      simp only [hqs, Bool.false_eq_true, if_false, hf] at hh ⊢
      cases rest with
      | cons m rest' => exact hierarchy_descend (m :: rest') create c hcc (List.cons_ne_nil _ _) hh
      | nil =>
        -- the path ends at `c`: not flagged as parent, hence (canonical spelling) without children
        obtain ⟨cd, cqs⟩ := c
        have hcp : cd.parent = false := by
          cases hcp : cd.parent
          · rfl
          · simp [QC.d, hcp] at hh
        unfold CanonTree at hcc
        cases cqs with
        | nil => simp [descend, isLeafLoaded, QC.d, QC.qs, hcp]
        | cons x t => rw [hcc.1 (List.cons_ne_nil _ _)] at hcp; cases hcp

theorem fixedName_single {root : QC} {d : RuleD} {n : String} (h : fixedName root [d] none = some n) :
    n = if qualifiedRT (toLower d.value) then toLower d.value else "root." ++ toLower d.value := by
  simp only [fixedName, ← apply_ite some] at h
  -- with the literal "root." in sight, `split` and `cases` would unfold string append
  generalize (if qualifiedRT (toLower d.value) then toLower d.value else "root." ++ toLower d.value) = name at h ⊢
  split at h
  · cases h
  · exact (Option.some.inj h).symm

theorem root_dot : "root" ++ "." = "root." := by decide

/-- a single fixed rule, spelled canonically, that validation accepted returns nothing or a queue name that resolves -/
theorem single_fixed_rule_resolves {p p' : Part} {root : QC} (h : Accepted p p' root) (d : RuleD) (hr : [d] ∈ p.rules)
    (hn : d.name = "fixed") (hv : toLower d.value = d.value) (hp : toLower (staticPathOf d) = staticPathOf d)
    (hroot : root.d.name = "root") (hc : CanonTree root)
    (hin : ∃ rest, splitDots (staticPathOf d) = "root" :: rest)
    (hq : qualifiedRT d.value = hasPrefix d.value "root") (hrec : staticPathOf d ≠ "root.@recovery@") :
    okStaticRule root [d] = true := by
  have hrules := h.rules
  unfold checkPlacementRules at hrules
  have hne : p.rules.isEmpty = false := List.isEmpty_eq_false_iff.mpr (List.ne_nil_of_mem hr)
  simp only [hne, Bool.false_eq_true, if_false, bind_ok] at hrules
  obtain ⟨_, _, paths, hpaths, hchk⟩ := hrules
  have hh := staticPaths_checked p.rules paths [root] hpaths hchk [d] hr (staticPathOf d) false
    (longestStatic_single d hn) (staticPathOf_prefix d)
  rw [hp] at hh
  obtain ⟨rest, hparts⟩ := hin
  rw [hparts] at hh
  simp only [List.head?_cons, Option.map_some, Option.getD_some] at hh
  obtain ⟨r0, h0, h1⟩ := h.struct
  have hpar : root.d.parent = true := by
    rw [(checkLimitsStructure_ok h1).2.1]; exact (checkQueuesStructure_ok h0).2.1
  unfold hierarchy at hh
  have hfr : [root].find? (fun q => q.d.name == "root") = some root := by simp [hroot]
  simp only [List.isEmpty_cons, Bool.false_eq_true, if_false, hfr] at hh
  have hrest : rest ≠ [] := by
    intro e; subst e
    simp [hpar] at hh
  simp only [List.isEmpty_eq_false_iff.mpr hrest, Bool.false_eq_true, if_false] at hh
  have hd := hierarchy_descend rest d.create root hc hrest hh
  have hres : resolves root (staticPathOf d) = true := by
    unfold resolves
    have hne : (staticPathOf d != "root.@recovery@") = true := by simpa using hrec
    simp only [hne, hparts, List.head?_cons, beq_self_eq_true, List.drop_succ_cons, List.drop_zero, Bool.true_and]
    exact hd
  -- at run time the rule returns nothing or its static path
  unfold okStaticRule
  cases hf : fixedName root [d].reverse none with
  | none => simp
  | some n =>
    have hn : n = staticPathOf d := by
      rw [fixedName_single hf, hv, hq, ← root_dot]
      rfl
    simp [hn, hres]

end Yk.Conf
