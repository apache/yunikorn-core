/-
  Life-cycle invariants (`LifeInv`, `NoPendInv` of Core2Life.lean) are preserved by `releaseApp`, `appRemove`,
  `phTimeout`, `stateTimeout`, and — at the end of a node removal, from `LifeCore` alone — by `leaveApp` /
  `sweepTerminated`.
-/
import YkProofs.Core2Life
namespace Yk
open Res Core Life

namespace LifeC

/-! ### `releaseApp` -/

theorem relAll2_gone (tt : TermType) (a : CApp) (h : (relAll2 tt a).live = true) :
    terminated (relAll2 tt a).state = false := by
  unfold relAll2 at h ⊢
  simp only [Bool.and_eq_true, Bool.not_eq_true'] at h
  exact h.2

theorem relAll2_state_noasks {tt : TermType} {a : CApp} (h : relAsks tt a = false) :
    (relAll2 tt a).state = (relAllApp a).state := by
  unfold relAll2
  simp only [h, Bool.false_eq_true, if_false]

theorem relAllApp_moves (a : CApp) : Moves a.state (relAllApp a).state := by
  rw [relAllApp_state]
  exact .ite_complete _

theorem relAllApp_loses (a : CApp) : Loses a.items (relAllApp a).items := by
  rw [relAllApp_items]
  exact ((Loses.refl _).map itemLoses_unbind).filter _

theorem relAllApp_step (a : CApp) (hba : AppBooks a) (hwa : AppWF a) (hpos : Pos a.items) : Life.Step a (relAllApp a) := by
  obtain ⟨hbb, hwb⟩ := app_relAllApp a ⟨hba, hwa⟩
  have hi := relAllApp_loses a
  have hs := relAllApp_state a
  split at hs
  · rename_i hz
    exact .ofComplete hbb hwb (hi.pos hpos) hs hi
      (fun _ => ⟨by rw [relAllApp_pending]; exact hz, by rw [relAllApp_allocated]; rfl⟩)
      (fun _ => by rw [relAllApp_allocatedPh]; rfl)
  · exact .stay_of_loses hs hi

/-- the nodes after `releaseApp` / `appRemove`: the allocations of the application are gone, then its reservations -/
theorem addsPos_unres_rmN (b : Bool) (a : CApp) (l : List CItem) : AddsPos (fun n => unresN b a (rmN l n)) :=
  (AddsPos.of_sub (fun n => (rmN_allocs l n).1)).comp (.of_irrel (unresN_irrel b a))

/-! ### `dropAsksApp` -/

theorem dropAsksApp_loses (b : CApp) : Loses b.items (dropAsksApp b).items := by
  rw [dropAsksApp_items]
  split
  · exact ((Loses.refl _).filter _).map itemLoses_unreq
  · exact Loses.refl _

theorem dropAsksApp_step (b : CApp) (hb : AppBooks b ∧ AppWF b) (hpos : Pos b.items) : Life.Step b (dropAsksApp b) := by
  have hi := dropAsksApp_loses b
  obtain ⟨hbb, hwb⟩ := app_dropAsksApp b hb
  have hst := dropAsksApp_state b
  split at hst
  · rename_i hc
    simp only [Bool.and_eq_true, bne_iff_ne, ne_eq] at hc
    exact .ofComplete hbb hwb (hi.pos hpos) hst hi
      (fun _ => ⟨by rw [dropAsksApp_pending, if_pos hc.1.1.1.1]; rfl, by rw [dropAsksApp_allocated]; exact hc.1.1.1.2⟩)
      (fun h => absurd h hc.1.2)
  · exact .stay_of_loses hst hi

theorem dropAsksApp_not_terminated (b : CApp) (hnt : terminated b.state = false) : terminated (dropAsksApp b).state = false := by
  rw [dropAsksApp_state]
  exact ite_complete_not_terminated (fun hc => by simp only [Bool.and_eq_true, bne_iff_ne, ne_eq] at hc; exact hc.1.2) hnt

theorem outstanding_of_noReq {y : CItem} (h : y.inReq = false) : y.outstanding = false := by
  unfold CItem.outstanding; rw [h]; rfl

/-! ### `relAll2` = `relAllApp`, then (unless a TIMEOUT is confirmed) `dropAsksApp`, then the `live` field -/

theorem relAll2_step (tt : TermType) (a : CApp) (hba : AppBooks a) (hwa : AppWF a) (hpos : Pos a.items) :
    Life.Step a (relAll2 tt a) ∧ Pos (relAll2 tt a).items := by
  have h1 := relAllApp_step a hba hwa hpos
  have hp1 := (relAllApp_loses a).pos hpos
  unfold relAll2
  dsimp only
  split
  · exact ⟨(h1.trans (dropAsksApp_step _ (app_relAllApp a ⟨hba, hwa⟩) hp1)).congr rfl rfl, (dropAsksApp_loses _).pos hp1⟩
  · exact ⟨h1.congr rfl rfl, hp1⟩

theorem relAll2_life (tt : TermType) (a : CApp) (hl : a.live = true) (hb : AppBooks a) (hw : AppWF a) (h : AppLife a) :
    AppLife (relAll2 tt a) ∧ (AppNoPend a → AppNoPend (relAll2 tt a)) := by
  obtain ⟨hs, hp⟩ := relAll2_step tt a hb hw (h.pos hl)
  -- `relAll2` leaves when `relAllApp` left or the state is terminated now; `relAllApp` leaves only when terminated, and
  -- then no asks are dropped
  refine ⟨⟨hs.core h.toAppCore hl hp (fun e => ?_), relAll2_gone tt a⟩, hs.nopend hl⟩
  have e' : ((relAllApp a).live && !(terminated (relAll2 tt a).state)) = false := e
  rcases Bool.and_eq_false_iff.mp e' with h1 | h1
  · have hra : relAsks tt a = false := by unfold relAsks; rw [h1]; simp
    rw [relAll2_state_noasks hra]
    rw [relAllApp_live] at h1; simpa using h1
  · simpa using h1

/-! ### `phTimeout`, case 2 -/

theorem phApp1_state (a : CApp) (ev : Option String) : (phApp1 a ev).state = ev.getD a.state := by
  unfold phApp1
  cases ev with
  | none => rfl
  | some st => exact setState_state a st

theorem phApp1_loses (a : CApp) (ev : Option String) : Loses a.items (phApp1 a ev).items := by
  rw [phApp1_items]
  exact (Loses.refl _).map (ItemLoses.of_irrel (itemIrrel_ite (fun x => x.bound && !x.preempted) _ itemIrrel_released))

/-- the announced state (Failing / Resuming) is one in which the application has work -/
theorem phApp1_step (a : CApp) (ev : Option String) (hev : ev = none ∨ ev = some "Failing" ∨ ev = some "Resuming")
    (hnt : terminated a.state = false) :
    Life.Step a (phApp1 a ev) ∧ terminated (phApp1 a ev).state = false := by
  have hs := phApp1_state a ev
  rcases hev with rfl | rfl | rfl
  · exact ⟨.stay_of_loses hs (phApp1_loses a none), by rw [hs]; exact hnt⟩
  · exact ⟨.safe (by rw [hs]; simp) (by rw [hs]; rfl), by rw [hs]; rfl⟩
  · exact ⟨.safe (by rw [hs]; simp) (by rw [hs]; rfl), by rw [hs]; rfl⟩

/-- `phApp2` = the flags of `phApp1`, then `dropAsksApp` -/
theorem phApp2_life (a : CApp) (ev : Option String) (hev : ev = none ∨ ev = some "Failing" ∨ ev = some "Resuming")
    (hl : a.live = true) (hb : AppBooks a) (hw : AppWF a) (hlife : AppLife a) :
    AppLife (phApp2 a ev) ∧ (AppNoPend a → AppNoPend (phApp2 a ev)) := by
  obtain ⟨h1, hnt1⟩ := phApp1_step a ev hev (hlife.termGone hl)
  have hpos1 := (phApp1_loses a ev).pos (hlife.pos hl)
  exact (h1.trans (dropAsksApp_step _ (app_phApp1 a ev ⟨hb, hw⟩) hpos1)).life_kept hlife hl
    ((dropAsksApp_loses _).pos hpos1) ((phApp2_live a ev).trans hl) (dropAsksApp_not_terminated _ hnt1)

theorem relPh_irrel : ItemIrrel relPh :=
  itemIrrel_ite (fun x => x.bound && x.ph && !x.released && !x.preempted) _ itemIrrel_released

/-! ### `stateTimeout` -/

/-- the timer only fires this branch when nothing is bound any more: the new record lists no item at all -/
theorem doneApp_life (a : CApp) (hl : a.live = true) (hst : a.state = "Completing")
    (hz : isZero (some a.allocatedPh) = true) (hb : AppBooks a) (hw : AppWF a) (hlife : AppLife a) :
    AppLife (doneApp a) ∧ AppNoPend (doneApp a) := by
  have hno : ∀ y ∈ (doneApp a).items, False := by
    intro y hy
    have hy' : y ∈ Timer.boundOnly a.items := hy
    obtain ⟨x, hx, hxb, _⟩ := mem_boundOnly hy'
    have h1 := hlife.completingNoReal hl hst x hx hxb
    have h2 := (AppBooks.none_of_zero hb hw (hlife.pos hl)).2.1 hz x hx hxb
    rw [h1] at h2; cases h2
  exact AppLife.of_no_items hno (fun h => by cases (h : false = true))

/-! ### `leaveApp`, `sweepTerminated` -/

theorem leftApp_loses (a : CApp) : Loses a.items (leftApp a).items :=
  ((Loses.refl _).filter _).map itemLoses_unreq

/-- a terminated application that leaves holds no placeholder (`noPhOrphan` of the live record) -/
theorem appCore_leftApp (a : CApp) (hl : a.live = true) (ht : terminated a.state = true) (h : AppCore a) :
    AppCore (leftApp a) :=
  (Life.Step.stay_of_loses (a := a) (b := leftApp a) rfl (leftApp_loses a)).core h hl ((leftApp_loses a).pos (h.pos hl))
    (fun _ => ht)

theorem appNoPend_leftApp (a : CApp) : AppNoPend (leftApp a) :=
  AppNoPend.of_none (fun y hy => by
    have hy' : y ∈ Timer.boundOnly a.items := hy
    obtain ⟨x, _, _, rfl⟩ := mem_boundOnly hy'
    rfl)

end LifeC

/-- partition.removeAllocation(app, "", tt) -/
theorem life_nopend_releaseApp (s : Core) (tt : TermType) (app : String) (hw : CoreWF s) (hb : Books s) (h : LifeInv s) :
    LifeInv (s.releaseApp tt app) ∧ (NoPendInv s → NoPendInv (s.releaseApp tt app)) := by
  cases hfind : s.findApp app with
  | none => rw [releaseApp_none tt hfind]; exact ⟨h, id⟩
  | some a =>
    obtain ⟨ham, hl, _⟩ := findApp_some hfind
    exact (shape_releaseApp s tt app a hfind).life hw h
      (LifeC.relAll2_life tt a hl (hb.apps a ham hl) (hw.app ham hl) (appLife_of h ham)) (LifeC.addsPos_unres_rmN _ a _)

/-- partition.removeApplication -/
theorem life_nopend_appRemove (s : Core) (app : String) (h : LifeInv s) :
    LifeInv (s.appRemove app) ∧ (NoPendInv s → NoPendInv (s.appRemove app)) := by
  cases hfind : s.findApp app with
  | none => rw [appRemove_none hfind]; exact ⟨h, id⟩
  | some a =>
    obtain ⟨e1, _, e3, _⟩ := appRemove_maps s app a hfind
    have hsub : ∀ x ∈ (s.appRemove app).apps, x ∈ s.apps := fun x hx => (List.mem_filter.mp (e1 ▸ hx)).1
    exact ⟨lifeInv_of (fun _ hx => appLife_of h (hsub _ hx)) (e3 ▸ PosNodes.map h.posNode (LifeC.addsPos_unres_rmN true a _)),
      fun hp => noPendInv_of (fun _ hx => appNoPend_of hp (hsub _ hx))⟩

/-- timeoutPlaceholderProcessing; `hev`: what it can announce -/
theorem life_nopend_phTimeout (s : Core) (app : String) (ev : Option String) (hw : CoreWF s) (hb : Books s) (h : LifeInv s)
    (hev : ev = none ∨ ev = some "Failing" ∨ ev = some "Resuming") :
    LifeInv (s.phTimeout app ev) ∧ (NoPendInv s → NoPendInv (s.phTimeout app ev)) := by
  cases hfind : s.findApp app with
  | none => rw [phTimeout_none ev hfind]; exact ⟨h, id⟩
  | some a =>
    obtain ⟨ham, hl, _⟩ := findApp_some hfind
    cases hc : ((a.state == "Running" || a.state == "Completing") && !(isZero (some a.allocatedPh))) with
    | true => exact (shape_phTimeout1 s app ev a hw hfind hc).life_flag hw h LifeC.relPh_irrel rfl rfl rfl
    | false =>
      exact (shape_phTimeout2 s app ev a hw hfind hc).life hw h
        (LifeC.phApp2_life a ev hev hl (hb.apps a ham hl) (hw.app ham hl) (appLife_of h ham)) (.of_irrel (unresN_irrel _ a))

/-- timeoutStateTimer -/
theorem life_nopend_stateTimeout (s : Core) (app : String) (hw : CoreWF s) (hb : Books s) (h : LifeInv s) :
    LifeInv (s.stateTimeout app) ∧ (NoPendInv s → NoPendInv (s.stateTimeout app)) := by
  rcases shape_stateTimeout s app hw with e | ⟨a, hfind, hst, ⟨_, sh⟩ | ⟨hz, sh⟩⟩
  · rw [e]; exact ⟨h, id⟩
  · exact sh.life_flag hw h LifeC.relPh_irrel rfl rfl rfl
  · obtain ⟨ham, hl, _⟩ := findApp_some hfind
    obtain ⟨g1, g2⟩ := LifeC.doneApp_life a hl hst hz (hb.apps a ham hl) (hw.app ham hl) (appLife_of h ham)
    exact sh.life hw h ⟨g1, fun _ => g2⟩ .self

/-- moveTerminatedApp for an application that has terminated (inside / at the end of a node removal: `LifeCore` only) -/
theorem lifeCore_leaveApp (c : Core) (app : String) (hw : CoreWF c) (h : LifeCore c)
    (hterm : ∀ a, c.findApp app = some a → terminated a.state = true) : LifeCore (c.leaveApp app) := by
  rcases shape_leaveApp c app hw with ⟨_, e⟩ | ⟨a, hfind, sh⟩
  · rw [e]; exact h
  · obtain ⟨ham, hl, _⟩ := sh.mem
    exact sh.lifeCore hw h (LifeC.appCore_leftApp a hl (hterm a hfind) (appCore_of h ham)) .self

theorem LifeC.leaveApp_all {P : CApp → Prop} (c : Core) (app : String) (hw : CoreWF c) (hleft : ∀ a, P (leftApp a))
    (h : ∀ x ∈ c.apps, P x) : ∀ x ∈ (c.leaveApp app).apps, P x := by
  rcases shape_leaveApp c app hw with ⟨_, e⟩ | ⟨a, _, sh⟩
  · rw [e]; exact h
  · exact sh.all hw (hleft a) h

theorem nopend_leaveApp (c : Core) (app : String) (hw : CoreWF c) (hp : NoPendInv c) : NoPendInv (c.leaveApp app) :=
  noPendInv_of (LifeC.leaveApp_all c app hw LifeC.appNoPend_leftApp (fun _ hx => appNoPend_of hp hx))

/-- the loop of `sweepTerminated`, generalised from `c.apps` to any list `l` for the induction: what `l` announces as
    live and terminated is terminated in the current state, and `l` announces every live terminated application of it -/
theorem LifeC.sweep_fold_life (l : List CApp) : ∀ (c : Core), CoreWF c → Books c → LifeCore c →
    (∀ a ∈ l, (a.live && terminated a.state) = true →
      ∀ b ∈ c.apps, b.live = true → b.id = a.id → terminated b.state = true) →
    (∀ b ∈ c.apps, b.live = true → terminated b.state = true →
      ∃ a ∈ l, (a.live && terminated a.state) = true ∧ a.id = b.id) →
    LifeInv (l.foldl (fun c a => if a.live && terminated a.state then leaveApp c a.id else c) c) := by
  induction l with
  | nil =>
    intro c _ _ h _ h2
    refine ⟨h, ?_⟩
    intro b hb hbl
    cases ht : terminated b.state with
    | false => rfl
    | true =>
      obtain ⟨a, ha, _⟩ := h2 b hb hbl ht
      cases ha
  | cons a t ih =>
    intro c hw hb h h1 h2
    rw [List.foldl_cons]
    by_cases hc : (a.live && terminated a.state) = true
    · rw [if_pos hc]
      obtain ⟨hb1, hw1⟩ := leaveApp_props c a.id hw hb
      have hl1 : LifeCore (c.leaveApp a.id) := lifeCore_leaveApp c a.id hw h (fun a2 hf => by
        obtain ⟨m, l, i⟩ := findApp_some hf
        exact h1 a List.mem_cons_self hc a2 m l i)
      refine ih _ hw1 hb1 hl1 ?_ ?_
      · intro a' ha' hc' b hbm hbl hbid
        exact h1 a' (List.mem_cons_of_mem _ ha') hc' b (leaveApp_live_mem c a.id hw.appIds b hbm hbl).1 hbl hbid
      · intro b hbm hbl ht
        obtain ⟨hbc, hne⟩ := leaveApp_live_mem c a.id hw.appIds b hbm hbl
        obtain ⟨a', ha', hc', hid'⟩ := h2 b hbc hbl ht
        rcases List.mem_cons.mp ha' with rfl | ha't
        · exact absurd hid'.symm hne
        · exact ⟨a', ha't, hc', hid'⟩
    · rw [if_neg hc]
      refine ih c hw hb h ?_ ?_
      · intro a' ha' hc' b hbm hbl hbid
        exact h1 a' (List.mem_cons_of_mem _ ha') hc' b hbm hbl hbid
      · intro b hbm hbl ht
        obtain ⟨a', ha', hc', hid'⟩ := h2 b hbm hbl ht
        rcases List.mem_cons.mp ha' with rfl | ha't
        · exact absurd hc' hc
        · exact ⟨a', ha't, hc', hid'⟩

/-- at the end of a node removal: once the terminated applications have left, the whole invariant holds again -/
theorem life_sweepTerminated (c : Core) (hw : CoreWF c) (hb : Books c) (h : LifeCore c) : LifeInv c.sweepTerminated := by
  refine LifeC.sweep_fold_life c.apps c hw hb h ?_ ?_
  · intro a ha hc b hbm hbl hid
    simp only [Bool.and_eq_true] at hc
    have : b = a := (appIds_atMostOne a.id hw.appIds).eq hbm ha (by simp [hbl, hid]) (by simp [hc.1])
    rw [this]; exact hc.2
  · intro b hbm hbl ht
    exact ⟨b, hbm, by simp [hbl, ht], rfl⟩

theorem nopend_sweepTerminated (c : Core) (hw : CoreWF c) (hb : Books c) (hp : NoPendInv c) :
    NoPendInv c.sweepTerminated :=
  (sweepFold_keeps (I := fun c => CoreWF c ∧ Books c ∧ NoPendInv c) (fun c app h =>
    ⟨(leaveApp_props c app h.1 h.2.1).2, (leaveApp_props c app h.1 h.2.1).1, nopend_leaveApp c app h.1 h.2.2⟩)
    c.apps c ⟨hw, hb, hp⟩).2.2

theorem nopendMid_leaveApp (c : Core) (app : String) (hw : CoreWF c) (hp : NoPendMid c) : NoPendMid (c.leaveApp app) :=
  LifeC.leaveApp_all c app hw
    (fun a => ⟨(LifeC.appNoPend_leftApp a).completingNoPending, fun _ => (LifeC.appNoPend_leftApp a).completedNoAsk⟩) hp

/-- the terminated applications have left (`life_sweepTerminated`), so the clause about asks holds in full again -/
theorem nopend_sweepTerminated_mid (c : Core) (hw : CoreWF c) (hb : Books c) (hL : LifeCore c) (hp : NoPendMid c) :
    NoPendInv c.sweepTerminated :=
  NoPendMid.inv (sweepFold_keeps (I := fun c => CoreWF c ∧ Books c ∧ NoPendMid c) (fun c app h =>
      ⟨(leaveApp_props c app h.1 h.2.1).2, (leaveApp_props c app h.1 h.2.1).1, nopendMid_leaveApp c app h.1 h.2.2⟩)
      c.apps c ⟨hw, hb, hp⟩).2.2 (life_sweepTerminated c hw hb hL).termGone

end Yk
