/-
  Generic deadlock-freedom theorem for the abstract lock machine (YkModel/Lock.lean):
  if every thread only asks for a lock whose rank is strictly above the rank of every lock it holds, then no reachable
  state has a wait-for cycle or a deadlocked set, and the machine is never stuck — for any number of threads and locks,
  read and write modes, writer preference included.
-/
import YkModel.Lock
namespace Yk.Lock

set_option linter.unusedSectionVars false

variable {L : Type} [DecidableEq L]

def Ordered (rank : L → Nat) (ok : List (L × Mode) → L → Mode → Prop) : Prop :=
  ∀ H l m, ok H l m → ∀ p ∈ H, rank p.1 < rank l

def Inv (rank : L → Nat) (s : State L) : Prop :=
  ∀ t l m, s.want t = some (l, m) → ∀ p ∈ s.held t, rank p.1 < rank l

@[simp] theorem upd_same {α : Type} (f : Tid → α) (t : Tid) (v : α) : upd f t v t = v := by simp [upd]

theorem upd_other {α : Type} (f : Tid → α) (t u : Tid) (v : α) (h : u ≠ t) : upd f t v u = f u := by simp [upd, h]

theorem inv_init (rank : L → Nat) : Inv rank (State.init : State L) := by
  intro t l m h
  simp [State.init] at h

theorem inv_step {rank : L → Nat} {ok : List (L × Mode) → L → Mode → Prop} (hord : Ordered rank ok)
    {s s' : State L} (hinv : Inv rank s) (hs : Step ok s s') : Inv rank s' := by
  intro u l' m' hwu p hp
  cases hs with
  | request t l m hw hok =>
    dsimp only at hwu hp
    by_cases hut : u = t
    · subst hut
      simp at hwu
      obtain ⟨rfl, rfl⟩ := hwu
      exact hord _ _ _ hok p hp
    · rw [upd_other _ _ _ _ hut] at hwu
      exact hinv u l' m' hwu p hp
  | grant t l m hw hfree =>
    dsimp only at hwu hp
    by_cases hut : u = t
    · subst hut
      simp at hwu
    · rw [upd_other _ _ _ _ hut] at hwu hp
      exact hinv u l' m' hwu p hp
  | release t l m hw hmem =>
    dsimp only at hwu hp
    by_cases hut : u = t
    · subst hut
      rw [hw] at hwu
      cases hwu
    · rw [upd_other _ _ _ _ hut] at hp
      exact hinv u l' m' hwu p hp

theorem inv_reach {rank : L → Nat} {ok : List (L × Mode) → L → Mode → Prop} (hord : Ordered rank ok)
    {s : State L} (hr : Reach ok s) : Inv rank s := by
  induction hr with
  | init => exact inv_init rank
  | step _ hs ih => exact inv_step hord ih hs

/-! ### the measure `key`: rank of the wanted lock, writers just above readers of the same lock -/

def modeBit : Mode → Nat
  | .R => 0
  | .W => 1

def key (rank : L → Nat) (s : State L) (t : Tid) : Nat :=
  match s.want t with
  | some p => 2 * rank p.1 + modeBit p.2
  | none => 0

theorem blocked_waits {s : State L} {t u : Tid} (h : BlockedBy s t u) : s.want t ≠ none := by
  obtain ⟨l, m, hw, _⟩ := h
  rw [hw]
  simp

theorem key_lt {rank : L → Nat} {s : State L} (hinv : Inv rank s) {t u : Tid}
    (hb : BlockedBy s t u) (hwu : s.want u ≠ none) : key rank s t < key rank s u := by
  obtain ⟨l, m, hwt, hc⟩ := hb
  rcases hc with ⟨m', hmem, _⟩ | ⟨hm, _, hw⟩
  · cases hu : s.want u with
    | none => exact absurd hu hwu
    | some p =>
      obtain ⟨l2, m2⟩ := p
      have hlt : rank l < rank l2 := hinv u l2 m2 hu (l, m') hmem
      simp only [key, hwt, hu]
      cases m <;> cases m2 <;> simp only [modeBit] <;> omega
  · subst hm
    simp only [key, hwt, hw, modeBit]
    omega

theorem chain_head_waits {s : State L} {t u : Tid} (h : Chain s t u) : s.want t ≠ none := by
  cases h with
  | single hb => exact blocked_waits hb
  | cons hb _ => exact blocked_waits hb

theorem chain_key_lt {rank : L → Nat} {s : State L} (hinv : Inv rank s) {t u : Tid}
    (hc : Chain s t u) (hwu : s.want u ≠ none) : key rank s t < key rank s u := by
  induction hc with
  | single hb => exact key_lt hinv hb hwu
  | cons hb hc ih =>
    have h1 := key_lt hinv hb (chain_head_waits hc)
    have h2 := ih hwu
    omega

theorem no_cycle_of_inv {rank : L → Nat} {s : State L} (hinv : Inv rank s) : ¬ Cycle s := by
  rintro ⟨t, hc⟩
  have := chain_key_lt hinv hc (chain_head_waits hc)
  omega

theorem exists_max (f : Tid → Nat) : ∀ S : List Tid, S ≠ [] → ∃ t ∈ S, ∀ u ∈ S, f u ≤ f t := by
  intro S
  induction S with
  | nil => intro h; exact absurd rfl h
  | cons a S ih =>
    intro _
    by_cases hS : S = []
    · subst hS
      exact ⟨a, by simp, by simp⟩
    · obtain ⟨t, ht, hmax⟩ := ih hS
      by_cases hle : f t ≤ f a
      · exact ⟨a, List.mem_cons_self, List.forall_mem_cons.mpr ⟨Nat.le_refl _, fun u hu => Nat.le_trans (hmax u hu) hle⟩⟩
      · exact ⟨t, List.mem_cons_of_mem _ ht, List.forall_mem_cons.mpr ⟨by omega, hmax⟩⟩

theorem no_deadlock_of_inv {rank : L → Nat} {s : State L} (hinv : Inv rank s) : ¬ Deadlocked s := by
  rintro ⟨S, hne, hall⟩
  obtain ⟨t, ht, hmax⟩ := exists_max (key rank s) S hne
  obtain ⟨u, hu, hb⟩ := hall t ht
  obtain ⟨v, _, hbu⟩ := hall u hu
  have h1 := key_lt hinv hb (blocked_waits hbu)
  have h2 := hmax u hu
  omega

/-! ### progress: the machine is never stuck -/

def Support (s : State L) (T : List Tid) : Prop := ∀ t, s.want t ≠ none → t ∈ T

theorem support_reach {ok : List (L × Mode) → L → Mode → Prop} {s : State L} (hr : Reach ok s) :
    ∃ T, Support s T := by
  induction hr with
  | init => exact ⟨[], by intro t h; simp [State.init] at h⟩
  | @step s1 s2 _ hs ih =>
    obtain ⟨T, hT⟩ := ih
    cases hs with
    | request t l m hw hok =>
      refine ⟨t :: T, ?_⟩
      intro u hu
      by_cases hut : u = t
      · subst hut; simp
      · have hu' : s1.want u ≠ none := by simpa [upd, hut] using hu
        exact List.mem_cons_of_mem _ (hT u hu')
    | grant t l m hw hfree =>
      refine ⟨T, ?_⟩
      intro u hu
      by_cases hut : u = t
      · subst hut; simp at hu
      · have hu' : s1.want u ≠ none := by simpa [upd, hut] using hu
        exact hT u hu'
    | release t l m hw hmem =>
      exact ⟨T, fun u hu => hT u hu⟩

theorem progress_of_inv {rank : L → Nat} {s : State L} (hinv : Inv rank s) {T : List Tid} (hT : Support s T)
    (hw : ∃ t, s.want t ≠ none) : ∃ t, Grantable s t ∨ RunningHolder s t := by
  obtain ⟨t0, ht0⟩ := hw
  let W := T.filter (fun t => (s.want t).isSome)
  have hWmem : ∀ t, t ∈ W ↔ s.want t ≠ none := by
    intro t
    simp only [W, List.mem_filter, Option.isSome_iff_ne_none]
    exact ⟨fun h => h.2, fun h => ⟨hT t h, h⟩⟩
  have hWne : W ≠ [] := List.ne_nil_of_mem ((hWmem t0).mpr ht0)
  obtain ⟨t, ht, hmax⟩ := exists_max (key rank s) W hWne
  have htw : s.want t ≠ none := (hWmem t).mp ht
  cases hwt : s.want t with
  | none => exact absurd hwt htw
  | some p =>
    obtain ⟨l, m⟩ := p
    by_cases hg : ∀ u, ¬ Conflicts s t u l m
    · exact ⟨t, Or.inl ⟨l, m, hwt, hg⟩⟩
    · obtain ⟨u, hu⟩ := Classical.not_forall.mp hg
      have hc : Conflicts s t u l m := Classical.not_not.mp hu
      by_cases hwu : s.want u = none
      · -- the obstacle is a running thread: it must hold the lock
        rcases hc with ⟨m', hmem, _⟩ | ⟨_, _, hw'⟩
        · refine ⟨u, Or.inr ⟨hwu, ?_⟩⟩
          intro hnil
          rw [hnil] at hmem
          simp at hmem
        · rw [hwu] at hw'
          cases hw'
      · -- the obstacle waits itself: it would have a larger measure
        have h1 := key_lt hinv (show BlockedBy s t u from ⟨l, m, hwt, hc⟩) hwu
        have h2 := hmax u ((hWmem u).mpr hwu)
        omega

/-- Under a rank discipline every reachable state of the lock machine is free of wait-for cycles and deadlocked sets, and
    the machine can always move on while somebody is waiting. -/
theorem deadlock_free {rank : L → Nat} {ok : List (L × Mode) → L → Mode → Prop} (hord : Ordered rank ok)
    {s : State L} (hr : Reach ok s) :
    ¬ Cycle s ∧ ¬ Deadlocked s ∧ ((∃ t, s.want t ≠ none) → ∃ t, Grantable s t ∨ RunningHolder s t) := by
  have hinv := inv_reach (rank := rank) hord hr
  obtain ⟨T, hT⟩ := support_reach hr
  exact ⟨no_cycle_of_inv hinv, no_deadlock_of_inv hinv, progress_of_inv hinv hT⟩

/-! ### a hazard the discipline rules out is a real deadlock of the machine (non-vacuity of the model) -/

omit [DecidableEq L] in
/-- recursive RLock: a thread that holds a read lock and asks for it again while another thread waits for the write
    lock is deadlocked with that writer -/
theorem recursive_rlock_deadlock (s : State L) (t w : Tid) (l : L) (hne : w ≠ t)
    (hh : (l, Mode.R) ∈ s.held t) (hwt : s.want t = some (l, .R)) (hww : s.want w = some (l, .W)) : Cycle s :=
  ⟨t, Chain.cons ⟨l, .R, hwt, Or.inr ⟨rfl, hne, hww⟩⟩ (Chain.single ⟨l, .W, hww, Or.inl ⟨.R, hh, Or.inl rfl⟩⟩)⟩

end Yk.Lock
