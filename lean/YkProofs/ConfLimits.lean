/-
  C15, user and group limits against the limits of the ancestors (checkLimitResource / checkLimitMaxApplications).
  One development for the generic loop `checkLim` of YkModel/Conf.lean, instantiated for resources and application counts.
-/
import YkProofs.Conf
namespace Yk.Conf
open Yk Yk.Res

/-- what the proofs need to know about a value domain -/
structure DomOK {α : Type} (D : LimDom α) where
  Good : α → Prop
  /-- `T a b`: the handed-down value `a` is at least as tight as `b` -/
  T : α → α → Prop
  /-- `W l x`: the limit value `l` is within the limit value `x` of an ancestor -/
  W : α → α → Prop
  val_good : ∀ l v, D.val l = .ok v → Good v
  T_refl : ∀ a, Good a → T a a
  T_trans : ∀ a b c, T a b → T b c → T a c
  comb_good : ∀ lim ex, Good lim → Good ex → Good (D.comb lim ex)
  comb_T_ex : ∀ lim ex, Good lim → Good ex → D.check ex lim = true → T (D.comb lim ex) ex
  comb_T_lim : ∀ lim ex, Good lim → Good ex → D.check ex lim = true → T (D.comb lim ex) lim
  check_W : ∀ lim ex x, Good lim → Good ex → Good x → D.check ex lim = true → T ex x → W lim x

section generic
variable {α : Type} (D : LimDom α)

/-- the value written for a name -/
def valFor (par : LMap α) (lim : α) (n : String) : α :=
  match par.lookup n with
  | some ex => D.comb lim ex
  | none => lim

/-- the comparison made for a name -/
def Checked (par : LMap α) (lim : α) (n : String) : Prop :=
  match par.lookup n with
  | some ex => D.check ex lim = true
  | none => n ≠ "*" → ∀ ex, par.lookup "*" = some ex → D.check ex lim = true

theorem limNames_cons {g : Bool} {name : String} {t : List String} {lim : α} {par cur cur' : LMap α}
    (h : limNames D g (name :: t) lim par cur = .ok cur') :
    Checked D par lim name ∧ limNames D g t lim par (aset cur name (valFor D par lim name)) = .ok cur' := by
  unfold limNames at h
  unfold Checked valFor
  cases hp : par.lookup name with
  | some ex =>
    simp only [hp, ite_not_err_ok] at h
    exact h
  | none =>
    simp only [hp] at h ⊢
    cases hs : name != "*" with
    | false => exact ⟨fun hne => absurd hs (by simpa using hne), by simpa [hs] using h⟩
    | true =>
      simp only [hs, if_true] at h
      cases hw : par.lookup "*" with
      | none => rw [hw] at h; exact ⟨fun _ ex hex => (nomatch hex), h⟩
      | some ex =>
        simp only [hw, ite_not_err_ok] at h
        exact ⟨fun _ ex' hex' => Option.some.inj hex' ▸ h.1, h.2⟩

theorem limNames_spec (g : Bool) (names : List String) (lim : α) (par : LMap α) : ∀ (cur cur' : LMap α),
    limNames D g names lim par cur = .ok cur' →
    (∀ n ∈ names, Checked D par lim n) ∧
    (∀ n', cur'.lookup n' = if n' ∈ names then some (valFor D par lim n') else cur.lookup n') := by
  induction names with
  | nil =>
    intro cur cur' h
    cases h
    exact ⟨fun n hn => (nomatch hn), fun n' => by simp⟩
  | cons name t ih =>
    intro cur cur' h
    obtain ⟨hc, h⟩ := limNames_cons D h
    obtain ⟨h1, h2⟩ := ih _ cur' h
    refine ⟨List.forall_mem_cons.mpr ⟨hc, h1⟩, fun n' => ?_⟩
    rw [h2 n', lookup_aset]
    by_cases hn : n' = name
    · subst hn; simp
    · simp [hn]

/-- relation between a map before and after the loop over the limit entries (one kind of names) -/
def LookupRel (g : Bool) (ls : List Limit) (par cur cur' : LMap α) : Prop :=
  (∀ n', (∀ l ∈ ls, n' ∉ namesOf g l) → cur'.lookup n' = cur.lookup n') ∧
  (∀ l ∈ ls, ∀ n', n' ∈ namesOf g l → (∀ l2 ∈ ls, n' ∈ namesOf g l2 → l2 = l) →
    ∀ vl, D.val l = .ok vl → cur'.lookup n' = some (valFor D par vl n'))

theorem lookupRel_nil (g : Bool) (par cur : LMap α) : LookupRel D g [] par cur cur :=
  ⟨fun _ _ => rfl, fun l hl => by cases hl⟩

theorem lookupRel_cons (g : Bool) (l : Limit) (t : List Limit) (par cur cur1 cur' : LMap α) (vl : α)
    (hv : D.val l = .ok vl)
    (h1 : ∀ n', cur1.lookup n' = if n' ∈ namesOf g l then some (valFor D par vl n') else cur.lookup n')
    (ht : LookupRel D g t par cur1 cur') : LookupRel D g (l :: t) par cur cur' := by
  refine ⟨?_, ?_⟩
  · intro n' hn
    rw [ht.1 n' (fun l2 hl2 => hn l2 (List.mem_cons_of_mem _ hl2)), h1 n', if_neg (hn l List.mem_cons_self)]
  · intro l0 hl0 n' hn0 huniq v0 hv0
    by_cases hex : ∃ l2, l2 ∈ t ∧ n' ∈ namesOf g l2
    · obtain ⟨l2, hl2, hn2⟩ := hex
      have e := huniq l2 (List.mem_cons_of_mem _ hl2) hn2
      subst e
      exact ht.2 l2 hl2 n' hn2 (fun l3 hl3 hn3 => huniq l3 (List.mem_cons_of_mem _ hl3) hn3) v0 hv0
    · have hnone : ∀ l2 ∈ t, n' ∉ namesOf g l2 := fun l2 hl2 hn2 => hex ⟨l2, hl2, hn2⟩
      have e : l0 = l := by
        cases hl0 with
        | head => rfl
        | tail _ hl0 => exact absurd hn0 (hnone l0 hl0)
      subst e
      rw [hv] at hv0; injection hv0 with hv0; subst hv0
      rw [ht.1 n' hnone, h1 n', if_pos hn0]

theorem limLimits_spec (ls : List Limit) (pu pg : LMap α) : ∀ (cu cg : LMap α) (r : LMap α × LMap α),
    limLimits D ls pu pg cu cg = .ok r →
    (∀ l ∈ ls, ∃ vl, D.val l = .ok vl ∧ (∀ n ∈ namesOf false l, Checked D pu vl n) ∧ (∀ n ∈ namesOf true l, Checked D pg vl n)) ∧
    LookupRel D false ls pu cu r.1 ∧ LookupRel D true ls pg cg r.2 := by
  induction ls with
  | nil =>
    intro cu cg r h
    cases h
    exact ⟨fun l hl => (nomatch hl), lookupRel_nil D false pu cu, lookupRel_nil D true pg cg⟩
  | cons l t ih =>
    intro cu cg r h
    unfold limLimits at h
    simp only [bind_ok] at h
    obtain ⟨vl, hv, cu1, hu, cg1, hg, ht⟩ := h
    obtain ⟨hc, hru, hrg⟩ := ih cu1 cg1 r ht
    obtain ⟨u1, u2⟩ := limNames_spec D false _ vl pu cu cu1 hu
    obtain ⟨g1, g2⟩ := limNames_spec D true _ vl pg cg cg1 hg
    exact ⟨List.forall_mem_cons.mpr ⟨⟨vl, hv, u1, g1⟩, hc⟩, lookupRel_cons D false l t pu cu cu1 r.1 vl hv u2 hru,
      lookupRel_cons D true l t pg cg cg1 r.2 vl hv g2 hrg⟩

variable (ok : DomOK D)

/-- the inherited map of one kind of names, relative to the ancestors it was computed from.  That a key of the map is a
    name some ancestor mentions (`namedAbove`) decides between the "same name" and the "wildcard" case of L3 / L4
    (`limAnc_of_inv`). -/
structure Inv (g : Bool) (m : LMap α) (anc : List QD) : Prop where
  good : ∀ n ex, m.lookup n = some ex → ok.Good ex ∧ namedAbove g anc n = true
  tight : ∀ a ∈ anc, ∀ n, ∀ x ∈ limitsFor g a n, ∀ vx, D.val x = .ok vx → ∃ ex, m.lookup n = some ex ∧ ok.T ex vx

/-- L3 / L4 for one entry and one kind of names -/
def LimAncOK (g : Bool) (e : Entry) : Prop :=
  ∀ l ∈ e.2.d.limits, ∀ vl, D.val l = .ok vl → ∀ n ∈ namesOf g l,
    (∀ a ∈ e.1, ∀ x ∈ limitsFor g a n, ∀ vx, D.val x = .ok vx → ok.W vl vx) ∧
    (n = "*" ∨ namedAbove g e.1 n = true ∨ ∀ a ∈ e.1, ∀ x ∈ limitsFor g a "*", ∀ vx, D.val x = .ok vx → ok.W vl vx)

theorem mem_limitsFor {g : Bool} {d : QD} {n : String} {x : Limit} :
    x ∈ limitsFor g d n ↔ x ∈ d.limits ∧ n ∈ namesOf g x := by
  unfold limitsFor namesOf
  simp [List.mem_filter]

theorem namedAbove_cons (g : Bool) (d : QD) (anc : List QD) (n : String) :
    namedAbove g (d :: anc) n = (!(limitsFor g d n).isEmpty || namedAbove g anc n) := by
  simp [namedAbove]

theorem inv_nil (g : Bool) : Inv D ok g [] [] :=
  ⟨fun n ex h => by simp at h, fun a ha => by cases ha⟩

theorem limAnc_of_inv (g : Bool) (d : QD) (qs : List QC) (anc : List QD) (par : LMap α)
    (hinv : Inv D ok g par anc)
    (hchk : ∀ l ∈ d.limits, ∃ vl, D.val l = .ok vl ∧ ∀ n ∈ namesOf g l, Checked D par vl n) :
    LimAncOK D ok g (anc, .mk d qs) := by
  intro l hl vl hvl n hn
  obtain ⟨vl', hvl', hck⟩ := hchk l hl
  simp only [QC.d] at hl
  rw [hvl] at hvl'; injection hvl' with e; subst e
  have hgl := ok.val_good l vl hvl
  have hcn := hck n hn
  refine ⟨?_, ?_⟩
  · intro a ha x hx vx hvx
    obtain ⟨ex, hex, hT⟩ := hinv.tight a ha n x hx vx hvx
    simp only [Checked, hex] at hcn
    exact ok.check_W vl ex vx hgl (hinv.good n ex hex).1 (ok.val_good x vx hvx) hcn hT
  · by_cases hs : n = "*"
    · exact Or.inl hs
    · by_cases hna : namedAbove g anc n = true
      · exact Or.inr (Or.inl hna)
      · refine Or.inr (Or.inr ?_)
        intro a ha x hx vx hvx
        have hnone : par.lookup n = none := by
          cases hp : par.lookup n with
          | none => rfl
          | some ex => exact absurd (hinv.good n ex hp).2 hna
        obtain ⟨ex, hex, hT⟩ := hinv.tight a ha "*" x hx vx hvx
        simp only [Checked, hnone] at hcn
        exact ok.check_W vl ex vx hgl (hinv.good "*" ex hex).1 (ok.val_good x vx hvx) (hcn hs ex hex) hT

theorem inv_step (g : Bool) (d : QD) (anc : List QD) (par cur' : LMap α)
    (hinv : Inv D ok g par anc) (huniq : UniqueNames g d.limits)
    (hchk : ∀ l ∈ d.limits, ∃ vl, D.val l = .ok vl ∧ ∀ n ∈ namesOf g l, Checked D par vl n)
    (hrel : LookupRel D g d.limits par par cur') : Inv D ok g cur' (d :: anc) := by
  have hlook : ∀ n, (∀ l ∈ d.limits, n ∉ namesOf g l) → cur'.lookup n = par.lookup n := hrel.1
  have hnamed : ∀ l ∈ d.limits, ∀ n ∈ namesOf g l, ∀ vl, D.val l = .ok vl → cur'.lookup n = some (valFor D par vl n) := by
    intro l hl n hn vl hvl
    exact hrel.2 l hl n hn (fun l2 hl2 hn2 => huniq l2 hl2 l hl n hn2 hn) vl hvl
  refine ⟨?_, ?_⟩
  · intro n ex hex
    rw [namedAbove_cons]
    by_cases hnm : ∃ l, l ∈ d.limits ∧ n ∈ namesOf g l
    · obtain ⟨l, hl, hn⟩ := hnm
      obtain ⟨vl, hvl, hck⟩ := hchk l hl
      rw [hnamed l hl n hn vl hvl] at hex
      injection hex with hex
      refine ⟨?_, by simp [List.ne_nil_of_mem (mem_limitsFor.mpr ⟨hl, hn⟩)]⟩
      rw [← hex]
      unfold valFor
      cases hp : par.lookup n with
      | none => exact ok.val_good l vl hvl
      | some e0 => exact ok.comb_good vl e0 (ok.val_good l vl hvl) (hinv.good n e0 hp).1
    · have hno : ∀ l ∈ d.limits, n ∉ namesOf g l := fun l hl hn => hnm ⟨l, hl, hn⟩
      rw [hlook n hno] at hex
      obtain ⟨h1, h2⟩ := hinv.good n ex hex
      exact ⟨h1, by simp [h2]⟩
  · intro a ha n x hx vx hvx
    cases ha with
    | head =>
      obtain ⟨hxl, hxn⟩ := mem_limitsFor.mp hx
      obtain ⟨vl, hvl, hck⟩ := hchk x hxl
      rw [hvx] at hvl; injection hvl with e; subst e
      refine ⟨valFor D par vx n, hnamed x hxl n hxn vx hvx, ?_⟩
      have hcn := hck n hxn
      unfold valFor
      cases hp : par.lookup n with
      | none => exact ok.T_refl vx (ok.val_good x vx hvx)
      | some e0 =>
        simp only [Checked, hp] at hcn
        exact ok.comb_T_lim vx e0 (ok.val_good x vx hvx) (hinv.good n e0 hp).1 hcn
    | tail _ ha =>
      obtain ⟨ex, hex, hT⟩ := hinv.tight a ha n x hx vx hvx
      by_cases hnm : ∃ l, l ∈ d.limits ∧ n ∈ namesOf g l
      · obtain ⟨l, hl, hn⟩ := hnm
        obtain ⟨vl, hvl, hck⟩ := hchk l hl
        refine ⟨valFor D par vl n, hnamed l hl n hn vl hvl, ?_⟩
        have hcn := hck n hn
        simp only [Checked, hex] at hcn
        simp only [valFor, hex]
        exact ok.T_trans _ _ _ (ok.comb_T_ex vl ex (ok.val_good l vl hvl) (hinv.good n ex hex).1 hcn) hT
      · have hno : ∀ l ∈ d.limits, n ∉ namesOf g l := fun l hl hn => hnm ⟨l, hl, hn⟩
        exact ⟨ex, by rw [hlook n hno]; exact hex, hT⟩

mutual
theorem checkLim_spec : ∀ (q : QC) (pu pg : LMap α) (anc : List QD), checkLim D q pu pg = .ok () →
    Inv D ok false pu anc → Inv D ok true pg anc → (∀ e ∈ walk anc q, LocalOK e) →
    ∀ e ∈ walk anc q, LimAncOK D ok false e ∧ LimAncOK D ok true e
  | .mk d qs, pu, pg, anc, h, hu, hg, hloc => by
    unfold checkLim at h
    simp only [bind_ok] at h
    obtain ⟨⟨cu, cg⟩, hl, hch⟩ := h
    obtain ⟨hc, hru, hrg⟩ := limLimits_spec D d.limits pu pg pu pg (cu, cg) hl
    obtain ⟨hself, hloc'⟩ := forall_walk.mp hloc
    have hcu : ∀ l ∈ d.limits, ∃ vl, D.val l = .ok vl ∧ ∀ n ∈ namesOf false l, Checked D pu vl n := by
      intro l hl; obtain ⟨vl, h1, h2, _⟩ := hc l hl; exact ⟨vl, h1, h2⟩
    have hcg : ∀ l ∈ d.limits, ∃ vl, D.val l = .ok vl ∧ ∀ n ∈ namesOf true l, Checked D pg vl n := by
      intro l hl; obtain ⟨vl, h1, _, h3⟩ := hc l hl; exact ⟨vl, h1, h3⟩
    exact forall_walk.mpr ⟨⟨limAnc_of_inv D ok false d qs anc pu hu hcu, limAnc_of_inv D ok true d qs anc pg hg hcg⟩,
      checkLimL_spec qs cu cg (d :: anc) hch (inv_step D ok false d anc pu cu hu hself.uniqU hcu hru)
        (inv_step D ok true d anc pg cg hg hself.uniqG hcg hrg) hloc'⟩
theorem checkLimL_spec : ∀ (qs : List QC) (cu cg : LMap α) (anc : List QD), checkLimL D qs cu cg = .ok () →
    Inv D ok false cu anc → Inv D ok true cg anc → (∀ e ∈ walkL anc qs, LocalOK e) →
    ∀ e ∈ walkL anc qs, LimAncOK D ok false e ∧ LimAncOK D ok true e
  | [], _, _, _, _, _, _, _ => forall_walkL_nil
  | c :: t, cu, cg, anc, h, hu, hg, hloc => by
    unfold checkLimL at h
    simp only [bind_ok] at h
    obtain ⟨_, hc, ht⟩ := h
    obtain ⟨hl1, hl2⟩ := forall_walkL_cons.mp hloc
    exact forall_walkL_cons.mpr ⟨checkLim_spec c cu cg anc hc hu hg hl1, checkLimL_spec t cu cg anc ht hu hg hl2⟩
end

end generic

/-! ### the two instances -/

theorem cwMin_nonNeg (l r : Res) (hl : wf l = true) (hr : wf r = true) (nl : NonNeg l) (nr : NonNeg r) :
    NonNeg ((componentWiseMin (some l) (some r)).getD []) := by
  intro k v h
  have hk := (cwm_get? l r hl hr k).symm.trans h
  cases hlk : l.get? k <;> cases hrk : r.get? k <;> rw [hlk, hrk] at hk <;> cases hk
  · exact nr k _ hrk
  · exact nl k _ hlk
  · have := nl k _ hlk
    have := nr k _ hrk
    omega

def resOK : DomOK resDom where
  Good r := wf r = true ∧ NonNeg r
  T a b := Tighter (some a) (some b)
  W l x := ∀ t lv xv, l.get? t = some lv → x.get? t = some xv → lv ≤ xv
  val_good := by intro l v h; exact ⟨parseConf_wf h, parseConf_nonNeg h⟩
  T_refl := fun a _ => Tighter.refl _
  T_trans := fun _ _ _ h1 h2 => Tighter.trans h1 h2
  comb_good := fun lim ex ⟨wl, nl⟩ ⟨we, ne⟩ =>
    ⟨cwm_wf_orZero (l := some lim) (r := some ex) wl we, cwMin_nonNeg lim ex wl we nl ne⟩
  comb_T_ex := fun lim ex ⟨wl, _⟩ ⟨we, _⟩ _ => (cwm_le (l := some lim) (r := some ex) wl we).2
  comb_T_lim := fun lim ex ⟨wl, _⟩ ⟨we, _⟩ _ => (cwm_le (l := some lim) (r := some ex) wl we).1
  check_W := by
    intro lim ex x _ _ ⟨_, nx⟩ hc hT t lv xv hl hx
    obtain ⟨ev, hev, hle⟩ := hT.get?_le hx
    have := fitInMaxUndef_le (p := some ex) hc hl hev
    have := (nx t xv hx).1
    omega

/-- checkLimitMaxApplications accepts a count below an inherited one: no inherited limit, or a count that is set and not larger -/
theorem appsDom_check {ex lim : Nat} : appsDom.check ex lim = true ↔ ex = 0 ∨ (lim ≠ 0 ∧ lim ≤ ex) := by
  simp only [appsDom, Bool.not_eq_true', Bool.and_eq_false_iff, bne_eq_false_iff_eq, Bool.or_eq_false_iff,
    decide_eq_false_iff_not, beq_eq_false_iff_ne]
  omega

def appsOK : DomOK appsDom where
  Good _ := True
  T a b := b = 0 ∨ (a ≠ 0 ∧ a ≤ b)
  W a b := b = 0 ∨ (a ≠ 0 ∧ a ≤ b)
  val_good := fun _ _ _ => trivial
  T_refl := by intro a _; show a = 0 ∨ (a ≠ 0 ∧ a ≤ a); omega
  T_trans := by intro a b c h1 h2; omega
  comb_good := fun _ _ _ _ => trivial
  comb_T_ex := fun _ _ _ _ hc => appsDom_check.mp hc
  comb_T_lim := by intro lim ex _ _ _; show lim = 0 ∨ (lim ≠ 0 ∧ lim ≤ lim); omega
  check_W := by
    intro lim ex x _ _ _ hc hT
    have := appsDom_check.mp hc
    omega

theorem resW_qty {l x : Limit} (hW : ∀ vl vx, resDom.val l = .ok vl → resDom.val x = .ok vx → resOK.W vl vx)
    {t : String} {lv xv : Int} (hl : qty l.maxRes t = some lv) (hx : qty x.maxRes t = some xv) : lv ≤ xv := by
  unfold qty at hl hx
  split at hl
  · rename_i rl hrl
    split at hx
    · rename_i rx hrx; exact hW rl rx hrl hrx t lv xv hl hx
    · cases hx
  · cases hl

/-- L3 / L4 of an entry, for a reading `R` on limit entries of the relation `ok.W` on their values -/
theorem limAnc_reading {α : Type} {D : LimDom α} {ok : DomOK D} {R : Limit → Limit → Prop}
    (hR : ∀ l x, (∀ vl vx, D.val l = .ok vl → D.val x = .ok vx → ok.W vl vx) → R l x)
    {g : Bool} {e : Entry} (h : LimAncOK D ok g e) : ∀ l ∈ e.2.d.limits, ∀ n ∈ namesOf g l,
      (∀ a ∈ e.1, ∀ x ∈ limitsFor g a n, R l x) ∧
      (n ≠ "*" → namedAbove g e.1 n = false → ∀ a ∈ e.1, ∀ x ∈ limitsFor g a "*", R l x) := by
  intro l hl n hn
  refine ⟨fun a ha x hx => hR l x fun vl vx hvl hvx => (h l hl vl hvl n hn).1 a ha x hx vx hvx, ?_⟩
  intro hs hna a ha x hx
  refine hR l x fun vl vx hvl hvx => ?_
  rcases (h l hl vl hvl n hn).2 with h3 | h3 | h3
  · exact absurd h3 hs
  · rw [hna] at h3; cases h3
  · exact h3 a ha x hx vx hvx

/-- from the propositional form of L3 / L4 to the executable clause, for a comparison `within` that `ok.W` implies -/
theorem okLimitAncestors_of {α : Type} {D : LimDom α} {ok : DomOK D} {within : Limit → Limit → Bool}
    (hw : ∀ l x, (∀ vl vx, D.val l = .ok vl → D.val x = .ok vx → ok.W vl vx) → within l x = true)
    (g : Bool) (e : Entry) (h : LimAncOK D ok g e) : okLimitAncestors within g e = true := by
  unfold okLimitAncestors
  simp only [List.all_eq_true, Bool.and_eq_true, Bool.or_eq_true, beq_iff_eq]
  intro l hl n hn
  obtain ⟨h1, h2⟩ := limAnc_reading hw h l hl n hn
  refine ⟨h1, ?_⟩
  by_cases hs : n = "*"
  · exact .inl (.inl hs)
  by_cases hna : namedAbove g e.1 n = true
  · exact .inl (.inr hna)
  exact .inr (h2 hs (by simpa using hna))

theorem okLimitAncestors_res : ∀ (g : Bool) (e : Entry), LimAncOK resDom resOK g e → okLimitAncestors resWithin g e = true := by
  refine okLimitAncestors_of fun l x hW => ?_
  unfold resWithin
  simp only [List.all_eq_true]
  intro t _
  cases hl : qty l.maxRes t with
  | none => rfl
  | some lv =>
    cases hx : qty x.maxRes t with
    | none => rfl
    | some xv => exact decide_eq_true (resW_qty hW hl hx)

theorem okLimitAncestors_apps : ∀ (g : Bool) (e : Entry), LimAncOK appsDom appsOK g e → okLimitAncestors appsWithin g e = true := by
  refine okLimitAncestors_of fun l x hW => ?_
  have : x.maxApps = 0 ∨ (l.maxApps ≠ 0 ∧ l.maxApps ≤ x.maxApps) := hW l.maxApps x.maxApps rfl rfl
  unfold appsWithin
  simpa using this

end Yk.Conf
