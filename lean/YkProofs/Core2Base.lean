/-
  Foundations for the proofs about the second part of the stepped Core model (YkModel/CoreOps2.lean): sums over
  rewritten item lists, `CoreWF` object by object (`AppWF`, `QWF`, `NWF`), what a queue function does to the totals of
  one queue as a relation closed under composition (`QMove`: a composite queue function has one `_move` lemma), the two
  halves of a release on a queue of the chain (`decQ`: the allocation leaves; `qLeaveIf a'`: the application leaves if
  the release terminated it), and the
  frames `irrel_props` (only fields change that neither `Books` nor `CoreWF` reads) and `props_of_live` (the application
  list changes in members that are not live).  The frames for a step that changes an application and its queue chain
  are in YkProofs/Core2Shape.lean.
  Every release queue function of the model is `qLeaveIf a' ∘ decQ …` by `rfl`: `relQT`, `swapQ` (`swapQ_eq`, Core2Swap.lean), `relAllQ`
  with `qDecPend` in between (`relAllQ1`, Core2App.lean); `nodeRmQ` is `decQ` alone.  No equation says so but `swapQ_eq`: the proofs
  give `Shape.books_release` the two halves (`g := decQ …`, `lv := qLeaveIf _`) and the unifier sees through the model's
  definition, so a queue function that is to go this way has to be written as these two `if`s one after the other.
-/
import YkModel.CoreOps2
import YkProofs.Core
namespace Yk
open Res Core

theorem updItem_eq (key : String) (g : CItem → CItem) (l : List CItem) :
    updItem key g l = l.map (fun x => if (x.key == key) = true then g x else x) := rfl

theorem itemSum_map_irrel (l : List CItem) (g : CItem → CItem) (c : CItem → Bool) (k : String)
    (h : ∀ x ∈ l, c (g x) = c x ∧ (g x).res = x.res) : itemSum (l.map g) c k = itemSum l c k := by
  unfold itemSum
  rw [sumIf_map]
  apply sumIf_congr
  intro x hx
  obtain ⟨h1, h2⟩ := h x hx
  rw [h1, h2]

theorem itemSum_updItem_irrel (l : List CItem) (key : String) (g : CItem → CItem) (c : CItem → Bool) (k : String)
    (h : ∀ x ∈ l, c (g x) = c x ∧ (g x).res = x.res) : itemSum (updItem key g l) c k = itemSum l c k := by
  rw [updItem_eq]
  apply itemSum_map_irrel
  intro x hx
  by_cases hk : (x.key == key) = true
  · rw [if_pos hk]; exact h x hx
  · rw [if_neg hk]; exact ⟨rfl, rfl⟩

theorem updItem_none (l : List CItem) (key : String) (g : CItem → CItem) (h : ∀ x ∈ l, x.key ≠ key) : updItem key g l = l := by
  rw [updItem_eq]
  exact map_upd_none l (fun x => x.key == key) g (fun x hx => by simpa using h x hx)

theorem itemSum_filter_irrel (l : List CItem) (d c : CItem → Bool) (k : String)
    (h : ∀ x ∈ l, d x = false → c x = false) : itemSum (l.filter d) c k = itemSum l c k :=
  sumIf_filter_irrel l d c _ h

theorem updItem_key (key : String) (g : CItem → CItem) (hg : ∀ x, (g x).key = x.key) (x : CItem) :
    (if (x.key == key) = true then g x else x).key = x.key := by
  split
  · exact hg x
  · rfl

theorem pairwise_updItem (l : List CItem) (key : String) (g : CItem → CItem) (hg : ∀ x, (g x).key = x.key)
    (h : l.Pairwise (fun i j => i.key ≠ j.key)) : (updItem key g l).Pairwise (fun i j => i.key ≠ j.key) := by
  rw [updItem_eq, List.pairwise_map]
  refine List.Pairwise.imp ?_ h
  intro u v huv
  rw [updItem_key key g hg, updItem_key key g hg]; exact huv

theorem mem_updItem {l : List CItem} {key : String} {g : CItem → CItem} {y : CItem} (hy : y ∈ updItem key g l) :
    ∃ x ∈ l, (x.key = key ∧ y = g x) ∨ (x.key ≠ key ∧ y = x) := by
  rw [updItem_eq] at hy
  obtain ⟨x, hx, rfl⟩ := List.mem_map.mp hy
  refine ⟨x, hx, ?_⟩
  by_cases hk : (x.key == key) = true
  · rw [if_pos hk]; exact Or.inl ⟨by simpa using hk, rfl⟩
  · rw [if_neg hk]; exact Or.inr ⟨by simpa using hk, rfl⟩

theorem mem_updItem_of_ne {l : List CItem} {key : String} {g : CItem → CItem} {x : CItem} (hx : x ∈ l) (hk : x.key ≠ key) :
    x ∈ updItem key g l := by
  rw [updItem_eq]
  refine List.mem_map.mpr ⟨x, hx, ?_⟩
  have : ¬ (x.key == key) = true := by simpa using hk
  rw [if_neg this]

theorem mem_updItem_of_eq {l : List CItem} {key : String} {g : CItem → CItem} {x : CItem} (hx : x ∈ l) (hk : x.key = key) :
    g x ∈ updItem key g l := by
  rw [updItem_eq]
  refine List.mem_map.mpr ⟨x, hx, ?_⟩
  have : (x.key == key) = true := by simpa using hk
  rw [if_pos this]

theorem itemKeys_eq {l : List CItem} (hk : l.Pairwise (fun i j => i.key ≠ j.key)) {x y : CItem}
    (hx : x ∈ l) (hy : y ∈ l) (h : x.key = y.key) : x = y :=
  (itemKeys_atMostOne hk y.key).eq hx hy (by simp [h]) (by simp)

/-! ### `CoreWF`, object by object -/

structure AppWF (a : CApp) : Prop where
  itemKeys : a.items.Pairwise (fun i j => i.key ≠ j.key)
  appRes : wf a.pending = true ∧ wf a.allocated = true ∧ wf a.allocatedPh = true
  itemRes : ∀ i ∈ a.items, wf i.res = true ∧ NonNeg i.res
  boundAllocated : ∀ i ∈ a.items, i.bound = true → i.allocated = true

structure QWF (q : CQueue) : Prop where
  allocated : wf q.allocated = true
  pending : wf q.pending = true
  inR : allInR q.pending

structure NWF (n : CNode) : Prop where
  allocKeys : n.allocs.Pairwise (fun x y => x.key ≠ y.key)
  nodeRes : wf n.total = true ∧ wf n.occupied = true ∧ wf n.allocated = true ∧ wf n.available = true
  allocRes : ∀ x ∈ n.allocs, wf x.res = true

theorem CoreWF.app {s : Core} (hw : CoreWF s) {a : CApp} (ha : a ∈ s.apps) (hl : a.live = true) : AppWF a :=
  ⟨hw.itemKeys a ha hl, hw.appRes a ha hl, hw.itemRes a ha hl, hw.boundAllocated a ha hl⟩

theorem CoreWF.queue {s : Core} (hw : CoreWF s) {q : CQueue} (hq : q ∈ s.queues) : QWF q :=
  let ⟨h1, h2, h3⟩ := hw.queueRes q hq; ⟨h1, h2, h3⟩

theorem CoreWF.node {s : Core} (hw : CoreWF s) {n : CNode} (hn : n ∈ s.nodes) : NWF n :=
  ⟨hw.allocKeys n hn, hw.nodeRes n hn, hw.allocRes n hn⟩

theorem CoreWF.of_parts {s : Core}
    (h1 : s.apps.Pairwise (fun a b => a.live = true → b.live = true → a.id ≠ b.id))
    (h2 : s.nodes.Pairwise (fun a b => a.id ≠ b.id))
    (h3 : ∀ a ∈ s.apps, a.live = true → AppWF a) (h4 : ∀ q ∈ s.queues, QWF q) (h5 : ∀ n ∈ s.nodes, NWF n) : CoreWF s :=
  ⟨h1, h2, fun a ha hl => (h3 a ha hl).itemKeys, fun n hn => (h5 n hn).allocKeys, fun a ha hl => (h3 a ha hl).appRes,
   fun a ha hl => (h3 a ha hl).itemRes, fun a ha hl => (h3 a ha hl).boundAllocated,
   fun q hq => ⟨(h4 q hq).allocated, (h4 q hq).pending, (h4 q hq).inR⟩, fun n hn => (h5 n hn).nodeRes, fun n hn => (h5 n hn).allocRes⟩

theorem findNode_of_mem {s : Core} (hw : CoreWF s) {n : CNode} (hn : n ∈ s.nodes) : s.findNode n.id = some n := by
  unfold findNode
  cases hf : s.nodes.find? (·.id == n.id) with
  | none =>
    have := List.find?_eq_none.mp hf n hn
    simp at this
  | some m =>
    have hm : m ∈ s.nodes := List.mem_of_find?_eq_some hf
    have hid : m.id = n.id := by simpa using List.find?_some hf
    rw [nodeIds_eq hw hn hm hid]

theorem CoreWF.of_lists {s t : Core} (ha : t.apps = s.apps) (hq : t.queues = s.queues) (hn : t.nodes = s.nodes)
    (h : CoreWF s) : CoreWF t :=
  CoreWF.of_parts (by rw [ha]; exact h.appIds) (by rw [hn]; exact h.nodeIds)
    (by rw [ha]; exact fun a ha hl => h.app ha hl) (by rw [hq]; exact fun q hq => h.queue hq) (by rw [hn]; exact fun n hn => h.node hn)



theorem wf_setRootMax (s : Core) (t : Res) (hw : CoreWF s) : CoreWF (setRootMax s t) := by
  refine CoreWF.of_parts hw.appIds hw.nodeIds (fun _ ha hl => hw.app ha hl) ?_ (fun _ hn => hw.node hn)
  intro q' hq'
  obtain ⟨q, hq, rfl⟩ := List.mem_map.mp hq'
  have := hw.queue hq
  split
  · exact ⟨this.allocated, this.pending, this.inR⟩
  · exact this

theorem const_id {id : String} {a' : CApp} (h : a'.id = id) :
    ∀ x : CApp, (x.live && x.id == id) = true → ((fun _ => a') x).id = x.id := by
  intro x hx
  simp only [Bool.and_eq_true, beq_iff_eq] at hx
  rw [hx.2]; exact h

theorem nwf_addAlloc (x : CNodeAlloc) (n : CNode) (hn : NWF n) (hr : wf x.res = true) (hnew : ∀ y ∈ n.allocs, y.key ≠ x.key) :
    NWF (addAllocNode x n) := by
  obtain ⟨ht, ho, hma, hv⟩ := hn.nodeRes
  refine ⟨pairwise_snoc CNodeAlloc.key _ _ hn.allocKeys hnew, ⟨ht, ho, addX_wf _ _ hma, prune_wf _ (subX_wf _ _ hv)⟩, ?_⟩
  intro y hy
  rcases List.mem_append.mp hy with h | h
  · exact hn.allocRes y h
  · rw [List.mem_singleton.mp h]; exact hr

theorem wf_updNs (nodes : List CNode) (id : String) (fn : CNode → CNode)
    (hu : nodes.Pairwise (fun a b => a.id ≠ b.id)) (hW : ∀ n ∈ nodes, NWF n)
    (hid : ∀ n, (fn n).id = n.id) (h : ∀ n ∈ nodes, n.id = id → NWF (fn n)) :
    (updNs nodes id fn).Pairwise (fun a b => a.id ≠ b.id) ∧ (∀ n ∈ updNs nodes id fn, NWF n) := by
  constructor
  · unfold updNs
    rw [List.pairwise_map]
    refine List.Pairwise.imp ?_ hu
    intro x y hxy
    have hids : ∀ z : CNode, (if (z.id == id) = true then fn z else z).id = z.id := by
      intro z; split
      · exact hid z
      · rfl
    rw [hids x, hids y]; exact hxy
  · intro n' hn'
    obtain ⟨n, hn, rfl⟩ := List.mem_map.mp hn'
    by_cases hd : (n.id == id) = true
    · rw [if_pos hd]; exact h n hn (by simpa using hd)
    · rw [if_neg hd]; exact hW n hn

/-! ### the queue primitives, pointwise -/

theorem set_allInR (r : Res) (k : String) (v : Int) (hr : allInR r) (hv : inR v) : allInR (Res.set r k v) := by
  induction r with
  | nil => intro p hp; simp only [Res.set, List.mem_singleton] at hp; rw [hp]; exact hv
  | cons q t ih =>
    obtain ⟨a, b⟩ := q
    unfold Res.set
    split
    · intro p hp
      rcases List.mem_cons.mp hp with h | h
      · rw [h]; exact hv
      · exact hr p (List.mem_cons_of_mem _ h)
    · intro p hp
      rcases List.mem_cons.mp hp with h | h
      · rw [h]; exact hr (a, b) List.mem_cons_self
      · exact ih (fun q hq => hr q (List.mem_cons_of_mem _ hq)) p h

theorem prune_allInR (r : Res) (hr : allInR r) : allInR (prune r) :=
  fun p hp => hr p (List.mem_filter.mp hp).1

theorem decPendingRes_allInR (pending delta : Res) (hr : allInR pending) : allInR (decPendingRes pending delta) := by
  have key : ∀ (d : Res) (acc : Res × List String), allInR acc.1 →
      allInR ((d.foldl (fun (acc : Res × List String) p =>
        let v := goSubVal (acc.1.getD p.1) p.2
        if v < 0 then (acc.1.set p.1 0, acc.2 ++ [p.1]) else (acc.1.set p.1 v, acc.2)) acc).1) := by
    intro d
    induction d with
    | nil => intro acc h; simpa using h
    | cons p t ih =>
      intro acc h
      rw [List.foldl_cons]
      apply ih
      dsimp only
      split
      · exact set_allInR _ _ _ h (by unfold inR minI maxI; omega)
      · exact set_allInR _ _ _ h (goSubVal_inR _ _)
  unfold decPendingRes subEliminateNegative subNonNegative orZero
  simp only [Option.getD_some]
  split
  · exact prune_allInR _ (key delta (pending, []) hr)
  · exact key delta (pending, []) hr

theorem qDecPend_wf (r : Res) (q : CQueue) (hq : QWF q) : QWF (qDecPend r q) :=
  ⟨hq.allocated, decPendingRes_wf _ _ hq.pending, decPendingRes_allInR _ _ hq.inR⟩

theorem qDecAlloc_wf (r : Res) (q : CQueue) (hq : QWF q) : QWF (qDecAlloc r q) :=
  ⟨prune_wf _ (subX_wf _ _ hq.allocated), hq.pending, hq.inR⟩

theorem qDecPreempting_wf (r : Res) (q : CQueue) (hq : QWF q) : QWF (qDecPreempting r q) :=
  ⟨hq.allocated, hq.pending, hq.inR⟩

theorem qLeave_wf (a' : CApp) (q : CQueue) (hq : QWF q) : QWF (qLeave a' q) :=
  ⟨prune_wf _ (subX_wf _ _ (subX_wf _ _ hq.allocated)), decPendingRes_wf _ _ hq.pending, decPendingRes_allInR _ _ hq.inR⟩

theorem sgtz_false_of_nonNeg {r : Res} (h : NonNeg r) (hz : strictlyGreaterThanZero (some r) = false) (k : String) :
    r.getD k = 0 := by
  rw [getD_eq_get?]
  cases hg : get? r k with
  | none => simp
  | some v =>
    have hm := mem_of_get? hg
    have h0 := h (k, v) hm
    unfold strictlyGreaterThanZero at hz
    simp only at hz
    have hneg : r.any (fun p => decide (p.2 < 0)) = false := by
      rw [List.any_eq_false]; intro p hp; have := h p hp; simp; omega
    rw [hneg] at hz
    simp only [Bool.false_eq_true, if_false] at hz
    have := (List.any_eq_false.mp hz) (k, v) hm
    simp only [decide_eq_true_eq] at this h0
    simp only [Option.getD_some]; omega

/-! ### what a queue function does to one queue: `QMove`, closed under composition -/

structure QMove (q q' : CQueue) (X P : String → Int) : Prop where
  path : q'.path = q.path
  wf : QWF q'
  allocated : ∀ k, q'.allocated.getD k = q.allocated.getD k - X k
  pending : ∀ k, q'.pending.getD k = q.pending.getD k - P k

namespace QMove
variable {q q' q'' : CQueue} {X P X' P' : String → Int}

theorem refl (hq : QWF q) : QMove q q (fun _ => 0) (fun _ => 0) :=
  ⟨rfl, hq, fun _ => (Int.sub_zero _).symm, fun _ => (Int.sub_zero _).symm⟩

theorem trans (h1 : QMove q q' X P) (h2 : QMove q' q'' X' P') : QMove q q'' (fun k => X k + X' k) (fun k => P k + P' k) :=
  ⟨h2.path.trans h1.path, h2.wf, fun k => by rw [h2.allocated, h1.allocated]; omega, fun k => by rw [h2.pending, h1.pending]; omega⟩

theorem congr (h : QMove q q' X P) (hX : ∀ k, X k = X' k) (hP : ∀ k, P k = P' k) : QMove q q' X' P' :=
  ⟨h.path, h.wf, fun k => by rw [h.allocated, hX], fun k => by rw [h.pending, hP]⟩

theorem decAlloc (hq : QWF q) {r : Res} (hr : Res.wf r = true) : QMove q (qDecAlloc r q) (fun k => r.getD k) (fun _ => 0) :=
  ⟨rfl, qDecAlloc_wf r q hq, prune_subX_getD _ _ hq.allocated hr, fun _ => (Int.sub_zero _).symm⟩

/-- `h`: `decPendingRes` clamps at zero; it is the exact difference only when `r` is counted in the pending total -/
theorem decPend (hq : QWF q) {r : Res} (hr : Res.wf r = true) (h : ∀ k, 0 ≤ r.getD k ∧ r.getD k ≤ q.pending.getD k) :
    QMove q (qDecPend r q) (fun _ => 0) (fun k => r.getD k) :=
  ⟨rfl, qDecPend_wf r q hq, fun _ => (Int.sub_zero _).symm, decPendingRes_getD _ _ hq.pending hr hq.inR h⟩

/-- `hsat`: the increased pending total still holds int64 values -/
theorem incPend (hq : QWF q) {r : Res} (hr : Res.wf r = true) (hsat : allInR (addX q.pending r)) :
    QMove q (qIncPend r q) (fun _ => 0) (fun k => - r.getD k) :=
  ⟨rfl, ⟨hq.allocated, addX_wf _ _ hq.pending, hsat⟩, fun _ => (Int.sub_zero _).symm,
    fun k => (addX_getD _ _ hr k).trans (by omega)⟩

theorem decPreempting (hq : QWF q) (r : Res) : QMove q (qDecPreempting r q) (fun _ => 0) (fun _ => 0) :=
  ⟨rfl, qDecPreempting_wf r q hq, fun _ => (Int.sub_zero _).symm, fun _ => (Int.sub_zero _).symm⟩

theorem leave (hq : QWF q) {a' : CApp} (hr : Res.wf a'.pending = true ∧ Res.wf a'.allocated = true ∧ Res.wf a'.allocatedPh = true)
    (h : ∀ k, 0 ≤ a'.pending.getD k ∧ a'.pending.getD k ≤ q.pending.getD k) :
    QMove q (qLeave a' q) (fun k => a'.allocated.getD k + a'.allocatedPh.getD k) (fun k => a'.pending.getD k) :=
  ⟨rfl, qLeave_wf a' q hq, fun k => by
      show (prune (subX (subX q.allocated a'.allocated) a'.allocatedPh)).getD k = _
      rw [prune_getD _ (subX_wf _ _ (subX_wf _ _ hq.allocated)), subX_getD _ _ hr.2.2, subX_getD _ _ hr.2.1]
      omega,
    decPendingRes_getD _ _ hq.pending hr.1 hq.inR h⟩

theorem of_totals (h : QMove q q' X P) (hp : q''.path = q'.path) (ha : q''.allocated = q'.allocated)
    (hd : q''.pending = q'.pending) : QMove q q'' X P :=
  ⟨hp.trans h.path, ⟨by rw [ha]; exact h.wf.allocated, by rw [hd]; exact h.wf.pending, by rw [hd]; exact h.wf.inR⟩,
    by rw [ha]; exact h.allocated, by rw [hd]; exact h.pending⟩

end QMove

/-- the first half of a release on a queue of the chain: `q1`, `q2` of the model's `relQT`, `swapQ`, `relAllQ`, and all of
    `nodeRmQ` (each by `rfl`, with the tests of the model for `b1`, `b2`) -/
def decQ (b1 : Bool) (total : Res) (b2 : Bool) (pre : Res) (q : CQueue) : CQueue :=
  let q1 := if b1 then qDecAlloc total q else q
  if b2 then qDecPreempting pre q1 else q1

theorem decQ_path_reserved (b1 : Bool) (total : Res) (b2 : Bool) (pre : Res) (q : CQueue) :
    (decQ b1 total b2 pre q).path = q.path ∧ (decQ b1 total b2 pre q).reserved = q.reserved := by
  cases b1 <;> cases b2 <;> exact ⟨rfl, rfl⟩

/-- `total` is what the queue loses, also when the implementation skips a total that is not strictly positive
    (`b1 = strictlyGreaterThanZero total`: `sgtz_false_of_nonNeg`) -/
theorem decQ_move (b1 : Bool) (total : Res) (b2 : Bool) (pre : Res) {q : CQueue} (hq : QWF q) (ht : wf total = true)
    (h0 : b1 = false → ∀ k, total.getD k = 0) : QMove q (decQ b1 total b2 pre q) (fun k => total.getD k) (fun _ => 0) := by
  have h1 : QMove q (if b1 = true then qDecAlloc total q else q) (fun k => total.getD k) (fun _ => 0) := by
    cases b1
    · exact (QMove.refl hq).congr (fun k => (h0 rfl k).symm) (fun _ => rfl)
    · exact .decAlloc hq ht
  cases b2
  · exact h1
  · exact (h1.trans (.decPreempting h1.wf pre)).congr (fun _ => Int.add_zero _) (fun _ => Int.add_zero _)

theorem decQ_wf (b1 : Bool) (total : Res) (b2 : Bool) (pre : Res) (q : CQueue) (hq : QWF q) : QWF (decQ b1 total b2 pre q) := by
  cases b1 <;> cases b2
  · exact hq
  · exact qDecPreempting_wf _ _ hq
  · exact qDecAlloc_wf _ _ hq
  · exact qDecPreempting_wf _ _ (qDecAlloc_wf _ _ hq)

/-- the second half: Queue.RemoveApplication when the application `a'` has left the partition -/
def qLeaveIf (a' : CApp) (q : CQueue) : CQueue := if a'.live then q else qLeave a' q

theorem qLeaveIf_path_reserved (a' : CApp) (q : CQueue) :
    (qLeaveIf a' q).path = q.path ∧ (qLeaveIf a' q).reserved = q.reserved := by
  unfold qLeaveIf; split <;> exact ⟨rfl, rfl⟩

theorem qLeaveIf_move (a' : CApp) {q : CQueue} (hq : QWF q)
    (hr : wf a'.pending = true ∧ wf a'.allocated = true ∧ wf a'.allocatedPh = true)
    (hle : ∀ k, 0 ≤ a'.pending.getD k ∧ a'.pending.getD k ≤ q.pending.getD k) :
    QMove q (qLeaveIf a' q) (fun k => if a'.live = true then 0 else a'.allocated.getD k + a'.allocatedPh.getD k)
      (fun k => if a'.live = true then 0 else a'.pending.getD k) := by
  unfold qLeaveIf
  split
  · exact .refl hq
  · exact .leave hq hr hle

theorem qLeaveIf_wf (a' : CApp) (q : CQueue) (hq : QWF q) : QWF (qLeaveIf a' q) := by
  unfold qLeaveIf
  split
  · exact hq
  · exact qLeave_wf _ _ hq

theorem itemSum_nonneg (l : List CItem) (c : CItem → Bool) (hnn : ∀ i ∈ l, NonNeg i.res) (k : String) :
    0 ≤ itemSum l c k :=
  sumIf_nonneg _ _ _ (fun j hj _ => nonNeg_getD (hnn j hj) k)

theorem qIncPend_pending (r : Res) (q : CQueue) (hr : wf r = true) (k : String) :
    (qIncPend r q).pending.getD k = q.pending.getD k + r.getD k := addX_getD _ _ hr k

/-! ### strictly greater than zero / has a negative value, pointwise -/

theorem nonNeg_of_sgtz {r : Res} (hz : strictlyGreaterThanZero (some r) = true) : NonNeg r := by
  unfold strictlyGreaterThanZero at hz
  simp only at hz
  split at hz
  · cases hz
  · rename_i hneg
    intro p hp
    have hneg' : ∀ (x : String) (y : Int), (x, y) ∈ r → 0 ≤ y := by simpa using hneg
    exact hneg' p.1 p.2 hp

theorem getD_nonneg_of_sgtz {r : Res} (hz : strictlyGreaterThanZero (some r) = true) (k : String) : 0 ≤ r.getD k :=
  nonNeg_getD (nonNeg_of_sgtz hz) k

theorem hasNeg_false_getD {r : Res} (h : hasNegativeValue (some r) = false) (k : String) : 0 ≤ r.getD k := by
  unfold hasNegativeValue at h
  simp only at h
  rw [getD_eq_get?]
  cases hg : get? r k with
  | none => simp
  | some v =>
    have hm := mem_of_get? hg
    have := (List.any_eq_false.mp h) (k, v) hm
    simp only [decide_eq_true_eq] at this
    simp only [Option.getD_some]; omega

theorem nonNeg_of_getD {r : Res} (hw : wf r = true) (h : ∀ k, 0 ≤ r.getD k) : NonNeg r := by
  intro p hp
  have := h p.1
  rwa [getD_of_mem hw hp] at this

/-! ### `setState` only touches state, log and timer -/

@[simp] theorem setState_items (a : CApp) (st : String) : (setState a st).items = a.items := by unfold setState; split <;> rfl
@[simp] theorem setState_pending (a : CApp) (st : String) : (setState a st).pending = a.pending := by unfold setState; split <;> rfl
@[simp] theorem setState_allocated (a : CApp) (st : String) : (setState a st).allocated = a.allocated := by unfold setState; split <;> rfl
@[simp] theorem setState_allocatedPh (a : CApp) (st : String) : (setState a st).allocatedPh = a.allocatedPh := by unfold setState; split <;> rfl
@[simp] theorem setState_queue (a : CApp) (st : String) : (setState a st).queue = a.queue := by unfold setState; split <;> rfl
@[simp] theorem setState_id (a : CApp) (st : String) : (setState a st).id = a.id := by unfold setState; split <;> rfl
@[simp] theorem setState_live (a : CApp) (st : String) : (setState a st).live = a.live := by unfold setState; split <;> rfl
theorem setState_state (a : CApp) (st : String) : (setState a st).state = st := by
  unfold setState
  split
  · rename_i h; exact (beq_iff_eq.mp h).symm
  · rfl
@[simp] theorem setState_reservations (a : CApp) (st : String) : (setState a st).reservations = a.reservations := by unfold setState; split <;> rfl

theorem AppBooks.congr {a b : CApp} (hi : b.items = a.items) (h1 : b.allocated = a.allocated) (h2 : b.allocatedPh = a.allocatedPh)
    (h3 : b.pending = a.pending) (h : AppBooks a) : AppBooks b :=
  ⟨by rw [hi, h1]; exact h.allocated, by rw [hi, h2]; exact h.allocatedPh, by rw [hi, h3]; exact h.pending⟩

theorem AppWF.congr {a b : CApp} (hi : b.items = a.items) (h1 : b.allocated = a.allocated) (h2 : b.allocatedPh = a.allocatedPh)
    (h3 : b.pending = a.pending) (h : AppWF a) : AppWF b :=
  ⟨by rw [hi]; exact h.itemKeys, by rw [h1, h2, h3]; exact h.appRes, by rw [hi]; exact h.itemRes, by rw [hi]; exact h.boundAllocated⟩

/-- `b` is a variable here: stated about a record of the model such as `{ replApp p r a with live := true }` (node
    removal), the unifier would compare the (large) unfolded records field by field -/
theorem AppBooks.setLive {b : CApp} (h : AppBooks b) (l : Bool) : AppBooks { b with live := l } :=
  ⟨h.allocated, h.allocatedPh, h.pending⟩

theorem AppWF.setLive {b : CApp} (h : AppWF b) (l : Bool) : AppWF { b with live := l } :=
  ⟨h.itemKeys, h.appRes, h.itemRes, h.boundAllocated⟩

/-! ### changes the books do not read (flags, reservations, lists of names) -/

def ItemIrrel (g : CItem → CItem) : Prop :=
  ∀ x, (g x).key = x.key ∧ (g x).res = x.res ∧ (g x).ph = x.ph ∧ (g x).allocated = x.allocated ∧ (g x).bound = x.bound ∧
    (g x).inReq = x.inReq

theorem itemSum_irrel (l : List CItem) (g : CItem → CItem) (hg : ItemIrrel g) (k : String) :
    itemSum (l.map g) (fun i => i.bound && !i.ph) k = itemSum l (fun i => i.bound && !i.ph) k ∧
    itemSum (l.map g) (fun i => i.bound && i.ph) k = itemSum l (fun i => i.bound && i.ph) k ∧
    itemSum (l.map g) (fun i => i.inReq && !i.allocated) k = itemSum l (fun i => i.inReq && !i.allocated) k := by
  refine ⟨?_, ?_, ?_⟩ <;>
  · apply itemSum_map_irrel
    intro x _
    obtain ⟨_, h2, h3, h4, h5, h6⟩ := hg x
    simp only [h2, h3, h4, h5, h6, and_self]

theorem appBooks_items_irrel {a b : CApp} (g : CItem → CItem) (hg : ItemIrrel g) (hi : b.items = a.items.map g)
    (h1 : b.allocated = a.allocated) (h2 : b.allocatedPh = a.allocatedPh) (h3 : b.pending = a.pending) (h : AppBooks a) :
    AppBooks b := by
  refine ⟨?_, ?_, ?_⟩ <;> intro k
  · rw [hi, h1, (itemSum_irrel a.items g hg k).1]; exact h.allocated k
  · rw [hi, h2, (itemSum_irrel a.items g hg k).2.1]; exact h.allocatedPh k
  · rw [hi, h3, (itemSum_irrel a.items g hg k).2.2]; exact h.pending k

theorem AppWF.of_sublist {a b : CApp} (g : CItem → CItem) (h : AppWF a) (hi : b.items.Sublist (a.items.map g))
    (hres : wf b.pending = true ∧ wf b.allocated = true ∧ wf b.allocatedPh = true) (hkey : ∀ x, (g x).key = x.key)
    (hg : ∀ x ∈ a.items, (wf (g x).res = true ∧ NonNeg (g x).res) ∧ ((g x).bound = true → (g x).allocated = true)) :
    AppWF b := by
  have hmem : ∀ y ∈ b.items, ∃ x ∈ a.items, y = g x := fun y hy => by
    obtain ⟨x, hx, rfl⟩ := List.mem_map.mp (hi.subset hy)
    exact ⟨x, hx, rfl⟩
  refine ⟨?_, hres, ?_, ?_⟩
  · refine List.Pairwise.sublist hi ?_
    rw [List.pairwise_map]
    exact h.itemKeys.imp (fun {u v} huv => by rw [hkey u, hkey v]; exact huv)
  · intro y hy
    obtain ⟨x, hx, rfl⟩ := hmem y hy
    exact (hg x hx).1
  · intro y hy hb
    obtain ⟨x, hx, rfl⟩ := hmem y hy
    exact (hg x hx).2 hb

theorem appWF_map_items {a b : CApp} (g : CItem → CItem)
    (hg : ∀ x, (g x).key = x.key ∧ (g x).res = x.res ∧ (g x).bound = x.bound ∧ (x.allocated = true → (g x).allocated = true))
    (hi : b.items = a.items.map g)
    (hres : wf b.pending = true ∧ wf b.allocated = true ∧ wf b.allocatedPh = true) (h : AppWF a) : AppWF b :=
  h.of_sublist g (hi ▸ List.Sublist.refl _) hres (fun x => (hg x).1) (fun x hx =>
    ⟨by rw [(hg x).2.1]; exact h.itemRes x hx, fun hb => (hg x).2.2.2 (h.boundAllocated x hx ((hg x).2.2.1 ▸ hb))⟩)

theorem appWF_items_irrel {a b : CApp} (g : CItem → CItem) (hg : ItemIrrel g) (hi : b.items = a.items.map g)
    (h1 : b.allocated = a.allocated) (h2 : b.allocatedPh = a.allocatedPh) (h3 : b.pending = a.pending) (h : AppWF a) :
    AppWF b :=
  appWF_map_items g (fun x => ⟨(hg x).1, (hg x).2.1, (hg x).2.2.2.2.1, fun hx => (hg x).2.2.2.1.trans hx⟩) hi
    (by rw [h1, h2, h3]; exact h.appRes) h

def QIrrel (g : CQueue → CQueue) : Prop := ∀ q, (g q).path = q.path ∧ (g q).allocated = q.allocated ∧ (g q).pending = q.pending

theorem qIrrel_id : QIrrel (fun q => q) := fun _ => ⟨rfl, rfl, rfl⟩

theorem qIrrel_ite (c : CQueue → Bool) (f : CQueue → CQueue) (hf : QIrrel f) :
    QIrrel (fun q => if c q = true then f q else q) := by
  intro q
  by_cases hc : c q = true
  · dsimp only; rw [if_pos hc]; exact hf q
  · dsimp only; rw [if_neg hc]; exact ⟨rfl, rfl, rfl⟩

theorem queueBooks_map_irrel (apps : List CApp) (queues : List CQueue) (g : CQueue → CQueue) (hg : QIrrel g)
    (h : ∀ q ∈ queues, QueueBooks apps q) : ∀ q ∈ queues.map g, QueueBooks apps q := by
  intro q' hq'
  obtain ⟨q, hq, rfl⟩ := List.mem_map.mp hq'
  obtain ⟨h1, h2, h3⟩ := hg q
  exact ⟨by rw [h1, h2]; exact (h q hq).allocated, by rw [h1, h3]; exact (h q hq).pending⟩

theorem qwf_irrel {q : CQueue} (g : CQueue → CQueue) (hg : QIrrel g) (h : QWF q) : QWF (g q) := by
  obtain ⟨_, h2, h3⟩ := hg q
  exact ⟨by rw [h2]; exact h.allocated, by rw [h3]; exact h.pending, by rw [h3]; exact h.inR⟩

theorem qwf_map_irrel (queues : List CQueue) (g : CQueue → CQueue) (hg : QIrrel g)
    (h : ∀ q ∈ queues, QWF q) : ∀ q ∈ queues.map g, QWF q := by
  intro q' hq'
  obtain ⟨q, hq, rfl⟩ := List.mem_map.mp hq'
  exact qwf_irrel g hg (h q hq)

def NodeIrrel (g : CNode → CNode) : Prop :=
  ∀ n, (g n).id = n.id ∧ (g n).allocs = n.allocs ∧ (g n).total = n.total ∧ (g n).occupied = n.occupied ∧
    (g n).allocated = n.allocated ∧ (g n).available = n.available

theorem nodeIrrel_id : NodeIrrel (fun n => n) := fun _ => ⟨rfl, rfl, rfl, rfl, rfl, rfl⟩

theorem nodeBooks_irrel {n : CNode} (g : CNode → CNode) (hg : NodeIrrel g) (h : NodeBooks n) : NodeBooks (g n) := by
  obtain ⟨_, h2, h3, h4, h5, h6⟩ := hg n
  exact ⟨by rw [h5, h2]; exact h.allocated, by rw [h6, h3, h5, h4]; exact h.available⟩

theorem nwf_irrel {n : CNode} (g : CNode → CNode) (hg : NodeIrrel g) (h : NWF n) : NWF (g n) := by
  obtain ⟨_, h2, h3, h4, h5, h6⟩ := hg n
  exact ⟨by rw [h2]; exact h.allocKeys, by rw [h3, h4, h5, h6]; exact h.nodeRes, by rw [h2]; exact h.allocRes⟩

theorem nodeBooks_map_irrel (nodes : List CNode) (g : CNode → CNode) (hg : NodeIrrel g)
    (h : ∀ n ∈ nodes, NodeBooks n) : ∀ n ∈ nodes.map g, NodeBooks n := by
  intro n' hn'
  obtain ⟨n, hn, rfl⟩ := List.mem_map.mp hn'
  exact nodeBooks_irrel g hg (h n hn)

theorem nwf_map_irrel (nodes : List CNode) (g : CNode → CNode) (hg : NodeIrrel g)
    (hu : nodes.Pairwise (fun a b => a.id ≠ b.id)) (h : ∀ n ∈ nodes, NWF n) :
    (nodes.map g).Pairwise (fun a b => a.id ≠ b.id) ∧ ∀ n ∈ nodes.map g, NWF n := by
  constructor
  · rw [List.pairwise_map]
    refine List.Pairwise.imp ?_ hu
    intro x y hxy; rw [(hg x).1, (hg y).1]; exact hxy
  · intro n' hn'
    obtain ⟨n, hn, rfl⟩ := List.mem_map.mp hn'
    exact nwf_irrel g hg (h n hn)

theorem nodeIrrel_upd (id : String) (f : CNode → CNode) (hf : NodeIrrel f) :
    NodeIrrel (fun n => if (n.id == id) = true then f n else n) := by
  intro n
  by_cases hd : (n.id == id) = true
  · dsimp only; rw [if_pos hd]; exact hf n
  · dsimp only; rw [if_neg hd]; exact ⟨rfl, rfl, rfl, rfl, rfl, rfl⟩

/-- `g` keeps what the books and the well-formedness read of an application (the reservation bookkeeping changes the rest) -/
def AppIrrel (g : CApp → CApp) : Prop :=
  ∀ a, (g a).live = a.live ∧ (g a).id = a.id ∧ (g a).queue = a.queue ∧ (g a).allocated = a.allocated ∧
    (g a).allocatedPh = a.allocatedPh ∧ (g a).pending = a.pending ∧ (g a).items = a.items

theorem appIrrel_id : AppIrrel (fun a => a) := fun _ => ⟨rfl, rfl, rfl, rfl, rfl, rfl, rfl⟩

theorem itemIrrel_ite (c : CItem → Bool) (g : CItem → CItem) (hg : ItemIrrel g) :
    ItemIrrel (fun x => if c x = true then g x else x) := by
  intro x
  by_cases h : c x = true
  · dsimp only; rw [if_pos h]; exact hg x
  · dsimp only; rw [if_neg h]; exact ⟨rfl, rfl, rfl, rfl, rfl, rfl⟩

theorem itemIrrel_comp (g h : CItem → CItem) (hg : ItemIrrel g) (hh : ItemIrrel h) : ItemIrrel (fun x => h (g x)) := by
  intro x
  obtain ⟨a1, a2, a3, a4, a5, a6⟩ := hg x
  obtain ⟨b1, b2, b3, b4, b5, b6⟩ := hh (g x)
  exact ⟨b1.trans a1, b2.trans a2, b3.trans a3, b4.trans a4, b5.trans a5, b6.trans a6⟩

theorem qsum_map_irrel (apps : List CApp) (g : CApp → CApp) (hg : AppIrrel g) (p : String) (w : CApp → Int)
    (hw : ∀ a, w (g a) = w a) : qsum (apps.map g) p w = qsum apps p w := by
  unfold qsum
  rw [sumIf_map]
  apply sumIf_congr
  intro x _
  obtain ⟨h1, _, h3, _⟩ := hg x
  rw [h1, h3, hw x]

theorem books_apps_irrel (apps : List CApp) (queues : List CQueue) (g : CApp → CApp) (hg : AppIrrel g)
    (hA : ∀ a ∈ apps, a.live = true → AppBooks a) (hQ : ∀ q ∈ queues, QueueBooks apps q) :
    (∀ a ∈ apps.map g, a.live = true → AppBooks a) ∧ (∀ q ∈ queues, QueueBooks (apps.map g) q) := by
  constructor
  · intro b hb hbl
    obtain ⟨a, ha, rfl⟩ := List.mem_map.mp hb
    obtain ⟨h1, _, _, h4, h5, h6, hit⟩ := hg a
    rw [h1] at hbl
    exact .congr hit h4 h5 h6 (hA a ha hbl)
  · intro q hq
    constructor
    · intro k
      rw [qsum_map_irrel apps g hg _ _ (fun a => by rw [(hg a).2.2.2.1, (hg a).2.2.2.2.1])]
      exact (hQ q hq).allocated k
    · intro k
      rw [qsum_map_irrel apps g hg _ _ (fun a => by rw [(hg a).2.2.2.2.2.1])]
      exact (hQ q hq).pending k

theorem wf_apps_irrel (apps : List CApp) (g : CApp → CApp) (hg : AppIrrel g)
    (hu : apps.Pairwise (fun a b => a.live = true → b.live = true → a.id ≠ b.id))
    (hW : ∀ a ∈ apps, a.live = true → AppWF a) :
    (apps.map g).Pairwise (fun a b => a.live = true → b.live = true → a.id ≠ b.id) ∧
    (∀ a ∈ apps.map g, a.live = true → AppWF a) := by
  constructor
  · rw [List.pairwise_map]
    refine List.Pairwise.imp ?_ hu
    intro x y hxy hx hy
    rw [(hg x).1] at hx; rw [(hg y).1] at hy
    rw [(hg x).2.1, (hg y).2.1]; exact hxy hx hy
  · intro b hb hbl
    obtain ⟨a, ha, rfl⟩ := List.mem_map.mp hb
    obtain ⟨h1, _, _, h4, h5, h6, hit⟩ := hg a
    rw [h1] at hbl
    exact .congr hit h4 h5 h6 (hW a ha hbl)

theorem appIrrel_upd (id : String) (f : CApp → CApp) (hf : AppIrrel f) :
    AppIrrel (fun a => if (a.live && a.id == id) = true then f a else a) := by
  intro a
  by_cases hd : (a.live && a.id == id) = true
  · dsimp only; rw [if_pos hd]; exact hf a
  · dsimp only; rw [if_neg hd]
    exact appIrrel_id a

theorem books_irrel {s t : Core} (ga : CApp → CApp) (gq : CQueue → CQueue) (gn : CNode → CNode)
    (hga : AppIrrel ga) (hgq : QIrrel gq) (hgn : NodeIrrel gn)
    (ha : t.apps = s.apps.map ga) (hq : t.queues = s.queues.map gq) (hn : t.nodes = s.nodes.map gn)
    (hb : Books s) : Books t := by
  obtain ⟨h1, h2⟩ := books_apps_irrel s.apps s.queues ga hga hb.apps hb.queues
  refine ⟨by rw [ha]; exact h1, ?_, by rw [hn]; exact nodeBooks_map_irrel _ gn hgn hb.nodes⟩
  rw [ha, hq]
  exact queueBooks_map_irrel _ _ gq hgq h2

theorem wf_irrel {s t : Core} (ga : CApp → CApp) (gq : CQueue → CQueue) (gn : CNode → CNode)
    (hga : AppIrrel ga) (hgq : ∀ q, (gq q).path = q.path ∧ (gq q).allocated = q.allocated ∧ (gq q).pending = q.pending)
    (hgn : NodeIrrel gn)
    (ha : t.apps = s.apps.map ga) (hq : t.queues = s.queues.map gq) (hn : t.nodes = s.nodes.map gn)
    (hw : CoreWF s) : CoreWF t := by
  obtain ⟨h1, h2⟩ := wf_apps_irrel s.apps ga hga hw.appIds (fun a ha hl => hw.app ha hl)
  obtain ⟨h3, h4⟩ := nwf_map_irrel s.nodes gn hgn hw.nodeIds (fun n hn => hw.node hn)
  exact CoreWF.of_parts (by rw [ha]; exact h1) (by rw [hn]; exact h3) (by rw [ha]; exact h2)
    (by rw [hq]; exact qwf_map_irrel _ gq hgq (fun q hq => hw.queue hq)) (by rw [hn]; exact h4)

theorem irrel_props {s t : Core} {ga : CApp → CApp} {gq : CQueue → CQueue} {gn : CNode → CNode}
    (hga : AppIrrel ga) (hgq : QIrrel gq) (hgn : NodeIrrel gn)
    (ha : t.apps = s.apps.map ga) (hq : t.queues = s.queues.map gq) (hn : t.nodes = s.nodes.map gn)
    (hw : CoreWF s) (hb : Books s) : Books t ∧ CoreWF t :=
  ⟨books_irrel ga gq gn hga hgq hgn ha hq hn hb, wf_irrel ga gq gn hga hgq hgn ha hq hn hw⟩

/-! ### the books read the live applications only -/

theorem qsum_filter_dead (apps : List CApp) (d : CApp → Bool) (hd : ∀ x ∈ apps, d x = false → x.live = false)
    (p : String) (g : CApp → Int) : qsum (apps.filter d) p g = qsum apps p g := by
  unfold qsum
  apply sumIf_filter_irrel
  intro x hx hdx
  rw [hd x hx hdx]; rfl

theorem apps_props (s t : Core) (hw : CoreWF s) (hb : Books s) (htq : t.queues = s.queues) (htn : t.nodes = s.nodes)
    (hu : t.apps.Pairwise (fun a b => a.live = true → b.live = true → a.id ≠ b.id))
    (hA : ∀ x ∈ t.apps, x.live = true → AppBooks x ∧ AppWF x)
    (hsum : ∀ (p k : String), qsum t.apps p (fun a => a.allocated.getD k + a.allocatedPh.getD k) =
        qsum s.apps p (fun a => a.allocated.getD k + a.allocatedPh.getD k) ∧
      qsum t.apps p (fun a => a.pending.getD k) = qsum s.apps p (fun a => a.pending.getD k)) : Books t ∧ CoreWF t := by
  constructor
  · refine ⟨fun x hx hl => (hA x hx hl).1, ?_, by rw [htn]; exact hb.nodes⟩
    rw [htq]
    intro q hq
    exact ⟨fun k => by rw [(hsum q.path k).1]; exact (hb.queues q hq).allocated k,
      fun k => by rw [(hsum q.path k).2]; exact (hb.queues q hq).pending k⟩
  · exact CoreWF.of_parts hu (by rw [htn]; exact hw.nodeIds) (fun x hx hl => (hA x hx hl).2)
      (by rw [htq]; exact fun q hq => hw.queue hq) (by rw [htn]; exact fun n hn => hw.node hn)

theorem props_of_live {s t : Core} {gq : CQueue → CQueue} {gn : CNode → CNode} (hgq : QIrrel gq) (hgn : NodeIrrel gn)
    (ha : t.apps.filter (·.live) = s.apps.filter (·.live)) (hq : t.queues = s.queues.map gq)
    (hn : t.nodes = s.nodes.map gn) (hw : CoreWF s) (hb : Books s) : Books t ∧ CoreWF t := by
  obtain ⟨hb1, hw1⟩ := irrel_props (s := s) (t := { s with queues := s.queues.map gq, nodes := s.nodes.map gn })
    appIrrel_id hgq hgn (List.map_id' _).symm rfl rfl hw hb
  have hm : ∀ x ∈ t.apps, x.live = true → x ∈ s.apps := fun x hx hl =>
    (List.mem_filter.mp (ha ▸ List.mem_filter.mpr ⟨hx, hl⟩)).1
  have hs : ∀ p g, qsum t.apps p g = qsum s.apps p g := fun p g => by
    rw [← qsum_filter_dead t.apps (·.live) (fun _ _ h => h), ha, qsum_filter_dead s.apps (·.live) (fun _ _ h => h)]
  exact apps_props _ t hw1 hb1 hq hn (List.pairwise_filter.mp (ha ▸ List.pairwise_filter.mpr hw.appIds))
    (fun x hx hl => ⟨hb.apps x (hm x hx hl) hl, hw.app (hm x hx hl) hl⟩) (fun p k => ⟨hs p _, hs p _⟩)

theorem filter_live_updApps_dead (l : List CApp) (app : String) (d : CApp) (hd : d.live = false) :
    (l.filter (fun x => !(x.live && x.id == app))).filter (·.live) = (updApps l app (fun _ => d)).filter (·.live) := by
  unfold updApps
  rw [List.filter_map, List.filter_filter]
  have e : l.filter ((·.live) ∘ fun a => if (a.live && a.id == app) = true then d else a) =
      l.filter (fun a => a.live && !(a.live && a.id == app)) :=
    List.filter_congr (fun x _ => by
      show (if (x.live && x.id == app) = true then d else x).live = _
      split
      · rename_i h; rw [hd, h]; simp
      · rename_i h; simp only [Bool.not_eq_true] at h; rw [h]; simp)
  rw [e]
  refine ((List.map_congr_left (fun x hx => ?_)).trans (List.map_id' _)).symm
  have h := (List.mem_filter.mp hx).2
  simp only [Bool.and_eq_true, Bool.not_eq_true'] at h
  rw [if_neg (by rw [h.2]; exact Bool.false_ne_true)]

end Yk
