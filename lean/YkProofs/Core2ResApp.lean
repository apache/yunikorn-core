/-
  C09 on the stepped Core model: the reservation invariant `ResInv` (Core2Res.lean) is preserved by `releaseApp`,
  `appRemove`, `phTimeout`, `stateTimeout`, and — at the end of a node removal — by `leaveApp` / `sweepTerminated`.
  `releaseApp` (when the asks go), `appRemove` and `phTimeout` drop all reservations of one application from the three
  views (the maps of `unreserveApp`).
-/
import YkProofs.Core2ResRel
import YkProofs.Core2LifeApp
namespace Yk
open Res Core
open ResS
open ResC (nsig qsig quietSt)

namespace ResC

theorem sum_le_of_sublist {l1 l2 : List Nat} (h : l1.Sublist l2) : l1.sum ≤ l2.sum := by
  induction h with
  | slnil => exact Nat.le_refl _
  | cons a _ ih => rw [List.sum_cons]; omega
  | cons_cons a _ ih => rw [List.sum_cons, List.sum_cons]; omega

theorem total_filter_le (p : CApp → Bool) (l : List CApp) :
    (((l.filter p).filter (·.live)).map (·.reservations.length)).sum ≤ ((l.filter (·.live)).map (·.reservations.length)).sum :=
  sum_le_of_sublist ((List.filter_sublist.filter _).map _)

theorem le_resvTotal {s : Core} {a : CApp} (ha : a ∈ s.apps) (hl : a.live = true) : a.reservations.length ≤ resvTotal s := by
  unfold resvTotal
  simpa using sum_le_of_sublist ((List.singleton_sublist.mpr (mem_liveApps.mpr ⟨ha, hl⟩)).map (·.reservations.length))

theorem qsig_qDecAlloc (r : Res) (q : CQueue) : qsig (qDecAlloc r q) = qsig q := rfl

theorem nsig_rmN (l : List CItem) : ∀ n : CNode, nsig (rmN l n) = nsig n := by
  induction l with
  | nil => intro _; rfl
  | cons i t ih =>
    intro n
    refine (ih _).trans ?_
    dsimp only
    split <;> rfl

/-! ### states with the same views -/

structure AppKeep (b b' : CApp) : Prop where
  id : b'.id = b.id
  queue : b'.queue = b.queue
  res : b'.reservations = b.reservations
  items : ∀ r ∈ b.reservations, ∀ i ∈ b.items, i.key = r.1 →
    ∃ i' ∈ b'.items, i'.key = i.key ∧ i'.reqNode = i.reqNode ∧ i'.outstanding = i.outstanding

structure Keeps (s t : Core) : Prop where
  nodes : t.nodes.map nsig = s.nodes.map nsig
  queues : t.queues.map qsig = s.queues.map qsig
  fwd : ∀ b ∈ s.apps, b.live = true → b.reservations ≠ [] → ∃ b' ∈ t.apps, b'.live = true ∧ AppKeep b b'
  bwd : ∀ b' ∈ t.apps, b'.live = true →
    ∃ b ∈ s.apps, b.live = true ∧ AppKeep b b' ∧ (quietSt b'.state → b.reservations = [])
  counter : resvTotal t ≤ t.reservations

/-- the case of `ResStep` in which nothing leaves, no record appears or disappears and `outstanding` is kept as it is -/
theorem Keeps.res {s t : Core} (k : Keeps s t) (h : ResInv s) : ResInv t := by
  have hk : ∀ {b b' : CApp}, AppKeep b b' → (quietSt b'.state → b.reservations = []) → ResS.AppStep nogone b b' :=
    fun kb hq => ⟨kb.id, kb.queue, kb.res.trans (stay_none _).symm,
      fun r hr i hi hik => let ⟨j, hj, e1, e2, e3⟩ := kb.items r (kb.res ▸ hr) i hi hik; ⟨j, hj, e1, e2, fun h => e3.trans h⟩,
      fun hst => Or.inr (kb.res.trans (hq hst))⟩
  refine ResStep.res (app := "") ⟨⟨fun _ hr => Bool.noConfusion hr, fun b hb hbl hne => ?_, fun b' hb' hbl' => ?_⟩,
    NodesStep.keep k.nodes, QueuesStep.keep k.queues, k.counter⟩ h
  · obtain ⟨b', hb', hbl', kb⟩ := k.fwd b hb hbl (by rw [stay_none] at hne; exact hne)
    -- `b'` also comes from some `b2` of `s` (`bwd`), with the same reservations: it is quiet only if there are none
    obtain ⟨b2, _, _, k2, hq2⟩ := k.bwd b' hb' hbl'
    exact ⟨b', hb', hbl', hk kb (fun hst => by rw [← kb.res, k2.res]; exact hq2 hst)⟩
  · obtain ⟨b, hb, hbl, kb, hq⟩ := k.bwd b' hb' hbl'
    exact Or.inl ⟨b, hb, hbl, hk kb hq⟩

/-! ### all reservations of one application are dropped: the maps of `unreserveApp` -/

theorem nsig_unresN (a : CApp) (n : CNode) :
    nsig (unresN true a n) = (n.id, stayN (a.reservations.contains ·) n.id n.reservations) := by
  unfold unresN
  split
  · rfl
  · rename_i he
    have hnil : a.reservations = [] := by simpa using he
    show (n.id, n.reservations) = (n.id, n.reservations.filter _)
    rw [List.filter_eq_self.mpr (fun k _ => by simp [hnil])]

/-- the counts of a queue after `unreserveApp` -/
def unresG (a : CApp) (path : String) (l : List (String × Nat)) : List (String × Nat) :=
  if (!a.reservations.isEmpty && path == a.queue) = true then l.filter (·.1 != a.id) else l

theorem qsig_unresQ (a : CApp) (q : CQueue) : qsig (unresQ true a q) = (q.path, unresG a q.path q.reserved) := by
  unfold unresQ unresG
  simp only [Bool.true_and]
  split <;> rfl

theorem qstep_unresG {s : Core} {a : CApp} (hu : s.apps.Pairwise (fun a b => a.live = true → b.live = true → a.id ≠ b.id))
    (ham : a ∈ s.apps) (hl : a.live = true) (path : String) (l : List (String × Nat)) :
    QStep s a.id (a.reservations.contains ·) path l (unresG a path l) := by
  have hself : ∀ a' ∈ s.apps, a'.live = true → a'.id = a.id → a' = a := fun a' ha' hl' hid' =>
    (appIds_atMostOne a.id hu).eq ha' ham (by simp [hl', hid']) (by simp [hl])
  unfold unresG
  split
  · exact QStep.unres (fun a' ha' hl' hid' => by rw [hself a' ha' hl' hid']; exact stay_all _)
  · rename_i hc
    refine QStep.same _ (fun a' ha' hl' hid' hq => ?_)
    -- this is the queue of the application, so it holds no reservation
    rw [hself a' ha' hl' hid'] at hq ⊢
    have : a.reservations = [] := by simpa [hq] using hc
    rw [this]; rfl

/-! ### the records of `releaseApp` -/

theorem relAllApp_reservations (a : CApp) : (relAllApp a).reservations = a.reservations := by
  unfold relAllApp; simp

theorem dropAsksApp_res_req (b : CApp) (h : b.items.any (·.inReq) = true) : (dropAsksApp b).reservations = [] := by
  unfold dropAsksApp
  simp only [h, Bool.not_true, Bool.false_eq_true, if_false, setState_reservations]

theorem relAll2_reservations (tt : TermType) (a : CApp) :
    (relAll2 tt a).reservations = if relAsks tt a = true then [] else a.reservations := by
  unfold relAll2; dsimp only; split
  · rename_i h; exact dropAsksApp_res_req _ (relAsks_any h)
  · exact relAllApp_reservations a

theorem relAll2_live (tt : TermType) (a : CApp) :
    (relAll2 tt a).live = ((relAllApp a).live && !(terminated (relAll2 tt a).state)) := by
  unfold relAll2; rfl

/-! ### the timers, `leaveApp` -/

theorem itemKeeps_relPh : ItemKeeps relPh := fun z => by
  unfold relPh
  split <;> exact ⟨rfl, rfl, id⟩

theorem phApp1_reservations (a : CApp) (ev : Option String) : (phApp1 a ev).reservations = a.reservations := by
  unfold phApp1
  cases ev with
  | none => rfl
  | some st => simp only [setState_reservations]

/-- `res_leaveApp` from the uniqueness of the ids alone, which is what `sweepTerminated_inv` carries along -/
theorem res_leaveApp' (c : Core) (app : String)
    (hu : c.apps.Pairwise (fun a b => a.live = true → b.live = true → a.id ≠ b.id)) (h : ResInv c)
    (hterm : ∀ a, c.findApp app = some a → terminated a.state = true) : ResInv (c.leaveApp app) := by
  rcases leaveApp_cases c app with ⟨_, e⟩ | ⟨a, hfind, e⟩
  · rw [e]; exact h
  · obtain ⟨ham, hl, _⟩ := findApp_some hfind
    have hnil : a.reservations = [] := h.quiet a ham hl (Or.inr (Or.inr (hterm a hfind)))
    rw [e]
    exact res_upd1 (f := fun _ => leftApp a) hu h hfind rfl rfl (qsig_updQs _ _ _ (fun _ => rfl)) (Nat.le_refl _)
      (AppStep.of_nil rfl rfl hnil hnil) (Or.inr hnil)

theorem leaveApp_appIds (c : Core) (app : String)
    (hu : c.apps.Pairwise (fun a b => a.live = true → b.live = true → a.id ≠ b.id)) :
    (c.leaveApp app).apps.Pairwise (fun a b => a.live = true → b.live = true → a.id ≠ b.id) := by
  rcases leaveApp_cases c app with ⟨_, e⟩ | ⟨a, hfind, e⟩
  · rw [e]; exact hu
  · rw [e]
    exact pairwise_updApps c.apps app _ (const_id (findApp_some hfind).2.2) hu

end ResC

/-- partition.removeAllocation(app, "", tt) -/
theorem res_releaseApp (s : Core) (tt : TermType) (app : String) (hi : CoreInv s) (h : ResInv s) :
    ResInv (s.releaseApp tt app) := by
  cases hfind : s.findApp app with
  | none => unfold releaseApp; simp only [hfind]; exact h
  | some a =>
    obtain ⟨ham, hl, rfl⟩ := findApp_some hfind
    have hw := hi.wf
    have sh := shape_releaseApp s tt a.id a hfind
    have hq0 := fun q => qsig_onChain (pathChain s a.queue)
      (qsig_of (relAllQ_path_reserved (sumRes ((onNodes s a.items).map (·.res)))
        (sumRes (((onNodes s a.items).filter (·.preempted)).map (·.res))) (relAllApp a) (relAll2 tt a) (relAsks tt a))) q
    cases hA : relAsks tt a with
    | true =>
      -- the asks go, and all reservations with them
      rw [hA] at sh hq0
      have hnil : (relAll2 tt a).reservations = [] := by rw [ResC.relAll2_reservations, hA]; rfl
      exact (sh.resStep hw.appIds h (fun r hr => by simpa using hr)
        (AppStep.all_gone (relAll2_id tt a) (relAll2_queue tt a) hnil) (Or.inr hnil)
        (fun n => nsig_after (ResC.nsig_unresN a) (ResC.nsig_rmN _ n)) (ResC.unresG a)
        (fun q => qsig_after (ResC.qsig_unresQ a) (hq0 q)) (fun q _ => ResC.qstep_unresG hw.appIds ham hl _ _)).res h
    | false =>
      rw [hA] at sh hq0
      have hres : (relAll2 tt a).reservations = a.reservations := by
        rw [ResC.relAll2_reservations, hA]; rfl
      have hst := LifeC.relAll2_state_noasks hA
      have hk : ResS.AppStep nogone a (relAll2 tt a) := by
        refine AppStep.of_step h ham hl (hw.app ham hl) (relAll2_id tt a) (relAll2_queue tt a)
          (hres.trans (stay_none _).symm) ?_ (hst ▸ LifeC.relAllApp_moves a)
          (LifeC.relAll2_step tt a (hi.books.apps a ham hl) (hw.app ham hl) (hi.life.pos a ham hl)).1
        rw [relAll2_items, hA, if_neg Bool.false_ne_true]
        exact ((KeepsAsks.refl _).map itemKeeps_unbind).filter (fun _ _ _ _ h => h)
      refine sh.res hw.appIds h hq0 (fun n => ResC.nsig_rmN _ n) hk (hk.live_or h ham hl ?_)
      rw [ResC.relAll2_live, Yk.relAllApp_live, hst]
      cases terminated (relAllApp a).state <;> rfl

theorem ResC.appRemove_resStep (s : Core) (a : CApp) (hw : CoreWF s) (h : ResInv s) (hfind : s.findApp a.id = some a) :
    ResStep a.id (a.reservations.contains ·) s (s.appRemove a.id) := by
  obtain ⟨ham, hl, _⟩ := findApp_some hfind
  obtain ⟨e1, e2, e3, e4⟩ := appRemove_maps s a.id a hfind
  refine ⟨AppsStep.of_rm hw.appIds h ham hl rfl e1,
    NodesStep.of_map e3 (fun n => nsig_after (ResC.nsig_unresN a) (ResC.nsig_rmN _ n)),
    QueuesStep.of_map (ResC.unresG a) e2
      (fun q => qsig_after (ResC.qsig_unresQ a) (qsig_onChain _ (qsig_of (rmQ_path_reserved a)) q))
      (fun q _ => ResC.qstep_unresG hw.appIds ham hl _ _), ?_⟩
  rw [e4]
  refine Nat.le_trans ?_ h.counter
  unfold resvTotal liveApps
  rw [e1]
  exact ResC.total_filter_le _ _

/-- partition.removeApplication -/
theorem res_appRemove (s : Core) (app : String) (hw : CoreWF s) (h : ResInv s) : ResInv (s.appRemove app) := by
  cases hfind : s.findApp app with
  | none => unfold appRemove; simp only [hfind]; exact h
  | some a =>
    obtain rfl := (findApp_some hfind).2.2
    exact (ResC.appRemove_resStep s a hw h hfind).res h

/-- timeoutPlaceholderProcessing, whatever state it announces -/
theorem res_phTimeout (s : Core) (app : String) (ev : Option String) (hw : CoreWF s) (h : ResInv s) :
    ResInv (s.phTimeout app ev) := by
  cases hfind : s.findApp app with
  | none => rw [phTimeout_none ev hfind]; exact h
  | some a =>
    obtain ⟨ham, hl, rfl⟩ := findApp_some hfind
    cases hc : ((a.state == "Running" || a.state == "Completing") && !(isZero (some a.allocatedPh))) with
    | true =>
      exact (shape_phTimeout1 s a.id ev a hw hfind hc).res hw.appIds h (fun _ => rfl) (fun _ => rfl)
        (AppStep.of_outstanding h ham hl (hw.app ham hl) rfl rfl (stay_none _).symm
          ((KeepsAsks.refl _).map ResC.itemKeeps_relPh) Or.inl) (Or.inl hl)
    | false =>
      have sh := shape_phTimeout2 s a.id ev a hw hfind hc
      have hq0 := fun q => qsig_onChain (pathChain s a.queue) (qsig_of (rmQ0_path_reserved a)) q
      have f1 := phApp2_id a ev
      have f2 := phApp2_queue a ev
      cases hreq : a.items.any (·.inReq) with
      | true =>
        rw [hreq] at sh
        have hnil : (phApp2 a ev).reservations = [] := by
          unfold phApp2
          exact ResC.dropAsksApp_res_req _ (by rw [phApp1_anyReq]; exact hreq)
        exact (sh.resStep hw.appIds h (fun r hr => by simpa using hr) (AppStep.all_gone f1 f2 hnil) (Or.inr hnil)
          (ResC.nsig_unresN a) (ResC.unresG a) (fun q => qsig_after (ResC.qsig_unresQ a) (hq0 q))
          (fun q _ => ResC.qstep_unresG hw.appIds ham hl _ _)).res h
      | false =>
        rw [hreq] at sh
        have hnil : a.reservations = [] := by
          apply ResB.no_resv_of_zero h ham hl
          intro i him
          have := List.any_eq_false.mp hreq i him
          exact LifeC.outstanding_of_noReq (by simpa using this)
        have hnil' : (phApp2 a ev).reservations = [] := by
          unfold phApp2
          rw [dropAsksApp_noreq _ (by rw [phApp1_anyReq]; exact hreq), ResC.phApp1_reservations, hnil]
        exact sh.res hw.appIds h hq0 (fun _ => rfl) (AppStep.of_nil f1 f2 hnil hnil') (Or.inr hnil')

/-- timeoutStateTimer -/
theorem res_stateTimeout (s : Core) (app : String) (hw : CoreWF s) (h : ResInv s) : ResInv (s.stateTimeout app) := by
  rcases shape_stateTimeout s app hw with e | ⟨a, hfind, hstate, ⟨_, sh⟩ | ⟨_, sh⟩⟩
  · rw [e]; exact h
  · obtain ⟨ham, hl, _⟩ := sh.mem
    exact sh.res hw.appIds h (fun _ => rfl) (fun _ => rfl)
      (AppStep.of_outstanding h ham hl (hw.app ham hl) rfl rfl (stay_none _).symm
        ((KeepsAsks.refl _).map ResC.itemKeeps_relPh) Or.inl) (Or.inl hl)
  · obtain ⟨ham, hl, _⟩ := findApp_some hfind
    have hnil : a.reservations = [] := h.quiet a ham hl (Or.inr (Or.inl hstate))
    have hres : (doneApp a).reservations = [] := by
      show (setState a "Completed").reservations = []
      rw [setState_reservations]; exact hnil
    exact sh.res hw.appIds h (qsig_onChain _ (fun _ => rfl)) (fun _ => rfl)
      (AppStep.of_nil (setState_id a _) (setState_queue a _) hnil hres) (Or.inr hres)

/-- moveTerminatedApp for an application that has terminated: it holds no reservation (`ResInv.quiet`) -/
theorem res_leaveApp (c : Core) (app : String) (hw : CoreWF c) (h : ResInv c)
    (hterm : ∀ a, c.findApp app = some a → terminated a.state = true) : ResInv (c.leaveApp app) :=
  ResC.res_leaveApp' c app hw.appIds h hterm

/-- at the end of a node removal: the terminated applications leave -/
theorem res_sweepTerminated (c : Core) (hw : CoreWF c) (h : ResInv c) : ResInv c.sweepTerminated :=
  (sweepTerminated_inv (I := fun c => c.apps.Pairwise (fun a b => a.live = true → b.live = true → a.id ≠ b.id) ∧ ResInv c)
    (fun _ h => h.1) (fun c app h ht => ⟨ResC.leaveApp_appIds c app h.1, ResC.res_leaveApp' c app h.1 h.2 ht⟩)
    c ⟨hw.appIds, h⟩).2

end Yk
