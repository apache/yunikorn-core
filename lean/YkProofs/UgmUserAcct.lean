/- Manager level accounting: for every history of manager operations under the callers' contract — including
   configuration reloads — the usage a USER tracker holds is the sum of the user's live allocations. -/
import YkProofs.UgmSteps
import YkProofs.UgmParse
namespace Yk.Ugm
open Yk Yk.Res

theorem neutral_resetT2 (w : List (Path × Limit)) (b : Bool) (t : Tree) (pd : Path) : Neutral t (resetT2 w b t pd) := by
  unfold resetT2
  split
  · exact Neutral.trans (neutral_setLimit _ _ _ _ _ _ _ _) (neutral_unlink _ _)
  · exact neutral_setLimit _ _ _ _ _ _ _ _

/-- Manager.userTrackers against the ledger `L` of live allocations (user, allocation): every user tracker books exactly its
    user's allocations; a user without tracker has none (`missing`: a removed tracker may be re-created empty); `entries`
    is the contract of the callers (queue path from the root, application and user named), carried along. -/
structure UInv (us : List (String × UT)) (L : List (String × Alloc)) : Prop where
  trees : ∀ u ut, aget us u = some ut → Inv ut.qt (userAllocs L u)
  missing : ∀ u, aget us u = none → userAllocs L u = []
  entries : ∀ e ∈ L, e.2.q.take 1 = rootPath ∧ e.2.app ≠ "" ∧ e.1 ≠ ""

/-- `userAllocs L u` and `groupAllocs m L g` are slices -/
def slice (f : String × Alloc → Bool) (L : List (String × Alloc)) : List Alloc := (L.filter f).map (·.2)

theorem mem_slice {f : String × Alloc → Bool} {L : List (String × Alloc)} {a : Alloc} :
    a ∈ slice f L ↔ ∃ u, (u, a) ∈ L ∧ f (u, a) = true := by
  simp [slice]

theorem mem_userAllocs {L : List (String × Alloc)} {u : String} {a : Alloc} : a ∈ userAllocs L u ↔ (u, a) ∈ L :=
  mem_slice.trans ⟨fun ⟨u', h, e⟩ => by rw [beq_iff_eq] at e; exact e ▸ h, fun h => ⟨u, h, beq_self_eq_true u⟩⟩

theorem no_allocs_of_rootless {t : Tree} {La : List Alloc} (hinv : Inv t La) (hq : ∀ a ∈ La, a.q.take 1 = rootPath)
    (hroot : ∀ n, aget t rootPath = some n → n.apps = []) : La = [] := by
  cases La with
  | nil => rfl
  | cons a rest =>
    obtain ⟨n, hn, _, hm⟩ := hinv.live a List.mem_cons_self rootPath (rootPath_mem_prefixes (hq a List.mem_cons_self))
    rw [hroot n hn] at hm; cases hm

theorem canBeRemoved_root {t : Tree} (h : canBeRemoved t = true) : ∀ n, aget t rootPath = some n → n.apps = [] := by
  intro n hn
  unfold canBeRemoved at h
  rw [hn] at h
  exact (removable_apps h).1

def Acc (La : List Alloc) : Option Tree → Prop
  | some t => Inv t La
  | none => La = []

namespace Acc
variable {La La' : List Alloc} {o : Option Tree}

theorem perm (h : Acc La o) (hp : La.Perm La') : Acc La' o := by
  cases o with
  | some t => exact inv_perm h hp
  | none => show La' = []; rw [show La = [] from h] at hp; exact hp.symm.eq_nil

theorem map (h : Acc La o) {f : Tree → Tree} (hf : ∀ t, o = some t → Neutral t (f t)) : Acc La (o.map f) := by
  cases o with
  | none => exact h
  | some t => exact hf t rfl _ h

/-- get-or-create -/
theorem getD_new (h : Acc La o) (w : List (Path × Limit)) (b : Bool) : Acc La (some (o.getD (newTree w b))) := by
  cases o with
  | some t => exact h
  | none => show Inv _ La; rw [show La = [] from h]; exact inv_new w b

/-- a reset changes the tree neutrally, and a tree that can be removed accounts for nothing -/
theorem resetTree (h : Acc La o) (hq : ∀ a ∈ La, a.q.take 1 = rootPath) (w : List (Path × Limit)) (b : Bool) (pd : Path) :
    Acc La (o.bind (fun t => resetTree w b id t pd)) := by
  cases o with
  | none => exact h
  | some t =>
    simp only [Option.bind_some, Ugm.resetTree, id]
    split
    · split
      · exact no_allocs_of_rootless (neutral_resetT2 w b t pd _ h) hq (canBeRemoved_root ‹_›)
      · exact neutral_resetT2 w b t pd _ h
    · exact h

end Acc

theorem UInv.acc {us : List (String × UT)} {L : List (String × Alloc)} (h : UInv us L) (u : String) :
    Acc (userAllocs L u) ((aget us u).map (·.qt)) := by
  cases hh : aget us u with
  | none => exact h.missing u hh
  | some ut => exact h.trees u ut hh

theorem tracked_of_live {m : Mgr} {L : List (String × Alloc)} (h : UInv m.users L) {e : String × Alloc} (he : e ∈ L) :
    trackedApp m e.1 e.2.app = true := by
  obtain ⟨e1, e2⟩ := e
  have hmem : e2 ∈ userAllocs L e1 := mem_userAllocs.mpr he
  unfold trackedApp
  cases hut : aget m.users e1 with
  | none => rw [h.missing e1 hut] at hmem; cases hmem
  | some ut =>
    simp only
    obtain ⟨n, hn, _, hm⟩ := (h.trees e1 ut hut).live e2 hmem rootPath (rootPath_mem_prefixes (h.entries _ he).1)
    rw [hn]; simp only; exact List.contains_iff_mem.mpr hm

theorem uinv_of_acc {us : List (String × UT)} {L : List (String × Alloc)} (hok : ∀ u, Acc (userAllocs L u) ((aget us u).map (·.qt)))
    (hent : ∀ e ∈ L, e.2.q.take 1 = rootPath ∧ e.2.app ≠ "" ∧ e.1 ≠ "") : UInv us L :=
  ⟨fun u ut hut => by have := hok u; rw [hut] at this; exact this,
   fun u hn => by have := hok u; rw [hn] at this; exact this, hent⟩

theorem uinv_ensureUser {m : Mgr} {L : List (String × Alloc)} (h : UInv m.users L) (u : String) : UInv (ensureUser m u).users L := by
  refine uinv_of_acc (fun u' => ?_) h.entries
  have := h.acc u'
  rw [aget_ensureUser]
  cases hh : aget m.users u' with
  | some ut => rw [hh] at this; exact this
  | none =>
    rw [hh] at this
    by_cases e : u = u'
    · rw [if_pos e]; exact this.getD_new m.userWild true
    · rw [if_neg e]; exact this

theorem uinv_amod {us : List (String × UT)} {L : List (String × Alloc)} (h : UInv us L) (u : String) (f : UT → UT)
    (hf : ∀ ut, aget us u = some ut → Neutral ut.qt (f ut).qt) : UInv (amod us u f) L := by
  refine uinv_of_acc (fun u' => ?_) h.entries
  have := h.acc u'
  rw [aget_amod]
  by_cases e : u = u'
  · subst e
    rw [if_pos rfl]
    cases hh : aget us u with
    | none => rw [hh] at this; exact this
    | some ut => rw [hh] at this; exact hf ut hh _ this
  · rw [if_neg e]; exact this

/-! ### manager operations that do not touch the ledger -/

theorem uinv_eGTFA {m : Mgr} {L : List (String × Alloc)} (h : UInv m.users L) (q : Path) (app u : String) (ugs : List String) :
    UInv (ensureGroupTrackerForApp m q app u ugs).users L := by
  obtain ⟨f, hf, e⟩ := eGTFA_users m q app u ugs
  rw [e]
  exact uinv_amod h u f (fun ut _ => by rw [hf]; exact Neutral.refl _)

theorem uinv_touchM {m : Mgr} {L : List (String × Alloc)} (h : UInv m.users L) (q : Path) (app u : String) (ugs : List String) :
    UInv (touchM m q app u ugs).users L := by
  rw [touchM_users]
  exact uinv_eGTFA (uinv_amod (uinv_ensureUser h u) u _ (fun ut _ => neutral_ensurePath _ _ _ _)) _ _ _ _

/-! ### Manager.UpdateConfig -/

def UAcc (m : Mgr) (L : List (String × Alloc)) : Prop := ∀ u, Acc (userAllocs L u) (utree m u)

/-- every step of UpdateConfig acts on the tree of a user by get-or-create, a neutral change or a reset -/
theorem uacc_updateConfig {m : Mgr} {L : List (String × Alloc)} (h : UAcc m L) (hq : ∀ u, ∀ a ∈ userAllocs L u, a.q.take 1 = rootPath)
    (c : Cfg) : UAcc (updateConfig m c) L := by
  unfold updateConfig finishConfig clearEarlierSetLimitsL clearEarlierSetUserWildCardLimits
  simp only
  rw [applyWild_eq]
  intro u
  show Acc _ (utree (List.foldl _ _ _) u)
  revert u
  -- applyWildCardUserLimits, clearEarlierSetUserWildCardLimits, the user resets, the group resets, the parse
  refine foldl_preserves _ (fun m => UAcc m L) _ (fun m e _ hm u => ?_) _
    (foldl_preserves _ (fun m => UAcc m L) _ (fun m e _ hm u => ?_) _
      (foldl_preserves _ (fun m => UAcc m L) _ (fun m e _ hm u => ?_) _
        (foldl_preserves _ (fun m => UAcc m L) _ (fun m e _ hm u => ?_) _ ?_)))
  · rw [utree_wildStepFn]
    exact (hm u).map (fun t _ => by split; exact Neutral.refl _; exact neutral_setLimit _ _ _ _ _ _ _ _)
  · rw [utree_wildStep]
    exact (hm u).map (fun t _ => by unfold wildTree; split; exact neutral_setLimit _ _ _ _ _ _ _ _; exact Neutral.refl _)
  · rw [utree_resetUser]
    split
    · rename_i e; subst e; exact (hm _).resetTree (hq _) _ _ _
    · exact hm u
  · rw [utree_resetGroup]; exact hm u
  · refine processConfig_preserves (fun s => UAcc s.1 L) ?_ ?_ m c h
    · intro s p lc u hs u'
      rcases procUser_cases p lc s u with e | e | e <;> rw [e]
      · exact hs u'
      · exact hs u'
      · show Acc _ (utree (setUserLimits _ _ _ _) u')
        rw [utree_setUserLimits]
        split
        · rename_i e; subst e; exact neutral_setLimit _ _ _ _ _ _ _ _ _ ((hs u).getD_new _ _)
        · exact hs u'
    · intro s p lc g hs u'
      rcases procGroup_shape p lc s g with ⟨_, e⟩ | ⟨n', e, _⟩ <;> rw [e]
      · exact hs u'
      · show Acc _ (utree (setGroupLimits _ _ _ _) u')
        rw [utree_setGroupLimits]; exact hs u'

theorem uinv_updateConfig {m : Mgr} {L : List (String × Alloc)} (h : UInv m.users L) (c : Cfg) : UInv (updateConfig m c).users L :=
  uinv_of_acc (uacc_updateConfig h.acc (fun u a ha => (h.entries (u, a) (mem_userAllocs.mp ha)).1) c) h.entries

/-! ### IncreaseTrackedResource / DecreaseTrackedResource -/

theorem decrease_root_empty {t : Tree} {q : Path} (hq : q.take 1 = rootPath) {app : String} {r : Res} {rm : Bool}
    (hd : (decrease t q app r rm).2 = true) : ∀ n, aget (decrease t q app r rm).1 rootPath = some n → n.apps = [] := by
  obtain ⟨rest, e⟩ := decrease_of_root hq t app r rm
  rw [e] at hd ⊢
  obtain ⟨n0, hn0, hrem⟩ := decGo_removable _ _ _ _ _ _ hd
  intro n hn
  rw [hn0] at hn; cases hn
  exact (removable_apps hrem).1

/-! A slot is a tracker tree (or none) together with the slice of the ledger that a predicate selects: the slot the booked
   or released entry belongs to takes the increase or decrease, every other slot does not see it. -/

section
variable {f : String × Alloc → Bool} {L : List (String × Alloc)} {e : String × Alloc}

theorem slice_append (f : String × Alloc → Bool) (L : List (String × Alloc)) (e : String × Alloc) :
    slice f (L ++ [e]) = slice f L ++ (if f e then [e.2] else []) := by
  unfold slice
  rw [List.filter_append, List.map_append]
  congr 1
  by_cases c : f e = true
  · simp [List.filter, c]
  · simp [List.filter, c]

theorem slice_perm_erase (f : String × Alloc → Bool) (hin : e ∈ L) :
    (slice f L).Perm ((if f e then [e.2] else []) ++ slice f (L.erase e)) := by
  refine (((List.perm_cons_erase hin).filter f).map (·.2)).trans ?_
  rw [List.filter_cons]
  by_cases c : f e = true
  · simp [slice, c]
  · simp [slice, c]

namespace Acc
variable {o : Option Tree} {t : Tree}

theorem book_hit (h : Acc (slice f L) (some t)) (hf : f e = true) (hr : wf e.2.r = true) (w : List (Path × Limit)) (b : Bool) :
    Acc (slice f (L ++ [e])) (some (increase w b t e.2.q e.2.app e.2.r)) := by
  show Inv _ (slice f (L ++ [e]))
  rw [slice_append, if_pos hf]; exact inv_inc h w b e.2 hr

theorem book_miss (h : Acc (slice f L) o) (hf : f e = false) : Acc (slice f (L ++ [e])) o := by
  rw [slice_append, hf]; simpa using h

theorem release_miss (h : Acc (slice f L) o) (hin : e ∈ L) (hf : f e = false) : Acc (slice f (L.erase e)) o := by
  refine h.perm ?_
  have := slice_perm_erase f hin
  rwa [hf, if_neg (by simp), List.nil_append] at this

/-- the tree takes the decrease; when it answers "remove me" its root lists nothing any more: no allocation is left -/
theorem release_hit (h : Acc (slice f L) (some t)) (hin : e ∈ L) (hf : f e = true) (rm : Bool)
    (hroot : ∀ a ∈ slice f L, a.q.take 1 = rootPath) (hrm : rm = true → ∀ b ∈ slice f (L.erase e), b.app ≠ e.2.app) :
    Acc (slice f (L.erase e))
      (if (decrease t e.2.q e.2.app e.2.r rm).2 then none else some (decrease t e.2.q e.2.app e.2.r rm).1) := by
  have hp2 : ((slice f L).erase e.2).Perm (slice f (L.erase e)) := by
    have := (slice_perm_erase f hin).erase e.2
    rwa [if_pos hf, List.singleton_append, List.erase_cons_head] at this
  have hdec : Inv (decrease t e.2.q e.2.app e.2.r rm).1 (slice f (L.erase e)) :=
    inv_perm (inv_dec h e.2 rm (mem_slice.mpr ⟨e.1, hin, hf⟩) (fun hrmv b hb => hrm hrmv b (hp2.mem_iff.mp hb))) hp2
  split
  · rename_i hd
    exact no_allocs_of_rootless hdec (fun a ha => hroot a (List.mem_of_mem_erase (hp2.mem_iff.mpr ha)))
      (decrease_root_empty (hroot _ (mem_slice.mpr ⟨e.1, hin, hf⟩)) hd)
  · exact hdec

end Acc
end

theorem uinv_book {us : List (String × UT)} {L : List (String × Alloc)} (h : UInv us L) {u : String} (hex : ahas us u = true)
    (w : List (Path × Limit)) (a : Alloc) (hq : a.q.take 1 = rootPath) (happ : a.app ≠ "") (hu : u ≠ "") (hr : wf a.r = true) :
    UInv (amod us u (fun ut => { ut with qt := increase w true ut.qt a.q a.app a.r })) (L ++ [(u, a)]) := by
  refine uinv_of_acc (fun u' => ?_) (forall_mem_snoc h.entries ⟨hq, happ, hu⟩)
  have := h.acc u'
  rw [aget_amod]
  by_cases e : u = u'
  · subst e
    obtain ⟨ut, hut⟩ := Option.isSome_iff_exists.mp hex
    rw [hut] at this ⊢
    rw [if_pos rfl]
    exact this.book_hit (e := (u, a)) (by simp) hr w true
  · rw [if_neg e]; exact this.book_miss (by simpa using e)

theorem uinv_increaseM {m : Mgr} {L : List (String × Alloc)} (h : UInv m.users L) (q : Path) (app : String) (r : Res) (u : String)
    (ugs : List String) (hq : q.take 1 = rootPath) (happ : app ≠ "") (hu : u ≠ "") (hr : wf r = true) :
    UInv (increaseM m q app r u ugs).users (L ++ [(u, ⟨app, q, r⟩)]) := by
  rw [increaseM_users (guard_false (by intro e; subst e; cases hq) happ hu)]
  refine uinv_book (uinv_eGTFA (uinv_ensureUser h u) q app u ugs) ?_ _ ⟨app, q, r⟩ hq happ hu hr
  rw [ahas_users_eGTFA]; exact has_user_after_ensureUser m u

theorem uinv_decreaseM {m : Mgr} {L : List (String × Alloc)} (h : UInv m.users L) (q : Path) (app : String) (r : Res) (u : String)
    (rm : Bool) (hin : (u, (⟨app, q, r⟩ : Alloc)) ∈ L)
    (hrm : rm = true → ∀ b ∈ userAllocs (L.erase (u, ⟨app, q, r⟩)) u, b.app ≠ app) :
    UInv (decreaseM m q app r u rm).users (L.erase (u, ⟨app, q, r⟩)) := by
  obtain ⟨hq, happ, hu⟩ := h.entries _ hin
  simp only at hq happ hu
  cases hut : aget m.users u with
  | none => have := mem_userAllocs.mpr hin; rw [h.missing u hut] at this; cases this
  | some ut =>
    rw [decreaseM_users_of (guard_false (by intro e; subst e; cases hq) happ hu) hut]
    refine uinv_of_acc (fun u' => ?_) (fun e he => h.entries e (List.mem_of_mem_erase he))
    have := h.acc u'
    rw [aget_decUserM]
    by_cases e : u = u'
    · subst e
      rw [hut] at this
      have := this.release_hit hin (by simp) rm (fun a ha => (h.entries (u, a) (mem_userAllocs.mp ha)).1) hrm
      simp only at this
      rw [if_pos rfl]
      by_cases hd : (decrease ut.qt q app r rm).2 = true
      · rw [if_pos hd] at this ⊢; exact this
      · rw [if_neg hd] at this ⊢; exact this
    · rw [if_neg e]; exact this.release_miss hin (by simpa using e)

/-! ### histories -/

theorem mStep_headroom (s : Mgr × List (String × Alloc)) (q : Path) (app u : String) (ugs : List String) :
    mStep s (.headroom q app u ugs) = (touchM s.1 q app u ugs, s.2) :=
  congrArg (·, s.2) (headroomM_fst s.1 q app u ugs)

theorem mStep_canRun (s : Mgr × List (String × Alloc)) (q : Path) (app u : String) (ugs : List String) :
    mStep s (.canRun q app u ugs) = (touchM s.1 q app u ugs, s.2) :=
  congrArg (·, s.2) (canRunM_fst s.1 q app u ugs)

theorem uinv_mStep {s : Mgr × List (String × Alloc)} (h : UInv s.1.users s.2) (op : Op) (hok : mOpOk s.2 op) :
    UInv (mStep s op).1.users (mStep s op).2 := by
  cases op with
  | conf c => exact uinv_updateConfig h c
  | headroom q app u ugs => simp only [mStep_headroom]; exact uinv_touchM h q app u ugs
  | canRun q app u ugs => simp only [mStep_canRun]; exact uinv_touchM h q app u ugs
  | inc q app r u ugs => exact uinv_increaseM h q app r u ugs hok.1 hok.2.1 hok.2.2.1 hok.2.2.2
  | dec q app r u rm => exact uinv_decreaseM h q app r u rm hok.1 hok.2

theorem uinv_run : ∀ (ops : List Op) (s : Mgr × List (String × Alloc)), UInv s.1.users s.2 → mHistOk s ops →
    UInv (ops.foldl mStep s).1.users (ops.foldl mStep s).2 :=
  foldl_hist (fun _ _ _ h => h) (fun _ op h hok => uinv_mStep h op hok)

theorem uinv_empty : UInv ({} : Mgr).users [] :=
  ⟨fun u ut h => (by cases h), fun u _ => rfl, fun e he => (by cases he)⟩

end Yk.Ugm
