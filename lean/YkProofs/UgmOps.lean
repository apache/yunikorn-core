/- The manager operations of YkModel/Ugm.lean as chains of elementary state changes, each with what it leaves alone, and
   the stability of application → group links (C05). -/
import YkProofs.UgmAcct
namespace Yk.Ugm
open Yk Yk.Res

/-! ### lookups after the elementary state changes -/

theorem aget_updUser (m : Mgr) (u : String) (f : UT → UT) (u' : String) :
    aget (updUser m u f).users u' = if u = u' then (aget m.users u').map f else aget m.users u' :=
  aget_amod m.users u f u'

theorem aget_updGroup (m : Mgr) (g : String) (f : GT → GT) (g' : String) :
    aget (updGroup m g f).groups g' = if g = g' then (aget m.groups g').map f else aget m.groups g' :=
  aget_amod m.groups g f g'

theorem updGroup_of_none {m : Mgr} {g : String} (h : aget m.groups g = none) (f : GT → GT) : updGroup m g f = m := by
  unfold updGroup; rw [amod_of_aget_none h]

theorem aget_ensureUser (m : Mgr) (u u' : String) :
    aget (ensureUser m u).users u' = match aget m.users u' with
      | some ut => some ut | none => if u = u' then some (newUT m) else none := by
  have e : (ensureUser m u).users = if ahas m.users u then m.users else m.users ++ [(u, newUT m)] := by
    unfold ensureUser; split <;> rfl
  rw [e, aget_ensure]; cases aget m.users u' <;> rfl

theorem ensureUser_of_has {m : Mgr} {u : String} (h : ahas m.users u = true) : ensureUser m u = m := by
  unfold ensureUser; rw [if_pos h]

theorem ensureUser_frame (m : Mgr) (u : String) :
    (ensureUser m u).groups = m.groups ∧ (ensureUser m u).userWild = m.userWild ∧
    (ensureUser m u).confGroups = m.confGroups ∧ (ensureUser m u).groupWild = m.groupWild := by
  unfold ensureUser; split <;> exact ⟨rfl, rfl, rfl, rfl⟩

theorem has_user_after_ensureUser (m : Mgr) (u : String) : ahas (ensureUser m u).users u = true := by
  rw [ahas_eq, aget_ensureUser]; cases aget m.users u <;> simp

/-! ### the manager operations as chains of elementary state changes -/

theorem guard_false {q : Path} {app u : String} (hq : q ≠ []) (happ : app ≠ "") (hu : u ≠ "") :
    (q.isEmpty || app == "" || u == "") = false := by
  simp [hq, happ, hu]

/-- the callers' test in front of ensureGroupTrackerForApp repeats its own first line -/
theorem eGTFA_absorb (m : Mgr) (q : Path) (app u : String) (ugs : List String) :
    (if hasGroupForApp m u app then m else ensureGroupTrackerForApp m q app u ugs) = ensureGroupTrackerForApp m q app u ugs := by
  unfold ensureGroupTrackerForApp
  split <;> rfl

/-- the user half of Headroom and CanRunApp -/
def touchUser (m : Mgr) (q : Path) (app u : String) (ugs : List String) : Mgr :=
  ensureGroupTrackerForApp
    (updUser (ensureUser m u) u (fun ut => { ut with qt := ensurePath (ensureUser m u).userWild true ut.qt q })) q app u ugs

/-- the state Headroom and CanRunApp leave -/
def touchM (m : Mgr) (q : Path) (app u : String) (ugs : List String) : Mgr :=
  let m3 := touchUser m q app u ugs
  if groupForApp m3 u app == "" then m3
  else updGroup m3 (groupForApp m3 u app) (fun gt => { gt with qt := ensurePath [] false gt.qt q })

/-- the group half of Headroom and CanRunApp, whatever they answer: a missing group tracker is left missing (the answers:
    `touchGroup_snd`, `headroomM_snd`, `canRunM_snd` in UgmEnforce.lean) -/
theorem touchGroup_fst {γ : Type} (m : Mgr) (g : String) (f : GT → GT) (a : γ) (b : GT → γ) :
    (if g == "" then (m, a) else match aget m.groups g with | none => (m, a) | some gt => (updGroup m g f, b gt)).1 =
      if g == "" then m else updGroup m g f := by
  split
  · rfl
  · split
    · rename_i h; exact (updGroup_of_none h f).symm
    · rfl

theorem headroomM_fst (m : Mgr) (q : Path) (app u : String) (ugs : List String) :
    (headroomM m q app u ugs).1 = touchM m q app u ugs := by
  unfold headroomM
  refine (touchGroup_fst _ _ _ _ _).trans ?_
  rw [eGTFA_absorb]
  rfl

theorem canRunM_fst (m : Mgr) (q : Path) (app u : String) (ugs : List String) :
    (canRunM m q app u ugs).1 = touchM m q app u ugs := by
  unfold canRunM
  refine (touchGroup_fst _ _ _ _ _).trans ?_
  rw [eGTFA_absorb]
  rfl

theorem touchM_users (m : Mgr) (q : Path) (app u : String) (ugs : List String) :
    (touchM m q app u ugs).users = (touchUser m q app u ugs).users := by
  simp only [touchM]
  split <;> rfl

def bookUser (m : Mgr) (q : Path) (app : String) (r : Res) (u : String) (ugs : List String) : Mgr :=
  let m2 := ensureGroupTrackerForApp (ensureUser m u) q app u ugs
  updUser m2 u (fun ut => { ut with qt := increase m2.userWild true ut.qt q app r })

theorem increaseM_eq {q : Path} {app u : String} (hg : (q.isEmpty || app == "" || u == "") = false) (m : Mgr) (r : Res)
    (ugs : List String) :
    increaseM m q app r u ugs =
      if groupForApp (bookUser m q app r u ugs) u app == "" then bookUser m q app r u ugs
      else updGroup (bookUser m q app r u ugs) (groupForApp (bookUser m q app r u ugs) u app)
        (fun gt => { qt := increase [] false gt.qt q app r, apps := aset gt.apps app u }) := by
  unfold increaseM
  simp only [hg, Bool.false_eq_true, if_false, eGTFA_absorb]
  rfl

theorem increaseM_users {q : Path} {app u : String} (hg : (q.isEmpty || app == "" || u == "") = false) (m : Mgr) (r : Res)
    (ugs : List String) : (increaseM m q app r u ugs).users = (bookUser m q app r u ugs).users := by
  rw [increaseM_eq hg]
  split <;> rfl

def decUserM (m : Mgr) (u : String) (ut : UT) (q : Path) (app : String) (r : Res) (rm : Bool) : Mgr :=
  if (decrease ut.qt q app r rm).2 then { m with users := adel m.users u }
  else { m with users := aset m.users u ⟨(decrease ut.qt q app r rm).1, if rm then adel ut.appGroups app else ut.appGroups⟩ }

def decGroupM (m : Mgr) (g : String) (q : Path) (app : String) (r : Res) (rm : Bool) : Mgr :=
  match aget m.groups g with
  | none => m
  | some gt =>
    if (decrease gt.qt q app r rm).2 then { m with groups := adel m.groups g }
    else { m with groups := aset m.groups g ⟨(decrease gt.qt q app r rm).1, if rm then adel gt.apps app else gt.apps⟩ }

theorem decreaseM_eq {m : Mgr} {q : Path} {app u : String} (hg : (q.isEmpty || app == "" || u == "") = false) {ut : UT}
    (hut : aget m.users u = some ut) (r : Res) (rm : Bool) :
    decreaseM m q app r u rm =
      if groupForApp m u app == "" then decUserM m u ut q app r rm
      else decGroupM (decUserM m u ut q app r rm) (groupForApp m u app) q app r rm := by
  unfold decreaseM
  rw [hg, hut]
  rfl

theorem aget_decUserM (m : Mgr) (u : String) (ut : UT) (q : Path) (app : String) (r : Res) (rm : Bool) (u' : String) :
    aget (decUserM m u ut q app r rm).users u' =
      if u = u' then
        if (decrease ut.qt q app r rm).2 then none
        else some ⟨(decrease ut.qt q app r rm).1, if rm then adel ut.appGroups app else ut.appGroups⟩
      else aget m.users u' := by
  unfold decUserM
  split
  · rw [aget_adel]
  · rw [aget_aset]

theorem decGroupM_users (m : Mgr) (g : String) (q : Path) (app : String) (r : Res) (rm : Bool) :
    (decGroupM m g q app r rm).users = m.users := by
  unfold decGroupM
  split
  · rfl
  · split <;> rfl

theorem decreaseM_users_of {m : Mgr} {q : Path} {app u : String} (hg : (q.isEmpty || app == "" || u == "") = false) {ut : UT}
    (hut : aget m.users u = some ut) (r : Res) (rm : Bool) :
    (decreaseM m q app r u rm).users = (decUserM m u ut q app r rm).users := by
  rw [decreaseM_eq hg hut]
  split
  · rfl
  · exact decGroupM_users _ _ _ _ _ _

theorem decreaseM_users (m : Mgr) (q : Path) (app : String) (r : Res) (u : String) (rm : Bool) :
    (decreaseM m q app r u rm).users = m.users ∨
      ∃ ut, aget m.users u = some ut ∧ (decreaseM m q app r u rm).users = (decUserM m u ut q app r rm).users := by
  by_cases hg : (q.isEmpty || app == "" || u == "") = true
  · left; unfold decreaseM; rw [if_pos hg]
  · cases hut : aget m.users u with
    | none => left; unfold decreaseM; rw [if_neg hg, hut]
    | some ut => exact Or.inr ⟨ut, rfl, decreaseM_users_of (by simpa using hg) hut r rm⟩

theorem decGroupM_frame (m : Mgr) (g : String) (q : Path) (app : String) (r : Res) (rm : Bool) :
    (decGroupM m g q app r rm).confGroups = m.confGroups ∧ (decGroupM m g q app r rm).groupWild = m.groupWild := by
  unfold decGroupM
  split
  · exact ⟨rfl, rfl⟩
  · split <;> exact ⟨rfl, rfl⟩

theorem decUserM_frame (m : Mgr) (u : String) (ut : UT) (q : Path) (app : String) (r : Res) (rm : Bool) :
    (decUserM m u ut q app r rm).groups = m.groups ∧ (decUserM m u ut q app r rm).confGroups = m.confGroups ∧
    (decUserM m u ut q app r rm).groupWild = m.groupWild := by
  unfold decUserM
  split <;> exact ⟨rfl, rfl, rfl⟩

theorem eGTFA_users (m : Mgr) (q : Path) (app u : String) (ugs : List String) :
    ∃ f : UT → UT, (∀ ut, (f ut).qt = ut.qt) ∧ (ensureGroupTrackerForApp m q app u ugs).users = amod m.users u f := by
  unfold ensureGroupTrackerForApp
  split
  · exact ⟨id, fun _ => rfl, (amod_id _ _).symm⟩
  · simp only
    split
    · refine ⟨_, ?_, rfl⟩; intro ut; rfl
    · refine ⟨_, ?_, rfl⟩; intro ut; rfl

theorem eGTFA_frame (m : Mgr) (q : Path) (app u : String) (ugs : List String) :
    (ensureGroupTrackerForApp m q app u ugs).confGroups = m.confGroups ∧
    (ensureGroupTrackerForApp m q app u ugs).groupWild = m.groupWild ∧
    (ensureGroupTrackerForApp m q app u ugs).userWild = m.userWild := by
  unfold ensureGroupTrackerForApp
  split
  · exact ⟨rfl, rfl, rfl⟩
  · simp only; split <;> exact ⟨rfl, rfl, rfl⟩

theorem eGTFA_groups_cases (m : Mgr) (q : Path) (app u : String) (ugs : List String) :
    (ensureGroupTrackerForApp m q app u ugs).groups = m.groups ∨
    (ensureGroup m ugs q ≠ "" ∧ ahas m.groups (ensureGroup m ugs q) = false ∧
      (ensureGroupTrackerForApp m q app u ugs).groups = m.groups ++ [(ensureGroup m ugs q, newGT)]) := by
  unfold ensureGroupTrackerForApp
  split
  · exact Or.inl rfl
  · dsimp only
    split
    · rename_i hc
      simp only [Bool.and_eq_true, bne_iff_ne, ne_eq, Bool.not_eq_true'] at hc
      exact Or.inr ⟨hc.1, hc.2, rfl⟩
    · exact Or.inl rfl

theorem ahas_users_eGTFA (m : Mgr) (q : Path) (app u : String) (ugs : List String) (u' : String) :
    ahas (ensureGroupTrackerForApp m q app u ugs).users u' = ahas m.users u' := by
  obtain ⟨f, _, e⟩ := eGTFA_users m q app u ugs
  rw [e]; exact ahas_amod _ _ _ _

/-! ### application → group links -/

theorem linkOf_users_eq {m m' : Mgr} {u : String} (h : aget m'.users u = aget m.users u) (app : String) :
    linkOf m' u app = linkOf m u app := by
  unfold linkOf; rw [h]

theorem linkOf_groups_only (m : Mgr) (g : List (String × GT)) (u app : String) :
    linkOf { m with groups := g } u app = linkOf m u app := rfl

theorem hasGroup_linkOf (m : Mgr) (u app : String) : hasGroupForApp m u app = (linkOf m u app).isSome := by
  unfold hasGroupForApp linkOf
  cases aget m.users u <;> rfl

theorem groupForApp_linkOf (m : Mgr) (u app : String) :
    groupForApp m u app = match linkOf m u app with | some (some g) => g | _ => "" := by
  unfold groupForApp linkOf
  cases aget m.users u with
  | none => rfl
  | some ut => rfl

theorem groupForApp_congr {m m' : Mgr} {u app : String} (h : linkOf m' u app = linkOf m u app) :
    groupForApp m' u app = groupForApp m u app := by
  rw [groupForApp_linkOf, groupForApp_linkOf, h]

theorem linkOf_of_groupForApp {m : Mgr} {u app g : String} (h : groupForApp m u app = g) (hne : g ≠ "") :
    linkOf m u app = some (some g) := by
  rw [groupForApp_linkOf] at h
  cases hl : linkOf m u app with
  | none => rw [hl] at h; exact absurd h.symm hne
  | some x =>
    cases x with
    | none => rw [hl] at h; exact absurd h.symm hne
    | some g' => rw [hl] at h; simp only at h; rw [h]

theorem linkOf_ensureUser (m : Mgr) (u0 u app : String) : linkOf (ensureUser m u0) u app = linkOf m u app := by
  unfold linkOf
  rw [aget_ensureUser]
  cases aget m.users u with
  | some ut => rfl
  | none =>
    by_cases e : u0 = u
    · simp [e, newUT, aget_nil]
    · simp [e]

theorem linkOf_updUser_qt (m : Mgr) (u0 : String) (f : UT → UT) (hf : ∀ ut, (f ut).appGroups = ut.appGroups) (u app : String) :
    linkOf (updUser m u0 f) u app = linkOf m u app := by
  unfold linkOf
  rw [aget_updUser]
  by_cases e : u0 = u
  · rw [if_pos e]
    cases aget m.users u with
    | none => rfl
    | some ut => exact congrArg (aget · app) (hf ut)
  · rw [if_neg e]

theorem linkOf_eGTFA (m : Mgr) (q : Path) (app0 u0 : String) (ugs : List String) (u app : String) :
    linkOf (ensureGroupTrackerForApp m q app0 u0 ugs) u app =
      if u0 = u ∧ app0 = app ∧ ahas m.users u0 = true ∧ linkOf m u0 app0 = none
      then some (if ensureGroup m ugs q == "" then none else some (ensureGroup m ugs q))
      else linkOf m u app := by
  unfold ensureGroupTrackerForApp
  rw [hasGroup_linkOf]
  cases h0 : linkOf m u0 app0 with
  | some x => simp
  | none =>
    simp only [Option.isSome_none, Bool.false_eq_true, if_false, and_true]
    generalize (if ensureGroup m ugs q == "" then none else some (ensureGroup m ugs q)) = v
    have hu : ∀ m1 : Mgr, m1.users = m.users →
        linkOf (updUser m1 u0 (fun ut => { ut with appGroups := aset ut.appGroups app0 v })) u app =
          if u0 = u ∧ app0 = app ∧ ahas m.users u0 = true then some v else linkOf m u app := by
      intro m1 h1
      unfold linkOf
      rw [aget_updUser, h1, ahas_eq]
      by_cases e : u0 = u
      · subst e
        cases aget m.users u0 with
        | none => simp
        | some ut => simp [aget_aset]
      · simp [e]
    split
    · exact hu _ rfl
    · exact hu _ rfl

theorem hasGroup_eGTFA {m : Mgr} {u : String} (h : ahas m.users u = true) (q : Path) (app : String) (ugs : List String) :
    hasGroupForApp (ensureGroupTrackerForApp m q app u ugs) u app = true := by
  rw [hasGroup_linkOf, linkOf_eGTFA]
  split
  · rfl
  · rename_i hc
    cases hl : linkOf m u app with
    | none => exact absurd ⟨rfl, rfl, h, hl⟩ hc
    | some x => rfl

theorem linkOf_eGTFA_some {m : Mgr} {u app : String} {x : Option String} (h : linkOf m u app = some x) (q : Path)
    (app0 u0 : String) (ugs : List String) : linkOf (ensureGroupTrackerForApp m q app0 u0 ugs) u app = some x := by
  rw [linkOf_eGTFA, if_neg, h]
  rintro ⟨rfl, rfl, _, hn⟩
  rw [hn] at h; cases h

theorem linkOf_touchM_some {m : Mgr} {u app : String} {x : Option String} (h : linkOf m u app = some x) (q : Path)
    (app0 u0 : String) (ugs : List String) : linkOf (touchM m q app0 u0 ugs) u app = some x := by
  rw [linkOf_users_eq (congrArg (aget · u) (touchM_users m q app0 u0 ugs))]
  apply linkOf_eGTFA_some
  rw [linkOf_updUser_qt, linkOf_ensureUser, h]
  intro ut; rfl

theorem linkOf_bookUser_some {m : Mgr} {u app : String} {x : Option String} (h : linkOf m u app = some x) (q : Path)
    (app0 : String) (r : Res) (u0 : String) (ugs : List String) : linkOf (bookUser m q app0 r u0 ugs) u app = some x := by
  simp only [bookUser]
  rw [linkOf_updUser_qt]
  · apply linkOf_eGTFA_some
    rw [linkOf_ensureUser, h]
  · intro ut; rfl

theorem linkOf_increaseM_some {m : Mgr} {u app : String} {x : Option String} (h : linkOf m u app = some x) (q : Path)
    (app0 : String) (r : Res) (u0 : String) (ugs : List String) : linkOf (increaseM m q app0 r u0 ugs) u app = some x := by
  by_cases hg : (q.isEmpty || app0 == "" || u0 == "") = true
  · unfold increaseM; rw [if_pos hg]; exact h
  · rw [linkOf_users_eq (congrArg (aget · u) (increaseM_users (by simpa using hg) m r ugs))]
    exact linkOf_bookUser_some h q app0 r u0 ugs

/-- a release on a path from the root never answers "remove me" while the root lists an application it does not remove -/
theorem decrease_keeps {t : Tree} {q : Path} (hq : (q.take 1 == rootPath) = true) {n : Node} (hn : aget t rootPath = some n)
    {app app0 : String} (h : app ∈ n.apps) (r : Res) {rm : Bool} (hne : rm = true → app ≠ app0) :
    (decrease t q app0 r rm).2 = false := by
  cases hd : (decrease t q app0 r rm).2 with
  | false => rfl
  | true =>
    obtain ⟨rest, e⟩ := decrease_of_root (by simpa using hq) t app0 r rm
    rw [e] at hd
    obtain ⟨n', hn', hna⟩ := decGo_flag _ _ _ _ _ _ hd
    rw [hn] at hn'; cases hn'
    have := mem_decNode_apps h r hne
    rw [hna] at this; cases this

theorem linkOf_decreaseM (m : Mgr) (q : Path) (app0 : String) (r : Res) (u0 : String) (rm : Bool) (u app : String)
    (x : Option String) (h : linkOf m u app = some x) (htr : trackedApp m u app = true)
    (hq : (q.take 1 == rootPath) = true) (hnot : (rm && u0 == u && app0 == app) = false) :
    linkOf (decreaseM m q app0 r u0 rm) u app = some x := by
  rcases decreaseM_users m q app0 r u0 rm with hus | ⟨ut0, hut0, hus⟩
  · rw [linkOf_users_eq (congrArg (aget · u) hus), h]
  · rw [linkOf_users_eq (congrArg (aget · u) hus)]
    unfold linkOf at h ⊢
    rw [aget_decUserM]
    by_cases eu : u0 = u
    · subst eu
      -- the user's own tracker: it is not removed, and the link of `app` is not the one deleted
      rw [hut0] at h
      unfold trackedApp at htr
      rw [hut0] at htr
      simp only at h htr
      have hne : rm = true → app ≠ app0 := by
        intro hrm e; subst hrm; subst e; simp at hnot
      cases hn : aget ut0.qt rootPath with
      | none => rw [hn] at htr; cases htr
      | some n =>
        rw [hn] at htr
        rw [if_pos rfl, decrease_keeps hq hn (List.contains_iff_mem.mp htr) r hne]
        cases rm with
        | false => exact h
        | true => simp only [Bool.false_eq_true, if_false, if_true, aget_adel, Ne.symm (hne rfl)]; exact h
    · rw [if_neg eu]; exact h

theorem linkOf_back_decreaseM (m : Mgr) (q : Path) (app0 : String) (r : Res) (u0 : String) (rm : Bool) (u app : String)
    (y : Option String) (h : linkOf (decreaseM m q app0 r u0 rm) u app = some y) : linkOf m u app = some y := by
  rcases decreaseM_users m q app0 r u0 rm with hus | ⟨ut0, hut0, hus⟩
  · rw [linkOf_users_eq (congrArg (aget · u) hus)] at h; exact h
  · rw [linkOf_users_eq (congrArg (aget · u) hus)] at h
    unfold linkOf at h ⊢
    rw [aget_decUserM] at h
    by_cases e : u0 = u
    · subst e
      rw [hut0]
      rw [if_pos rfl] at h
      by_cases hd : (decrease ut0.qt q app0 r rm).2 = true
      · simp [hd] at h
      · rw [if_neg hd] at h
        cases rm with
        | false => exact h
        | true =>
          simp only [if_true, aget_adel] at h ⊢
          by_cases ea : app0 = app
          · simp [ea] at h
          · rw [if_neg ea] at h; exact h
    · rw [if_neg e] at h; exact h

/-! ### ensureGroupTrackerForApp gets-or-creates the user tracker: a no-op at every call site

  The model's `ensureGroupTrackerForApp` looks the user tracker up (`updUser` on a missing user changes nothing); the code
  calls `getUserTracker` (get or create; repo fix 0e885b2).  Every caller — Headroom, CanRunApp, IncreaseTrackedResource — has
  run `ensureUser` for the same user just before, so in a single-threaded history the tracker exists and the two agree. -/

theorem has_user_after_updUser (m : Mgr) (u : String) (f : UT → UT) : ahas (updUser (ensureUser m u) u f).users u = true := by
  exact (ahas_amod _ _ _ _).trans (has_user_after_ensureUser m u)

theorem eGTFA_getOrCreate_noop_touch (m : Mgr) (u : String) (f : UT → UT) (q : Path) (app : String) (ugs : List String) :
    ensureGroupTrackerForApp (ensureUser (updUser (ensureUser m u) u f) u) q app u ugs
      = ensureGroupTrackerForApp (updUser (ensureUser m u) u f) q app u ugs := by
  rw [ensureUser_of_has (has_user_after_updUser m u f)]

theorem eGTFA_getOrCreate_noop_inc (m : Mgr) (u : String) (q : Path) (app : String) (ugs : List String) :
    ensureGroupTrackerForApp (ensureUser (ensureUser m u) u) q app u ugs = ensureGroupTrackerForApp (ensureUser m u) q app u ugs := by
  rw [ensureUser_of_has (has_user_after_ensureUser m u)]

end Yk.Ugm
