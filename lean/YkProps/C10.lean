/-
  C10 — Applications follow the documented life cycle (state-machine clauses).
  The transition table and the callback bodies are REGENERATED from application_state.go on every run (T2);
  the theorems below are re-checked against what the source says now.
-/
import YkModel.AppFsm
import YkProofs.Core2LifeProps
namespace Yk.C10
open Yk Yk.Res Yk.Core

/-- tie: the states and events of the source are exactly the ones modelled, every name in the table resolves -/
theorem states_tie :
    Gen.appStates = AppState.all.map AppState.name ∧ Gen.appEvents = [AppEvent.run, .reject, .complete, .fail, .expire, .resume].map AppEvent.name ∧
    (∀ t ∈ Gen.appTransitions, (AppState.ofName t.2.2).isSome = true ∧ (∀ s ∈ t.2.1, (AppState.ofName s).isSome = true) ∧
       AppEvent.all.any (fun e => e.name == t.1) = true) := by decide +kernel

/-- the regenerated table against the documented life cycle, evaluated once over the lists of states and events -/
theorem table_checked :
    (∀ a ∈ AppState.all, ∀ e ∈ AppEvent.all, handle a e = a ∨ documented a (handle a e) = true) ∧
    (∀ a ∈ AppState.all, ∀ b ∈ AppState.all, documented a b = true → ∃ e ∈ AppEvent.all, fire a e = some b) := by
  decide +kernel

/-- every single handled event keeps the state or follows a documented edge (whatever the history) -/
theorem handle_documented (a : AppState) (e : AppEvent) : handle a e = a ∨ documented a (handle a e) = true :=
  table_checked.1 a a.mem_all e e.mem_all

/-- every documented edge is taken by some event -/
theorem documented_fired (a b : AppState) (h : documented a b = true) : ∃ e, fire a e = some b :=
  (table_checked.2 a a.mem_all b b.mem_all h).imp fun _ he => he.2

/-- The state an application reports only ever changes along the documented life cycle, and every documented
    change is possible: for all states a ≠ b, some event moves a to b iff the life cycle documents a → b. -/
theorem table_eq : ∀ a b : AppState, a ≠ b → ((∃ e : AppEvent, fire a e = some b) ↔ documented a b = true) := by
  intro a b hab
  refine ⟨?_, documented_fired a b⟩
  rintro ⟨e, he⟩
  have hh : handle a e = b := by unfold handle; rw [he]; rfl
  rcases handle_documented a e with h | h
  · exact absurd (h.symm.trans hh) hab
  · rw [hh] at h; exact h

/-- the state log of a history of events, starting in state `a` -/
def trace (a : AppState) : List AppEvent → List AppState
  | [] => [a]
  | e :: es => a :: trace (handle a e) es

def chainOK : List AppState → Bool
  | [] => true
  | [_] => true
  | x :: y :: t => (x == y || documented x y) && chainOK (y :: t)

/-- so does every sequence of events: consecutive entries of the state log are repeats or documented edges -/
theorem log_follows (a : AppState) (es : List AppEvent) : chainOK (trace a es) = true := by
  induction es generalizing a with
  | nil => rfl
  | cons e es ih =>
    have h := ih (handle a e)
    have hd : (a == handle a e || documented a (handle a e)) = true := by
      rcases handle_documented a e with h1 | h1 <;> simp [h1]
    cases es with
    | nil => simp only [trace, chainOK, hd, Bool.and_true]
    | cons e' es' =>
      simp only [trace, chainOK] at h ⊢
      rw [hd, h]; rfl

/-- the life cycle documents one edge out of a terminal state, to Expired, and none out of Expired -/
theorem documented_terminal {a b : AppState} (ha : a ∈ [AppState.completed, .failed, .rejected, .expired])
    (h : documented a b = true) : a ≠ .expired ∧ b = .expired :=
  (by decide +kernel : ∀ a ∈ [AppState.completed, .failed, .rejected, .expired], ∀ b ∈ AppState.all,
    documented a b = true → a ≠ .expired ∧ b = .expired) a ha b b.mem_all h

/-- terminal states (Completed, Failed, Rejected) only move to Expired; Expired moves nowhere -/
theorem terminal_only_expires (e : AppEvent) :
    (handle .completed e = .completed ∨ handle .completed e = .expired) ∧
    (handle .failed e = .failed ∨ handle .failed e = .expired) ∧
    (handle .rejected e = .rejected ∨ handle .rejected e = .expired) ∧ handle .expired e = .expired :=
  ⟨(handle_documented .completed e).imp_right fun h => (documented_terminal (by decide) h).2,
   (handle_documented .failed e).imp_right fun h => (documented_terminal (by decide) h).2,
   (handle_documented .rejected e).imp_right fun h => (documented_terminal (by decide) h).2,
   (handle_documented .expired e).elim id fun h => absurd rfl (documented_terminal (by decide) h).1⟩

/-- Callbacks (regenerated): the running counter of the queue is incremented exactly when Running is entered from
    another state and decremented exactly when it is left for another state, by no other callback;
    terminated applications (Completed, Failed) run the terminated callback (leave the queue) and drop their asks;
    Completing arms the timer that completes the application undisturbed. -/
theorem callbacks_tie :
    callbackCalls "enter_Running" = [("incRunningApps", "event.Src != Running")] ∧
    callbackCalls "leave_Running" = [("decRunningApps", "event.Dst != Running")] ∧
    (∀ c ∈ Gen.appCallbacks, c.1 ≠ "enter_Running" → c.1 ≠ "leave_Running" →
        ∀ call ∈ c.2, call.1 ≠ "incRunningApps" ∧ call.1 ≠ "decRunningApps") ∧
    ("executeTerminatedCallback", "") ∈ callbackCalls "enter_Completed" ∧ ("cleanupAsks", "") ∈ callbackCalls "enter_Completed" ∧
    ("clearPlaceholderTimer", "") ∈ callbackCalls "enter_Completed" ∧
    ("executeTerminatedCallback", "") ∈ callbackCalls "enter_Failed" ∧ ("cleanupAsks", "") ∈ callbackCalls "enter_Failed" ∧
    callbackCalls "enter_Completing" = [("setStateTimer(completingTimeout,CompleteApplication)", "")] ∧
    callbackCalls "leave_state" = [("clearStateTimer", "")] := by decide +kernel

example : fire .completing .run = some .running ∧ fire .running .run = some .running ∧ fire .completed .run = none := by
  decide +kernel

/-! ### the state follows the ledger (stepped Core model, YkModel/CoreOps*.lean, compared with the real core line by line)

`CoreInv s` = `CoreWF ∧ Books ∧ Linked ∧ LifeInv` (YkProofs/Core2Life.lean), `RunLifeOK`: every step meets `Op.ok2` and
`Op.okLife` (YkProofs/Core2LifeRun.lean). -/

/-- An ask that arrives at a Completing application moves it back to Running (and a New one to Accepted). -/
theorem ask_on_completing_runs (s : Core) (app key : String) (res : Res) (ph : Bool) (tg reqNode : String) (a : CApp)
    (hfind : s.findApp app = some a) (hst : a.state = "Completing")
    (hres : strictlyGreaterThanZero (some res) = true) (hnew : a.items.any (fun i => i.key == key && i.inReq) = false) :
    (s.ask app key res ph tg reqNode).2 = true ∧
    ∃ a', (s.ask app key res ph tg reqNode).1.findApp app = some a' ∧ a'.state = "Running" := by
  obtain ⟨h1, a', h2, h3⟩ := ask_accepted_state s app key res ph tg reqNode a hfind hres hnew
  exact ⟨h1, a', h2, by rw [h3, hst, if_pos (by decide)]; exact fireState_completing_run⟩

/-- An application with neither asks nor allocations does not stay Accepted / Running: when its last real allocation,
    its last placeholder (not a confirmed replacement: the real allocation follows) or its last ask goes it becomes
    Completing. -/
theorem idle_becomes_completing (tt : TermType) (key : String) (i x : CItem) (a : CApp)
    (hst : a.state = "Accepted" ∨ a.state = "Running") :
    (i.ph = false → isZero (some a.pending) = true → isZero (some (relAppT tt key i a).allocated) = true →
      (relAppT tt key i a).state = "Completing") ∧
    (i.ph = true → isZero (some (relAppT tt key i a).allocatedPh) = true → isZero (some a.pending) = true →
      isZero (some a.allocated) = true → (tt ≠ .replaced ∨ i.release = none) → (relAppT tt key i a).state = "Completing") ∧
    (isZero (some (askAppT key x a).pending) = true → isZero (some a.allocated) = true →
      (askAppT key x a).items.any (fun y => y.bound && y.ph) = false → (askAppT key x a).state = "Completing") :=
  by
  refine ⟨fun hph hp hz => ?_, fun hph hz hp hr hrepl => ?_, fun hp hr hnoph => ?_⟩
  · rw [relAppT_allocated, if_neg (by rw [hph]; exact Bool.false_ne_true)] at hz
    rw [LifeB.relAppT_state]
    unfold LifeB.relSt
    rcases hst with h | h <;> simp [hph, hz, hp, h, Life.fireState_complete]
  · rw [relAppT_allocatedPh, if_pos hph] at hz
    have hnr : (tt == TermType.replaced && i.release.isSome) = false := by
      rcases hrepl with h | h
      · have : (tt == TermType.replaced) = false := by simpa using h
        rw [this]; rfl
      · rw [h]; simp
    rw [LifeB.relAppT_state]
    unfold LifeB.relSt
    rcases hst with h | h <;> simp [hph, hz, hp, hr, hnr, h, Life.fireState_complete]
  · rw [LifeB.askAppT_state_eq]
    rcases hst with h | h <;> simp [hp, hr, hnoph, h, Life.fireState_complete]

/-- Terminated applications leave the partition, and a Completed application holds no real allocation — along every
    history of the stepped model (also in the step that confirms a placeholder swap: fix 3b9e769). -/
theorem terminated_leave_and_completed_hold_nothing (s : Core) (ops : List Op) (h : CoreInv s) (hok : RunLifeOK s ops) :
    (∀ a ∈ (run s ops).apps, a.live = true → terminated a.state = false) ∧
    (∀ a ∈ (run s ops).apps, a.state = "Completed" → ∀ i ∈ a.items, i.bound = true → i.ph = true) ∧
    (∀ a ∈ (run s ops).apps, a.state = "Completed" → ∀ i ∈ a.items, i.bound = true → i.ph = false) :=
  let r := (reachable_life s ops h hok).life
  ⟨r.termGone, r.completedNoReal, fun a ha hst => r.noPhOrphan a ha (Or.inr (by rw [hst]; decide))⟩

/-- A Completing application holds no real allocation (a real allocation moves it back to Running). -/
theorem completing_holds_no_real_allocation (s : Core) (ops : List Op) (h : CoreInv s) (hok : RunLifeOK s ops) :
    ∀ a ∈ (run s ops).apps, a.live = true → a.state = "Completing" → ∀ i ∈ a.items, i.bound = true → i.ph = true :=
  (reachable_life s ops h hok).life.completingNoReal

/-- An application with outstanding asks is neither Completing nor Completed — along every history of the stepped model,
    also when a node removal rolls back a placeholder swap in flight: `Application.DeallocateAsk` moves a Completing
    application back to Running, as `AddAllocationAsk` does for a new ask (fix 20ee082; KNOWN_FINDINGS, `fixed:` under
    C10, class C10.completing-with-pending-ask+swap-rolled-back-by-node-removal).  The history `Example.exOpsC10b` is the
    case in which the statement rests on that move: a node is removed while a swap of the application is in flight on
    it; its real allocation on the node goes first (the application becomes Completing: the real ask of the swap counts
    as allocated), then the swap is rolled back (the ask is outstanding again, and the application runs again).  A record
    that stayed Completing there would be completed with the ask outstanding: the state timer asks for the remaining
    placeholder back and the confirmation of that release completes the application whatever is pending
    (`state_timer_completes_regardless_of_asks` is the timer's half of it). -/
theorem outstanding_ask_not_completed (s : Core) (ops : List Op) (h : CoreInv s) (hp : NoPendInv s)
    (hok : RunLifeOK s ops) :
    (∀ a ∈ (run s ops).apps, a.live = true → a.state = "Completing" → ∀ i ∈ a.items, i.outstanding = false) ∧
    (∀ a ∈ (run s ops).apps, a.state = "Completed" → ∀ i ∈ a.items, i.outstanding = false) :=
  let r := reachable_nopend s ops h hp hok; ⟨r.completingNoPending, r.completedNoAsk⟩

/-- `_partial` (the form that does not depend on fix 20ee082): the same along the histories in which no node removal
    touches an application with a placeholder swap in flight (`RunNoRollback`: `NoRollback s id order` at every
    `nodeRemove`).  A corollary of `outstanding_ask_not_completed`: the side condition is not used. -/
theorem outstanding_ask_not_completed_partial (s : Core) (ops : List Op) (h : CoreInv s) (hp : NoPendInv s)
    (hok : RunLifeOK s ops) (_hnr : RunNoRollback s ops) :
    (∀ a ∈ (run s ops).apps, a.live = true → a.state = "Completing" → ∀ i ∈ a.items, i.outstanding = false) ∧
    (∀ a ∈ (run s ops).apps, a.state = "Completed" → ∀ i ∈ a.items, i.outstanding = false) :=
  outstanding_ask_not_completed s ops h hp hok

/-- The step that does it: the application record after `DeallocateAsk` (`deallocAppRun`: the ask `key` outstanding
    again, the replacement link to `other` cleared on both sides) is never Completing, and is Running when it was
    Completing. -/
theorem dealloc_ask_runs_again (key other : String) (r : CItem) (a : CApp) :
    (deallocAppRun key other r a).state ≠ "Completing" ∧
    (a.state = "Completing" → (deallocAppRun key other r a).state = "Running") ∧
    (a.state ≠ "Completing" → (deallocAppRun key other r a).state = a.state) := by
  have hs : (deallocApp key other r a).state = a.state := rfl
  refine ⟨runAgain_state_ne _, fun h => ?_, fun h => ?_⟩
  · show (runAgain (deallocApp key other r a)).state = "Running"
    rw [runAgain_state, if_pos (hs.trans h)]
  · show (runAgain (deallocApp key other r a)).state = a.state
    rw [runAgain_state, if_neg (fun e => h (hs.symm.trans e))]; rfl

/-- The state timer completes a Completing application without placeholders whatever its pending total (the step that
    would turn "Completing with an outstanding ask" into "Completed with an outstanding ask"; by
    `outstanding_ask_not_completed` a reachable Completing application has no outstanding ask). -/
theorem state_timer_completes_regardless_of_asks (s : Core) (app : String) (a : CApp) (hw : CoreWF s)
    (hfind : s.findApp app = some a) (hst : a.state = "Completing") (hph : isZero (some a.allocatedPh) = true) :
    (s.stateTimeout app).findApp app = none ∧
    ∃ a' ∈ (s.stateTimeout app).apps, a'.id = app ∧ a'.live = false ∧ a'.state = "Completed" ∧ a'.pending = a.pending :=
  by
  have sh := shape_stateTimeout_done s app a hw hfind hst hph
  exact ⟨sh.find_after_none hw rfl, _, sh.mem_after, (setState_id a _).trans sh.mem.2.2, rfl, setState_state a _,
    setState_pending a _⟩

/-- non-vacuity: the hypotheses are met by the empty partition `ex0` with the history `exOpsC10b`, whose node removal does
    roll a swap back: right before it the application is Running with nothing pending and the swap in flight (items
    with a release link); right after it the application is Running again — having passed through Completing inside the
    removal, as its state log shows — with the ask `r1` outstanding; at the end of the history (state timer, release of
    the last placeholder) it is still live and Running, neither Completing nor Completed.  (`exOps` — placeholder bound,
    swapped, released, node removed — also meets `RunNoRollback`, the side condition of the `_partial` form.) -/
example : CoreInv Example.ex0 ∧ NoPendInv Example.ex0 ∧ RunLifeOK Example.ex0 Example.exOpsC10b ∧
    (∃ a, (run Example.ex0 (Example.exOpsC10b.take 11)).findApp "app" = some a ∧ a.state = "Running" ∧ a.pending = [] ∧
      ∃ i ∈ a.items, i.release ≠ none) ∧
    (∃ a, (run Example.ex0 (Example.exOpsC10b.take 12)).findApp "app" = some a ∧ a.state = "Running" ∧
      a.log = ["Accepted", "Running", "Completing", "Running"] ∧ a.pending = [("cpu", 2)] ∧ a.allocatedPh = [("cpu", 2)] ∧
      ∃ i ∈ a.items, i.key = "r1" ∧ i.outstanding = true) ∧
    (∃ a, (run Example.ex0 Example.exOpsC10b).findApp "app" = some a ∧ a.state = "Running" ∧ a.pending = [("cpu", 2)] ∧
      a.allocatedPh = [] ∧ ∃ i ∈ a.items, i.key = "r1" ∧ i.outstanding = true) ∧
    RunLifeOK Example.ex0 Example.exOps ∧ RunNoRollback Example.ex0 Example.exOps :=
  ⟨Example.coreInv_ex0, Example.noPendInv_ex0, Example.exOpsC10b_life, Example.exC10b_before,
   Example.exC10b_after_removal, Example.exC10b_end, Example.exOps_life, Example.exOps_noRollback⟩

end Yk.C10
