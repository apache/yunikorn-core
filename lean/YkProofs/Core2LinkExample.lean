/-
  Non-vacuity of `reachable_linked`: the example histories of YkProofs/Core2Example.lean meet the REDUCED side condition
  (`RunOK2`, evaluated by the checkers of YkProofs/Core2LinkCheck.lean) from the empty partition, which is `Linked`; a third
  history runs a CROSS-NODE replacement — the placeholder is bound on `n1`, the real allocation is parked on `n2` when the
  swap starts (`SwapLinkOK.parked` is exercised by the confirmation), the confirmation empties `n1`.
  `exOps_ok2` and `exOps2_ok2` run `exOps` / `exOps2` for `runOKb2`; the run for `runOKb`, with the observations of the
  states, is `exOps_evaluated` / `exOps2_evaluated` of YkProofs/Core2Example.lean.
-/
import YkProofs.Core2Example
import YkProofs.Core2LinkCheck
namespace Yk.Example
open Yk Yk.Res Yk.Core

theorem linked_ex0 : Linked ex0 := fun _ ha => by cases ha

theorem exOps_ok2 : RunOK2 ex0 exOps := runOKb2_sound _ _ (by decide +kernel)

theorem example_reachable_linked : Books (run ex0 exOps) ∧ CoreWF (run ex0 exOps) ∧ Linked (run ex0 exOps) :=
  reachable_linked ex0 exOps wf_ex0 books_ex0 linked_ex0 exOps_ok2

theorem exOps2_ok2 : RunOK2 ex0 exOps2 := runOKb2_sound _ _ (by decide +kernel)

theorem example2_reachable_linked : Books (run ex0 exOps2) ∧ CoreWF (run ex0 exOps2) ∧ Linked (run ex0 exOps2) :=
  reachable_linked ex0 exOps2 wf_ex0 books_ex0 linked_ex0 exOps2_ok2

/-! ### a third history: cross-node replacement.  `n1` (cpu 4) is filled by the placeholder, the real allocation (cpu 2)
  is placed on `n2` (cpu 10) -/

def c1 : Op := .nodeCreate "n1" [("cpu", 4)] true
def c2 : Op := .nodeCreate "n2" [("cpu", 10)] true
def c3 : Op := .appAdd (some exApp) []
def c4 : Op := .ask "app" "p1" [("cpu", 4)] true "tg" ""
def c5 : Op := .schedAlloc "app" "p1" "n1"
def c6 : Op := .ask "app" "r1" [("cpu", 2)] false "tg" ""
def c7 : Op := .swapStart "app" "r1" "p1" "n2"
def c8 : Op := .swapConfirm "app" "p1"
def c9 : Op := .release .stopped "app" "r1"

def t1 := c1.apply ex0
def t2 := c2.apply t1
def t3 := c3.apply t2
def t4 := c4.apply t3
def t5 := c5.apply t4
def t6 := c6.apply t5
def t7 := c7.apply t6
def t8 := c8.apply t7
def t9 := c9.apply t8

def exOps3 : List Op := [c1, c2, c3, c4, c5, c6, c7, c8, c9]

/-- The third history is run three times (inside one theorem each state is computed once, see `exOps_evaluated`; one
    conjunction of everything is too large for instance synthesis): here the side conditions and the end, in
    `t7_observed` nodes and queues up to the start of the swap, in `t8_observed` the application then and everything
    after the confirmation. -/
theorem exOps3_evaluated : runOKb2 ex0 exOps3 = true ∧ runOKb ex0 exOps3 = true ∧
    ((t9.nodes.map (·.allocated)) = [[], []] ∧ (t9.nodes.map (·.allocs.length)) = [0, 0]) ∧
    ((t9.queues.map (·.allocated)) = [[], []] ∧ (t9.queues.map (·.pending)) = [[], []]) := by decide +kernel

theorem t7_observed :
    (t4.schedAlloc "app" "p1" "n1").isSome = true ∧
    (t6.swapStart "app" "r1" "p1" "n2").isSome = true ∧
    ((t5.nodes.map (·.allocated)) = [[("cpu", 4)], []] ∧ (t5.nodes.map (·.available)) = [[], [("cpu", 10)]]) ∧
    (t7.nodes.map (·.allocated)) = [[("cpu", 4)], [("cpu", 2)]] ∧
    (t7.nodes.map (fun n => n.allocs.map (fun x => (x.key, x.app)))) = [[("p1", "app")], [("r1", "app")]] ∧
    ((t7.queues.map (·.allocated)) = [[("cpu", 4)], [("cpu", 4)]] ∧ (t7.queues.map (·.pending)) = [[], []]) := by
  decide +kernel

theorem t8_observed :
    (t7.apps.map (fun a => a.items.map (fun i => (i.key, i.node, i.allocated, i.bound))) =
        [[("p1", "n1", true, true), ("r1", "n2", true, false)]] ∧
      t7.apps.map (fun a => a.items.map (·.release)) = [[some "r1", some "p1"]]) ∧
    (t7.apps.map (fun a => a.items.map (fun i => onNodeAppb t7 a.id i))) = [[true, true]] ∧
    (t8.nodes.map (·.allocated)) = [[], [("cpu", 2)]] ∧
    (t8.queues.map (·.allocated)) = [[("cpu", 2)], [("cpu", 2)]] ∧
    t8.apps.map (fun a => a.items.map (fun i => (i.key, i.node, i.bound))) = [[("r1", "n2", true)]] ∧
    (t8.allocations = 1 ∧ t8.phAllocations = 0) ∧
    linkedb t8 = true := by decide +kernel

theorem exOps3_ok2 : RunOK2 ex0 exOps3 := runOKb2_sound _ _ exOps3_evaluated.1

theorem example3_reachable_linked : Books (run ex0 exOps3) ∧ CoreWF (run ex0 exOps3) ∧ Linked (run ex0 exOps3) :=
  reachable_linked ex0 exOps3 wf_ex0 books_ex0 linked_ex0 exOps3_ok2

theorem exOps3_ok : RunOK ex0 exOps3 := runOKb_sound _ _ exOps3_evaluated.2.1

theorem run_exOps3 : run ex0 exOps3 = t9 :=
  run_cons_eq t1 rfl <| run_cons_eq t2 rfl <| run_cons_eq t3 rfl <| run_cons_eq t4 rfl <| run_cons_eq t5 rfl <|
  run_cons_eq t6 rfl <| run_cons_eq t7 rfl <| run_cons_eq t8 rfl <| run_cons_eq t9 rfl <| run_nil t9

/-- the steps are not no-ops: `schedAlloc` and `swapStart` succeed -/
theorem t5_some : (t4.schedAlloc "app" "p1" "n1").isSome = true := t7_observed.1
theorem t7_some : (t6.swapStart "app" "r1" "p1" "n2").isSome = true := t7_observed.2.1

theorem t5_nodes : (t5.nodes.map (·.allocated)) = [[("cpu", 4)], []] ∧
    (t5.nodes.map (·.available)) = [[], [("cpu", 10)]] := t7_observed.2.2.1

/-- after the swap is started the real half is parked on `n2` (node-side only), the queues still carry the placeholder -/
theorem t7_nodes : (t7.nodes.map (·.allocated)) = [[("cpu", 4)], [("cpu", 2)]] := t7_observed.2.2.2.1
theorem t7_n2_allocs : (t7.nodes.map (fun n => n.allocs.map (fun x => (x.key, x.app)))) = [[("p1", "app")], [("r1", "app")]] :=
  t7_observed.2.2.2.2.1
theorem t7_queues : (t7.queues.map (·.allocated)) = [[("cpu", 4)], [("cpu", 4)]] ∧
    (t7.queues.map (·.pending)) = [[], []] := t7_observed.2.2.2.2.2
theorem t7_items : t7.apps.map (fun a => a.items.map (fun i => (i.key, i.node, i.allocated, i.bound))) =
    [[("p1", "n1", true, true), ("r1", "n2", true, false)]] ∧
    t7.apps.map (fun a => a.items.map (·.release)) = [[some "r1", some "p1"]] := t8_observed.1
/-- the side condition of the confirmation is met in the cross-node case because the real half is listed by `n2` -/
theorem t7_parked : (t7.apps.map (fun a => a.items.map (fun i => onNodeAppb t7 a.id i))) = [[true, true]] :=
  t8_observed.2.1

/-- after the confirmation `n1` is empty, `n2` and the queues carry the (smaller) real allocation -/
theorem t8_nodes : (t8.nodes.map (·.allocated)) = [[], [("cpu", 2)]] := t8_observed.2.2.1
theorem t8_queues : (t8.queues.map (·.allocated)) = [[("cpu", 2)], [("cpu", 2)]] := t8_observed.2.2.2.1
theorem t8_items : t8.apps.map (fun a => a.items.map (fun i => (i.key, i.node, i.bound))) = [[("r1", "n2", true)]] :=
  t8_observed.2.2.2.2.1
theorem t8_counters : t8.allocations = 1 ∧ t8.phAllocations = 0 := t8_observed.2.2.2.2.2.1
theorem t8_linked : linkedb t8 = true := t8_observed.2.2.2.2.2.2

theorem t9_nodes : (t9.nodes.map (·.allocated)) = [[], []] ∧ (t9.nodes.map (·.allocs.length)) = [0, 0] :=
  exOps3_evaluated.2.2.1
theorem t9_queues : (t9.queues.map (·.allocated)) = [[], []] ∧ (t9.queues.map (·.pending)) = [[], []] :=
  exOps3_evaluated.2.2.2

end Yk.Example
