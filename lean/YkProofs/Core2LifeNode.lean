/-
  Life-cycle invariants (YkProofs/Core2Life.lean) along a node removal (`nodeRemove`): the fold over the reservations of
  the node, the loop over its allocations (`nodeRmAlloc`) and dropping the node.  Inside the loop an application that has
  just terminated is still listed as live, so the invariant of the loop is `LifeCore`; the sweep of the terminated
  applications that turns it into `LifeInv` again is in YkProofs/Core2LifeApp.lean.

  The loop rewrites single application records in four ways (`nodeRmApp`, `confirmApp`, `unlinkApp`, `deallocAppRun`);
  `nodeRmAlloc_forall` carries any clause about single records that these four keep through a round.
-/
import YkProofs.Core2LifeRel
namespace Yk
open Res Core

namespace LifeD

/-! ### the clause about asks for one record inside the loop (`AppNoPendMid`) -/

theorem appMid_of_sub {a b : CApp} (hl : b.live = a.live) (hs : b.state = a.state)
    (hi : ∀ y ∈ b.items, ∃ x ∈ a.items, y.outstanding = x.outstanding) (h : AppNoPendMid a) : AppNoPendMid b := by
  refine ⟨?_, ?_⟩
  · intro hlb hsb y hy
    obtain ⟨x, hx, ho⟩ := hi y hy
    rw [ho]; exact h.completingNoPending (hl ▸ hlb) (hs ▸ hsb) x hx
  · intro hlb hsb y hy
    obtain ⟨x, hx, ho⟩ := hi y hy
    rw [ho]; exact h.completedNoAsk (hl ▸ hlb) (hs ▸ hsb) x hx

theorem appMid_of_live {a : CApp} (hl : a.live = true)
    (h : a.state = "Completing" → ∀ i ∈ a.items, i.outstanding = false) : AppNoPendMid a :=
  ⟨fun _ => h, fun hf => by rw [hl] at hf; cases hf⟩

/-- Stated about a variable `x` on purpose: with `appMid_of_live` inlined at `confirmApp i r a`, the `rfl` for `live = true`
    unfolds `replApp` and is slow to check. -/
theorem appMid_keptLive {x : CApp} (h : x.state = "Completing" → ∀ i ∈ x.items, i.outstanding = false) :
    AppNoPendMid { x with live := true } :=
  appMid_of_live rfl h

theorem forall_updApp {P : CApp → Prop} (c : Core) (app : String) (f : CApp → CApp) (h : ∀ x ∈ c.apps, P x)
    (hf : ∀ x, x.live = true → P x → P (f x)) : ∀ b ∈ (updApp c app f).apps, P b := by
  intro b hb
  obtain ⟨x, hx, rfl⟩ := List.mem_map.mp hb
  split
  · rename_i hc
    exact hf x (Bool.and_eq_true_iff.mp hc).1 (h x hx)
  · exact h x hx

/-! ### the application records of the rounds -/

/-- `nodeRmApp` = `relAppT .unknown` kept live: the clauses hold for the record although it may be terminated now -/
theorem appCore_nodeRmApp (key : String) (i : CItem) (a : CApp) (hl : a.live = true) (hba : AppBooks a) (hwa : AppWF a)
    (him : i ∈ a.items) (hkey : i.key = key) (hbd : i.bound = true) (h : Life.AppCore a) : Life.AppCore (nodeRmApp key i a) :=
  LifeB.relAppT_core .unknown key i a hba hwa h hl him hkey hbd

theorem appNoPend_nodeRmApp (key : String) (i : CItem) (a : CApp) (hl : a.live = true) (hba : AppBooks a) (hwa : AppWF a)
    (him : i ∈ a.items) (hkey : i.key = key) (hbd : i.bound = true) (hL : Life.AppCore a) (h : Life.AppNoPend a) :
    Life.AppNoPend (nodeRmApp key i a) :=
  ((LifeB.relAppT_step .unknown key i a hba hwa hL hl him hkey hbd).setLive true).nopend hl h

theorem appMid_nodeRmApp (key : String) (i : CItem) (a : CApp) (hl : a.live = true) (hba : AppBooks a) (hwa : AppWF a)
    (him : i ∈ a.items) (hkey : i.key = key) (hbd : i.bound = true) (hL : Life.AppCore a) (h : AppNoPendMid a) :
    AppNoPendMid (nodeRmApp key i a) :=
  ((LifeB.relAppT_step .unknown key i a hba hwa hL hl him hkey hbd).setLive true).nopendMid hl h rfl

/-- `confirmApp` = `replApp` kept live -/
theorem appCore_confirmApp (i r : CItem) (a : CApp) (hl : a.live = true) (hba : AppBooks a) (hwa : AppWF a)
    (hok : ReplOK a i r) (hr : PosRes r.res) (h : Life.AppCore a) : Life.AppCore (confirmApp i r a) :=
  LifeB.replApp_core i r a hba hwa hok h hl hr

theorem appMid_confirmApp (i r : CItem) (a : CApp) : AppNoPendMid (confirmApp i r a) :=
  appMid_keptLive (fun hs => absurd hs (LifeB.replApp_ne_completing i r a))

/-! ### the reversal branches: flags only -/

theorem flags_updItem {k : String} {g : CItem → CItem} {l : List CItem} {y : CItem} (hy : y ∈ updItem k g l)
    (hg : ∀ x, (g x).res = x.res ∧ (g x).ph = x.ph ∧ (g x).bound = x.bound) :
    ∃ x ∈ l, y.res = x.res ∧ y.ph = x.ph ∧ y.bound = x.bound := by
  obtain ⟨x, hx, h | h⟩ := mem_updItem hy
  · obtain ⟨_, rfl⟩ := h; exact ⟨x, hx, hg x⟩
  · obtain ⟨_, rfl⟩ := h; exact ⟨y, hx, rfl, rfl, rfl⟩

/-- `deallocApp` makes an ask outstanding again, so it is no `Life.Step`; the clauses of `LifeCore` do not read that -/
theorem appCore_deallocApp (key other : String) (r : CItem) (a : CApp) (h : Life.AppCore a) :
    Life.AppCore (deallocApp key other r a) := by
  refine h.of_items (a := a) (b := deallocApp key other r a) rfl rfl (fun y hy => ?_)
  obtain ⟨z, hz, a1, a2, a3⟩ := flags_updItem hy (fun _ => ⟨rfl, rfl, rfl⟩)
  obtain ⟨x, hx, b1, b2, b3⟩ := flags_updItem hz (fun _ => ⟨rfl, rfl, rfl⟩)
  exact ⟨x, hx, a1.trans b1, a2.trans b2, fun hb => by rw [← b3, ← a3]; exact hb⟩

theorem unlinkApp_loses (k1 k2 : String) (a : CApp) : Life.Loses a.items (unlinkApp k1 k2 a).items :=
  have g : Life.ItemLoses (fun x : CItem => { x with release := none }) := fun _ => ⟨rfl, rfl, id, id⟩
  ((Life.Loses.refl _).updItem k1 g).updItem k2 g

theorem unlinkApp_step (k1 k2 : String) (a : CApp) : Life.Step a (unlinkApp k1 k2 a) :=
  .stay_of_loses rfl (unlinkApp_loses k1 k2 a)

theorem appCore_unlinkApp (k1 k2 : String) (a : CApp) (hl : a.live = true) (h : Life.AppCore a) :
    Life.AppCore (unlinkApp k1 k2 a) :=
  (unlinkApp_step k1 k2 a).core h hl ((unlinkApp_loses k1 k2 a).pos (h.pos hl))
    (fun e => by rw [show (unlinkApp k1 k2 a).live = a.live from rfl, hl] at e; cases e)

theorem appMid_unlinkApp (k1 k2 : String) (a : CApp) (hl : a.live = true) (h : AppNoPendMid a) :
    AppNoPendMid (unlinkApp k1 k2 a) :=
  (unlinkApp_step k1 k2 a).nopendMid hl h hl

/-- The replacement rolled back (`Application.DeallocateAsk`): the real ask is outstanding again, and a Completing
    application runs again (`runAgain`: state, log and timer only), as `AddAllocationAsk` makes it for a new ask; Running
    is neither Completing nor terminated.  This is the repair 20ee082 of /repo (KNOWN_FINDINGS, `fixed:` under C10):
    a record that stayed Completing with the ask outstanding would be completed by the state timer, and the clause of
    `NoPendInv` about asks would fail along such a history (`Example.exOpsC10`, `exOpsC10b` of Core2LifeProps.lean). -/
theorem appCore_deallocAppRun (key other : String) (r : CItem) (a : CApp) (hl : a.live = true) (h : Life.AppCore a) :
    Life.AppCore (deallocAppRun key other r a) := by
  have h' := appCore_deallocApp key other r a h
  unfold deallocAppRun
  by_cases hs : (deallocApp key other r a).state = "Completing"
  · have hr : (runAgain (deallocApp key other r a)).state = "Running" := by rw [runAgain_state, if_pos hs]
    refine (Life.Step.safe (a := a) (runAgain_state_ne _) (by rw [hr]; decide)).core h hl ?_
      (fun e => by rw [runAgain_live, show (deallocApp key other r a).live = a.live from rfl, hl] at e; cases e)
    rw [runAgain_items]
    exact h'.pos hl
  · rw [runAgain_of_ne _ hs]; exact h'

/-- A live record that is not Completing: `AppNoPendMid` asks nothing of it.  `AppNoPend` would: a record that became
    Completed earlier in the same removal is still listed as live, gets its ask back here as well, and keeps it until
    `sweepTerminated` drops its asks.  Hence the weaker clause inside the loop. -/
theorem appMid_deallocAppRun (key other : String) (r : CItem) (a : CApp) (hl : a.live = true) :
    AppNoPendMid (deallocAppRun key other r a) :=
  appMid_of_live ((runAgain_live _).trans hl) (fun hs => absurd hs (runAgain_state_ne _))

theorem lifeCore_unlink (c : Core) (app k1 k2 : String) (h : LifeCore c) : LifeCore (updApp c app (unlinkApp k1 k2)) :=
  Life.lifeCore_of (forall_updApp c app _ (fun _ => Life.appCore_of h) (appCore_unlinkApp k1 k2)) h.posNode

theorem lifeCore_dealloc (c : Core) (app key other : String) (r : CItem) (chain : List String) (fq : CQueue → CQueue)
    (h : LifeCore c) : LifeCore (updQueues (updApp c app (deallocAppRun key other r)) chain fq) :=
  Life.lifeCore_of (forall_updApp c app _ (fun _ => Life.appCore_of h) (appCore_deallocAppRun key other r))
    h.posNode

/-! ### `nodeRmBound` and one round of the loop of removeNodeAllocations -/

theorem nodeRmBound_forall {P : CApp → Prop} (c : Core) (app key : String) (hw : CoreWF c) (hb : Books c)
    (h : ∀ x ∈ c.apps, P x)
    (hrm : ∀ a i, a.live = true → AppBooks a → AppWF a → i ∈ a.items → i.key = key → i.bound = true → P a →
      P (nodeRmApp key i a)) : ∀ x ∈ (nodeRmBound c app key).apps, P x := by
  refine nodeRmBound_elim (M := fun t => ∀ x ∈ t.apps, P x) c app key (fun _ => h) ?_
  intro a i hfind hitem hbd
  obtain ⟨ham, hl, _⟩ := findApp_some hfind
  obtain ⟨him, hkey⟩ := find_key_some hitem
  exact (shape_nodeRmBound c app key a i hw hfind hitem hbd).all hw
    (hrm a i hl (hb.apps a ham hl) (hw.app ham hl) him hkey hbd (h a ham)) h

theorem noPend_nodeRmBound (c : Core) (app key : String) (hw : CoreWF c) (hb : Books c) (hL : LifeCore c)
    (h : NoPendInv c) : NoPendInv (nodeRmBound c app key) :=
  Life.noPendInv_of fun x hx =>
    (nodeRmBound_forall (P := fun a => Life.AppCore a ∧ Life.AppNoPend a) c app key hw hb
      (fun _ hy => ⟨Life.appCore_of hL hy, Life.appNoPend_of h hy⟩)
      (fun a i hl hba hwa him hkey hbd hp =>
        ⟨appCore_nodeRmApp key i a hl hba hwa him hkey hbd hp.1, appNoPend_nodeRmApp key i a hl hba hwa him hkey hbd hp.1 hp.2⟩)
      x hx).2

/-- `P` has to carry what the four rewritings need of the record beyond its books: for the clause about asks that is
    `Life.AppCore`. -/
theorem nodeRmAlloc_forall {P : CApp → Prop} (c : Core) (nodeId app key : String) (hw : CoreWF c) (hb : Books c)
    (hok : NodeRmOK c nodeId app key) (h : ∀ x ∈ c.apps, P x)
    (hrm : ∀ a i, a.live = true → AppBooks a → AppWF a → i ∈ a.items → i.key = key → i.bound = true → P a →
      P (nodeRmApp key i a))
    (hconfirm : ∀ a i rk r, a ∈ c.apps → a.live = true → findReal c a rk = some r → ReplOK a i r → P a →
      P (confirmApp i r a))
    (hunlink : ∀ k1 k2 a, a.live = true → P a → P (unlinkApp k1 k2 a))
    (hdealloc : ∀ k o r a, a.live = true → P a → P (deallocAppRun k o r a)) :
    ∀ x ∈ (nodeRmAlloc c nodeId app key).apps, P x := by
  refine nodeRmAlloc_elim (M1 := fun t => ∀ x ∈ t.apps, P x) (M := fun t => ∀ x ∈ t.apps, P x) c nodeId app key hw hb hok h
    (fun _ rk _ => forall_updApp c app _ h (hunlink rk key))
    (fun _ r k o _ _ _ _ _ _ _ => forall_updApp c app _ h (hdealloc k o r))
    (fun c1 hw1 hb1 h1 => nodeRmBound_forall c1 app key hw1 hb1 h1 hrm) ?_
  intro a i rk r hfind _ _ _ hreal _ _ hrepl _
  obtain ⟨ham, hl, _⟩ := findApp_some hfind
  exact (shape_confirmApp c app a i r hw hfind).all hw (hconfirm a i rk r ham hl hreal hrepl (h a ham)) h

/-! ### the reservations on the node -/

/-- `unreserveOn` rewrites only the reservation lists of the applications -/
theorem unreserveFold_forall {P : CApp → Prop}
    (hP : ∀ x y : CApp, y.live = x.live → y.state = x.state → y.items = x.items → P x → P y) (id : String)
    (l : List String) (c : Core) (h : ∀ x ∈ c.apps, P x) : ∀ x ∈ (l.foldl (fun c k => unreserveOn c id k) c).apps, P x := by
  refine foldl_inv (J := fun _ t => ∀ x ∈ t.apps, P x) _ ?_ l c h
  intro k _ t ht
  rcases unreserveOn_cases t id k with ⟨_, h⟩ | ⟨a, _, h⟩
  · rw [h]; exact ht
  · rw [h]
    intro y hy
    obtain ⟨x, hx, rfl⟩ := List.mem_map.mp hy
    split
    · exact hP x _ rfl rfl rfl (ht x hx)
    · exact ht x hx

end LifeD

/-- No application touched by the removal of node `id` has a placeholder swap in flight: then no round of the loop rolls
    a replacement back, every round is the plain release.  Side condition of
    `C10.outstanding_ask_not_completed_partial`; no preservation theorem needs it (`nopendMid_nodeRmAlloc`). -/
def NoRollback (s : Core) (id : String) (order : List (String × String)) : Prop :=
  ∀ n, s.findNode id = some n → ∀ p ∈ order ++ nodeRest n order, ∀ a, s.findApp p.1 = some a →
    ∀ i ∈ a.items, i.release = none

/-! ### the loop of removeNodeAllocations -/

open LifeD in
theorem lifeCore_nodeRmAlloc (c : Core) (nodeId app key : String) (hw : CoreWF c) (hb : Books c) (h : LifeCore c)
    (hok : NodeRmOK c nodeId app key) : LifeCore (nodeRmAlloc c nodeId app key) :=
  Life.lifeCore_of
    (nodeRmAlloc_forall c nodeId app key hw hb hok (fun _ => Life.appCore_of h)
      (fun a i hl hba hwa him hkey hbd => appCore_nodeRmApp key i a hl hba hwa him hkey hbd)
      (fun a i rk r ham hl hreal hrepl =>
        appCore_confirmApp i r a hl (hb.apps a ham hl) (hw.app ham hl) hrepl (LifeB.findReal_pos c a rk r h ham hl hreal))
      appCore_unlinkApp appCore_deallocAppRun)
    (by rw [nodeRmAlloc_nodes c nodeId app key hw hb hok]; exact h.posNode)

open LifeD in
theorem nopendMid_nodeRmAlloc (c : Core) (nodeId app key : String) (hw : CoreWF c) (hb : Books c) (hL : LifeCore c)
    (hP : NoPendMid c) (hok : NodeRmOK c nodeId app key) : NoPendMid (nodeRmAlloc c nodeId app key) := fun x hx =>
  (nodeRmAlloc_forall (P := fun a => Life.AppCore a ∧ AppNoPendMid a) c nodeId app key hw hb hok
    (fun y hy => ⟨Life.appCore_of hL hy, hP y hy⟩)
    (fun a i hl hba hwa him hkey hbd hp =>
      ⟨appCore_nodeRmApp key i a hl hba hwa him hkey hbd hp.1, appMid_nodeRmApp key i a hl hba hwa him hkey hbd hp.1 hp.2⟩)
    (fun a i rk r ham hl hreal hrepl hp =>
      ⟨appCore_confirmApp i r a hl (hb.apps a ham hl) (hw.app ham hl) hrepl (LifeB.findReal_pos c a rk r hL ham hl hreal) hp.1,
       appMid_confirmApp i r a⟩)
    (fun k1 k2 a hl hp => ⟨appCore_unlinkApp k1 k2 a hl hp.1, appMid_unlinkApp k1 k2 a hl hp.2⟩)
    (fun k o r a hl hp => ⟨appCore_deallocAppRun k o r a hl hp.1, appMid_deallocAppRun k o r a hl⟩) x hx).2

theorem lifeCore_unreserveFold (id : String) (l : List String) (c : Core) (h : LifeCore c) :
    LifeCore (l.foldl (fun c k => unreserveOn c id k) c) := by
  have hn : (l.foldl (fun c k => unreserveOn c id k) c).nodes = c.nodes :=
    foldl_inv (J := fun _ t => t.nodes = c.nodes) _ (fun k _ t ht => (unreserveOn_nodes t id k).trans ht) l c rfl
  exact Life.lifeCore_of (LifeD.unreserveFold_forall (fun _ _ hl hs hi hx => hx.of_items hl hs (fun z hz => ⟨z, hi ▸ hz, rfl, rfl, fun h => h⟩)) id l c (fun _ => Life.appCore_of h))
    (by rw [hn]; exact h.posNode)

theorem lifeInv_unreserveFold (id : String) (l : List String) (c : Core) (h : LifeInv c) :
    LifeInv (l.foldl (fun c k => unreserveOn c id k) c) :=
  { toLifeCore := lifeCore_unreserveFold id l c h.toLifeCore
    termGone := LifeD.unreserveFold_forall (P := fun a => a.live = true → terminated a.state = false)
      (fun _ _ hl hs _ hx hly => hs ▸ hx (hl ▸ hly)) id l c h.termGone }

theorem nopend_unreserveFold (id : String) (l : List String) (c : Core) (h : NoPendInv c) :
    NoPendInv (l.foldl (fun c k => unreserveOn c id k) c) :=
  Life.noPendInv_of (LifeD.unreserveFold_forall
    (fun _ _ hl hs hi hx => ⟨by rw [hl, hs, hi]; exact hx.completingNoPending, by rw [hs, hi]; exact hx.completedNoAsk⟩)
    id l c (fun _ => Life.appNoPend_of h))

theorem nopendMid_unreserveFold (id : String) (l : List String) (c : Core) (h : NoPendMid c) :
    NoPendMid (l.foldl (fun c k => unreserveOn c id k) c) :=
  LifeD.unreserveFold_forall (fun _ _ hl hs hi hx => LifeD.appMid_of_sub hl hs (fun z hz => ⟨z, hi ▸ hz, rfl⟩) hx) id l c h

theorem lifeInv_dropNode (c : Core) (id : String) (t t' : Res) (h : LifeInv c) :
    LifeInv (setRootMax { c with nodes := c.nodes.filter (·.id != id), total := t } t') :=
  { pos := h.pos, posNode := fun n hn => h.posNode n (List.mem_filter.mp hn).1, completingNoReal := h.completingNoReal,
    noPhOrphan := h.noPhOrphan, completedNoReal := h.completedNoReal, termGone := h.termGone }

theorem nopend_dropNode (c : Core) (id : String) (t t' : Res) (h : NoPendInv c) :
    NoPendInv (setRootMax { c with nodes := c.nodes.filter (·.id != id), total := t } t') :=
  ⟨h.completingNoPending, h.completedNoAsk⟩

/-! ### the body of `nodeRemove` up to the end of the loop -/

theorem lifeCore_nodeRemove_loop (s : Core) (id : String) (order : List (String × String)) (hw : CoreWF s) (hb : Books s)
    (hl : LifeInv s) (hok : NodeRemoveOK s id order) {n : CNode} (hn : s.findNode id = some n) :
    LifeCore ((order ++ nodeRest n order).foldl (fun c p => nodeRmAlloc c id p.1 p.2)
      (n.reservations.foldl (fun c k => unreserveOn c id k) s)) := by
  obtain ⟨hb0, hw0, _⟩ := unreserveFold_props id n.reservations s hw hb
  exact (nodeLoop_inv (J := fun _ t => LifeCore t) id (fun p _ c hw hb h1 hL => lifeCore_nodeRmAlloc c id p.1 p.2 hw hb hL h1)
    _ _ hw0 hb0 (hok n hn) (lifeCore_unreserveFold id n.reservations s hl.toLifeCore)).2.2

theorem nopendMid_nodeRemove_loop (s : Core) (id : String) (order : List (String × String)) (hw : CoreWF s) (hb : Books s)
    (hl : LifeInv s) (hp : NoPendInv s) (hok : NodeRemoveOK s id order) {n : CNode} (hn : s.findNode id = some n) :
    NoPendMid ((order ++ nodeRest n order).foldl (fun c p => nodeRmAlloc c id p.1 p.2)
      (n.reservations.foldl (fun c k => unreserveOn c id k) s)) := by
  obtain ⟨hb0, hw0, _⟩ := unreserveFold_props id n.reservations s hw hb
  exact (nodeLoop_inv (J := fun _ t => LifeCore t ∧ NoPendMid t) id
    (fun p _ c hw hb h1 h =>
      ⟨lifeCore_nodeRmAlloc c id p.1 p.2 hw hb h.1 h1, nopendMid_nodeRmAlloc c id p.1 p.2 hw hb h.1 h.2 h1⟩)
    _ _ hw0 hb0 (hok n hn)
    ⟨lifeCore_unreserveFold id n.reservations s hl.toLifeCore, nopendMid_unreserveFold id n.reservations s hp.mid⟩).2.2.2

end Yk
