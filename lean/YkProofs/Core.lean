/-
  Proofs for YkProps/C03: the books of the scheduler core (application totals = Σ items, queue totals = Σ live
  applications at or below the queue, node allocated = Σ non-foreign allocations, available = total − allocated −
  occupied; all pointwise on sparse vectors).  The frame `books_upd` (one application and the queues above it change)
  and its form `books_move` ask for unique application ids only, not for `CoreWF`: they also serve the replay of
  YkProofs/Recover.lean, whose states are not `CoreWF`.  The books also follow from the executable clauses (`conserved`,
  `nodeLedger`) on a well-formed queue tree.
-/
import YkModel.CoreOps
import YkProofs.Res
import YkProofs.ListSum
import YkProofs.ResArith
namespace Yk
open Res Core

/-! ### well-formed dumps and the books -/

def itemSum (l : List CItem) (c : CItem → Bool) (k : String) : Int := sumIf l c (fun i => i.res.getD k)

def qsum (apps : List CApp) (p : String) (g : CApp → Int) : Int :=
  sumIf apps (fun a => a.live && under a.queue p) g

def allocSum (l : List CNodeAlloc) (k : String) : Int := sumIf l (fun x => !x.foreign) (fun x => x.res.getD k)

/-- `Core.nonNeg` as a proposition -/
def NonNeg (r : Res) : Prop := ∀ p ∈ r, 0 ≤ p.2

/-- Well-formedness of a dumped state: the vectors are Go maps (unique keys), identifiers are unique where the
    implementation keeps a map, quantities of asks are non-negative int64 values. -/
structure CoreWF (s : Core) : Prop where
  /-- partition.applications is a map keyed by application id -/
  appIds : s.apps.Pairwise (fun a b => a.live = true → b.live = true → a.id ≠ b.id)
  /-- partition.nodes is a map keyed by node id -/
  nodeIds : s.nodes.Pairwise (fun a b => a.id ≠ b.id)
  /-- application.requests / allocations are maps keyed by allocation key -/
  itemKeys : ∀ a ∈ s.apps, a.live = true → a.items.Pairwise (fun i j => i.key ≠ j.key)
  /-- node.allocations is a map keyed by allocation key -/
  allocKeys : ∀ n ∈ s.nodes, n.allocs.Pairwise (fun x y => x.key ≠ y.key)
  appRes : ∀ a ∈ s.apps, a.live = true → wf a.pending = true ∧ wf a.allocated = true ∧ wf a.allocatedPh = true
  /-- the resource of an ask / allocation is a map without negative quantities -/
  itemRes : ∀ a ∈ s.apps, a.live = true → ∀ i ∈ a.items, wf i.res = true ∧ NonNeg i.res
  /-- what application.allocations lists has been allocated -/
  boundAllocated : ∀ a ∈ s.apps, a.live = true → ∀ i ∈ a.items, i.bound = true → i.allocated = true
  /-- the int64 range (`allInR`) is asked of `pending` only: it is the one total that goes down through `decPendingRes`
      (SubErrorNegative: the saturating `goSubVal`), which is the exact difference on int64 values only
      (`decPendingRes_getD`); every other total moves by the exact `addX` / `subX` -/
  queueRes : ∀ q ∈ s.queues, wf q.allocated = true ∧ wf q.pending = true ∧ allInR q.pending
  nodeRes : ∀ n ∈ s.nodes, wf n.total = true ∧ wf n.occupied = true ∧ wf n.allocated = true ∧ wf n.available = true
  allocRes : ∀ n ∈ s.nodes, ∀ x ∈ n.allocs, wf x.res = true

structure AppBooks (a : CApp) : Prop where
  allocated : ∀ k, a.allocated.getD k = itemSum a.items (fun i => i.bound && !i.ph) k
  allocatedPh : ∀ k, a.allocatedPh.getD k = itemSum a.items (fun i => i.bound && i.ph) k
  pending : ∀ k, a.pending.getD k = itemSum a.items (fun i => i.inReq && !i.allocated) k

structure QueueBooks (apps : List CApp) (q : CQueue) : Prop where
  allocated : ∀ k, q.allocated.getD k = qsum apps q.path (fun a => a.allocated.getD k + a.allocatedPh.getD k)
  pending : ∀ k, q.pending.getD k = qsum apps q.path (fun a => a.pending.getD k)

/-- the node ledger (C01) -/
structure NodeBooks (n : CNode) : Prop where
  allocated : ∀ k, n.allocated.getD k = allocSum n.allocs k
  available : ∀ k, n.available.getD k = n.total.getD k - n.allocated.getD k - n.occupied.getD k

structure Books (s : Core) : Prop where
  apps : ∀ a ∈ s.apps, a.live = true → AppBooks a
  queues : ∀ q ∈ s.queues, QueueBooks s.apps q
  nodes : ∀ n ∈ s.nodes, NodeBooks n

theorem mem_liveApps {s : Core} {a : CApp} : a ∈ s.liveApps ↔ a ∈ s.apps ∧ a.live = true := by
  unfold liveApps; rw [List.mem_filter]

theorem sumIf_liveApps (s : Core) (c : CApp → Bool) (g : CApp → Int) :
    ((s.liveApps.filter c).map g).sum = sumIf s.apps (fun a => a.live && c a) g := by
  unfold liveApps sumIf; rw [List.filter_filter]
  congr 2
  apply List.filter_congr
  intro x _; exact Bool.and_comm _ _

theorem qsum_liveApps (s : Core) (p : String) (g : CApp → Int) :
    qsum s.apps p g = (((s.liveApps.filter (fun a => under a.queue p)).map g).sum) :=
  (sumIf_liveApps s _ g).symm

/-! ### the update helpers of the model -/

theorem findApp_some {s : Core} {id : String} {a : CApp} (h : s.findApp id = some a) :
    a ∈ s.apps ∧ a.live = true ∧ a.id = id := by
  unfold findApp at h
  have hm := List.mem_of_find?_eq_some h
  have hp := List.find?_some h
  rw [mem_liveApps] at hm
  exact ⟨hm.1, hm.2, by simpa using hp⟩

theorem findApp_none {s : Core} {id : String} (h : s.findApp id = none) :
    ∀ a ∈ s.apps, a.live = true → a.id ≠ id := by
  intro a ha hl
  unfold findApp at h
  have := List.find?_eq_none.mp h a (mem_liveApps.mpr ⟨ha, hl⟩)
  simpa using this

theorem findApp_eq_none {s : Core} {id : String} (h : ∀ a ∈ s.apps, a.live = true → a.id ≠ id) : s.findApp id = none := by
  unfold findApp
  rw [List.find?_eq_none]
  intro a ha
  obtain ⟨hm, hl⟩ := mem_liveApps.mp ha
  simpa using h a hm hl

theorem findNode_some {s : Core} {id : String} {n : CNode} (h : s.findNode id = some n) :
    n ∈ s.nodes ∧ n.id = id := by
  unfold findNode at h
  exact ⟨List.mem_of_find?_eq_some h, by simpa using List.find?_some h⟩

theorem find?_map_id (l : List CNode) (g : CNode → CNode) (hg : ∀ n, (g n).id = n.id) (id : String) :
    (l.map g).find? (·.id == id) = (l.find? (·.id == id)).map g := by
  rw [List.find?_map]
  congr 2
  funext n
  simp only [Function.comp, hg n]

theorem findNode_none {s : Core} {id : String} (h : s.findNode id = none) : ∀ n ∈ s.nodes, n.id ≠ id := by
  intro n hn
  unfold findNode at h
  simpa using List.find?_eq_none.mp h n hn

theorem appIds_atMostOne {apps : List CApp} (id : String)
    (h : apps.Pairwise (fun a b => a.live = true → b.live = true → a.id ≠ b.id)) :
    AtMostOne apps (fun x => x.live && x.id == id) := by
  unfold AtMostOne
  refine List.Pairwise.imp ?_ h
  intro x y hne hx hy
  simp only [Bool.and_eq_true, beq_iff_eq] at hx hy
  exact hne hx.1 hy.1 (hx.2.trans hy.2.symm)

theorem nodeIds_eq {s : Core} (hw : CoreWF s) {n m : CNode} (hn : n ∈ s.nodes) (hm : m ∈ s.nodes) (h : m.id = n.id) : m = n :=
  (atMostOne_of_pairwise_ne s.nodes (·.id) n.id hw.nodeIds).eq hm hn (by simp [h]) (by simp)

theorem allocKeys_eq {l : List CNodeAlloc} (hk : l.Pairwise (fun x y => x.key ≠ y.key)) {x y : CNodeAlloc}
    (hx : x ∈ l) (hy : y ∈ l) (h : x.key = y.key) : x = y :=
  (atMostOne_of_pairwise_ne l (·.key) y.key hk).eq hx hy (by simp [h]) (by simp)

theorem findNode_eq {s : Core} (hw : CoreWF s) {id : String} {n m : CNode} (hn : s.findNode id = some n)
    (hm : m ∈ s.nodes) (hmid : m.id = id) : m = n := by
  obtain ⟨hnm, hnid⟩ := findNode_some hn
  exact nodeIds_eq hw hnm hm (hmid.trans hnid.symm)

theorem findApp_unique {s : Core} (hw : CoreWF s) {app : String} {a : CApp} (hfind : s.findApp app = some a) {b : CApp}
    (hb : b ∈ s.apps) (hbl : b.live = true) (hid : b.id = app) : b = a := by
  obtain ⟨ham, hal, haid⟩ := findApp_some hfind
  exact (appIds_atMostOne app hw.appIds).eq hb ham (by simp [hbl, hid]) (by simp [hal, haid])

abbrev updApps (apps : List CApp) (id : String) (f : CApp → CApp) : List CApp :=
  apps.map (fun a => if (a.live && a.id == id) = true then f a else a)

abbrev updQs (queues : List CQueue) (paths : List String) (f : CQueue → CQueue) : List CQueue :=
  queues.map (fun q => if paths.contains q.path = true then f q else q)

abbrev updNs (nodes : List CNode) (id : String) (f : CNode → CNode) : List CNode :=
  nodes.map (fun n => if (n.id == id) = true then f n else n)

/-- hence no description of a step needs the case distinction "is the node registered" for its node list -/
theorem updNs_none {s : Core} {id : String} (h : s.findNode id = none) (f : CNode → CNode) : updNs s.nodes id f = s.nodes :=
  map_upd_none s.nodes (fun n => n.id == id) f (fun n hn => by simpa using findNode_none h n hn)

theorem updApps_self (apps : List CApp) (id : String) : updApps apps id (fun a => a) = apps := by
  unfold updApps; simp

theorem pairwise_updApps (apps : List CApp) (id : String) (f : CApp → CApp)
    (hid : ∀ x, (x.live && x.id == id) = true → (f x).id = x.id)
    (h : apps.Pairwise (fun a b => a.live = true → b.live = true → a.id ≠ b.id)) :
    (updApps apps id f).Pairwise (fun a b => a.live = true → b.live = true → a.id ≠ b.id) := by
  unfold updApps
  rw [List.pairwise_map]
  refine List.Pairwise.imp ?_ h
  intro x y hxy hx hy
  have hlive : ∀ z : CApp, (if (z.live && z.id == id) = true then f z else z).live = true → z.live = true := by
    intro z hz
    by_cases hd : (z.live && z.id == id) = true
    · simp only [Bool.and_eq_true] at hd; exact hd.1
    · rw [if_neg hd] at hz; exact hz
  have hids : ∀ z : CApp, (if (z.live && z.id == id) = true then f z else z).id = z.id := by
    intro z; split
    · rename_i hd; exact hid z hd
    · rfl
  rw [hids x, hids y]
  exact hxy (hlive x hx) (hlive y hy)

theorem mem_updApps {apps : List CApp} {id : String} {f : CApp → CApp} {a : CApp}
    (hu : apps.Pairwise (fun a b => a.live = true → b.live = true → a.id ≠ b.id))
    (ha : a ∈ apps) (hl : a.live = true) (hid : a.id = id) {y : CApp} (hy : y ∈ updApps apps id f) :
    y = f a ∨ (y ∈ apps ∧ ¬ (y.live && y.id == id) = true) := by
  obtain ⟨z, hz, rfl⟩ := List.mem_map.mp hy
  by_cases hd : (z.live && z.id == id) = true
  · left
    have : z = a := (appIds_atMostOne id hu).eq hz ha hd (by simp [hl, hid])
    rw [if_pos hd, this]
  · right; rw [if_neg hd]; exact ⟨hz, hd⟩

/-- No uniqueness of ids is needed: the records in front of the first live one with that id are not rewritten. -/
theorem findApp_updApps {s t : Core} {id : String} {f : CApp → CApp} {a : CApp} (hta : t.apps = updApps s.apps id f)
    (hfind : s.findApp id = some a) (hl : (f a).live = true) (hid : (f a).id = id) : t.findApp id = some (f a) := by
  unfold findApp liveApps at hfind ⊢
  rw [List.find?_filter] at hfind ⊢
  simp only [Bool.decide_and, Bool.decide_eq_true] at hfind ⊢
  obtain ⟨hpa, as, bs, e, has⟩ := List.find?_eq_some_iff_append.mp hfind
  have : s.apps.find? ((fun x => x.live && x.id == id) ∘ fun x => if (x.live && x.id == id) = true then f x else x) = some a := by
    refine List.find?_eq_some_iff_append.mpr ⟨?_, as, bs, e, fun x hx => ?_⟩
    · simp only [Function.comp, if_pos hpa, hl, hid, Bool.true_and, beq_self_eq_true]
    · have hx' : (x.live && x.id == id) = false := by simpa only [Bool.not_eq_true'] using has x hx
      simp only [Function.comp, hx', Bool.false_eq_true, if_false, Bool.not_false]
  rw [hta, updApps, List.find?_map, this, Option.map_some, if_pos hpa]

theorem updApps_const {apps : List CApp} {id : String} {a : CApp} (f : CApp → CApp)
    (hu : apps.Pairwise (fun a b => a.live = true → b.live = true → a.id ≠ b.id))
    (ha : a ∈ apps) (hl : a.live = true) (hid : a.id = id) : updApps apps id f = updApps apps id (fun _ => f a) := by
  apply List.map_congr_left
  intro x hx
  by_cases hd : (x.live && x.id == id) = true
  · rw [if_pos hd, if_pos hd, (appIds_atMostOne id hu).eq hx ha hd (by simp [hl, hid])]
  · rw [if_neg hd, if_neg hd]

@[simp] theorem updApp_apps (s : Core) (id : String) (f : CApp → CApp) : (updApp s id f).apps = updApps s.apps id f := rfl
@[simp] theorem updApp_queues (s : Core) (id : String) (f : CApp → CApp) : (updApp s id f).queues = s.queues := rfl
@[simp] theorem updApp_nodes (s : Core) (id : String) (f : CApp → CApp) : (updApp s id f).nodes = s.nodes := rfl
@[simp] theorem updQueues_apps (s : Core) (ps : List String) (f : CQueue → CQueue) : (updQueues s ps f).apps = s.apps := rfl
@[simp] theorem updQueues_queues (s : Core) (ps : List String) (f : CQueue → CQueue) :
    (updQueues s ps f).queues = updQs s.queues ps f := rfl
@[simp] theorem updQueues_nodes (s : Core) (ps : List String) (f : CQueue → CQueue) : (updQueues s ps f).nodes = s.nodes := rfl
@[simp] theorem updNode_apps (s : Core) (id : String) (f : CNode → CNode) : (updNode s id f).apps = s.apps := rfl
@[simp] theorem updNode_queues (s : Core) (id : String) (f : CNode → CNode) : (updNode s id f).queues = s.queues := rfl
@[simp] theorem updNode_nodes (s : Core) (id : String) (f : CNode → CNode) : (updNode s id f).nodes = updNs s.nodes id f := rfl

theorem Books.of_lists {s t : Core} (ha : t.apps = s.apps) (hq : t.queues = s.queues) (hn : t.nodes = s.nodes)
    (h : Books s) : Books t :=
  ⟨by rw [ha]; exact h.apps, by rw [ha, hq]; exact h.queues, by rw [hn]; exact h.nodes⟩

/-! ### how the sums move when one application / queue chain / node is updated -/

theorem findApp_of_mem {s : Core} (hu : s.apps.Pairwise (fun a b => a.live = true → b.live = true → a.id ≠ b.id))
    {a : CApp} (ha : a ∈ s.apps) (hl : a.live = true) : s.findApp a.id = some a := by
  cases h : s.findApp a.id with
  | none => exact absurd rfl (findApp_none h a ha hl)
  | some b =>
    obtain ⟨hb, hbl, hbid⟩ := findApp_some h
    rw [(appIds_atMostOne a.id hu).eq hb ha (by simp [hbl, hbid]) (by simp [hl])]

theorem qsum_upd (apps : List CApp) (id : String) (f : CApp → CApp) (a : CApp)
    (hu : apps.Pairwise (fun a b => a.live = true → b.live = true → a.id ≠ b.id))
    (ha : a ∈ apps) (hl : a.live = true) (hid : a.id = id) (hq : (f a).queue = a.queue) (p : String) (g : CApp → Int) :
    qsum (updApps apps id f) p g =
      qsum apps p g - (if under a.queue p = true then g a else 0)
        + (if ((f a).live && under a.queue p) = true then g (f a) else 0) := by
  unfold qsum updApps
  rw [sumIf_map_upd apps (fun x => x.live && x.id == id) f _ g a (appIds_atMostOne id hu) ha (by simp [hl, hid])]
  simp [hl, hq]

theorem books_upd_nodes (nodes : List CNode) (id : String) (fn : CNode → CNode)
    (hb : ∀ n ∈ nodes, NodeBooks n) (h : ∀ n ∈ nodes, n.id = id → NodeBooks n → NodeBooks (fn n)) :
    ∀ n ∈ updNs nodes id fn, NodeBooks n := by
  intro n' hn'
  obtain ⟨n, hn, rfl⟩ := List.mem_map.mp hn'
  by_cases hd : (n.id == id) = true
  · rw [if_pos hd]; exact h n hn (by simpa using hd) (hb n hn)
  · rw [if_neg hd]; exact hb n hn

theorem updQs_id (queues : List CQueue) (chain : List String) : updQs queues chain (fun q => q) = queues := by
  unfold updQs; simp

/-! ### `decPendingRes` -/

theorem snn_fold_getD (delta : Res) (hw : wf delta = true) (acc : Res × List String)
    (hle : ∀ p ∈ delta, 0 ≤ p.2 ∧ p.2 ≤ acc.1.getD p.1 ∧ inR (acc.1.getD p.1)) (k : String) :
    ((delta.foldl (fun (acc : Res × List String) p =>
      let v := goSubVal (acc.1.getD p.1) p.2
      if v < 0 then (acc.1.set p.1 0, acc.2 ++ [p.1]) else (acc.1.set p.1 v, acc.2)) acc).1).getD k =
      acc.1.getD k - delta.getD k := by
  induction delta generalizing acc with
  | nil => simp
  | cons p t ih =>
    obtain ⟨a, b⟩ := p
    rw [wf_cons] at hw
    simp only [Bool.and_eq_true, Bool.not_eq_true'] at hw
    obtain ⟨hb0, hba, hr⟩ := hle (a, b) List.mem_cons_self
    simp only at hb0 hba hr
    have hbr : inR b := by unfold inR minI maxI at *; omega
    have hv : goSubVal (acc.1.getD a) b = acc.1.getD a - b := by
      rw [goSubVal_spec hr hbr]; apply clamp_of_inR; unfold inR minI maxI at *; omega
    have hnn : ¬ (acc.1.getD a - b < 0) := by omega
    rw [List.foldl_cons]
    simp only [hv, hnn, if_false]
    rw [ih hw.2]
    · rw [getD_set, getD_cons]
      by_cases hk : k = a
      · subst hk; simp [getD_of_not_has hw.1]
      · simp [hk]
    · intro p hp
      have hpa : p.1 ≠ a := by
        intro e
        have : has t a = true := by rw [has_iff_mem_keys]; exact List.mem_map.mpr ⟨p, hp, e⟩
        rw [hw.1] at this; cases this
      have := hle p (List.mem_cons_of_mem _ hp)
      simp only [getD_set, hpa, if_false]
      exact this

theorem snn_fold_wf (delta : Res) (acc : Res × List String) (hw : wf acc.1 = true) :
    wf ((delta.foldl (fun (acc : Res × List String) p =>
      let v := goSubVal (acc.1.getD p.1) p.2
      if v < 0 then (acc.1.set p.1 0, acc.2 ++ [p.1]) else (acc.1.set p.1 v, acc.2)) acc).1) = true := by
  induction delta generalizing acc with
  | nil => simpa
  | cons p t ih =>
    rw [List.foldl_cons]
    apply ih
    dsimp only
    split <;> exact set_wf _ hw _ _

theorem decPendingRes_wf (pending delta : Res) (hp : wf pending = true) : wf (decPendingRes pending delta) = true := by
  unfold decPendingRes subEliminateNegative subNonNegative orZero
  simp only [Option.getD_some]
  split
  · exact prune_wf _ (snn_fold_wf delta (pending, []) hp)
  · exact snn_fold_wf delta (pending, []) hp

theorem decPendingRes_getD (pending delta : Res) (hp : wf pending = true) (hd : wf delta = true)
    (hr : allInR pending) (h : ∀ k, 0 ≤ delta.getD k ∧ delta.getD k ≤ pending.getD k) (k : String) :
    (decPendingRes pending delta).getD k = pending.getD k - delta.getD k := by
  have hle : ∀ p ∈ delta, 0 ≤ p.2 ∧ p.2 ≤ pending.getD p.1 ∧ inR (pending.getD p.1) := by
    intro p hpm
    have := h p.1
    rw [getD_of_mem hd hpm] at this
    exact ⟨this.1, this.2, getD_inR hr _⟩
  have hg := snn_fold_getD delta hd (pending, []) hle k
  have hwf := snn_fold_wf delta (pending, []) hp
  unfold decPendingRes subEliminateNegative subNonNegative orZero
  simp only [Option.getD_some]
  split
  · rw [prune_getD _ hwf]; exact hg
  · exact hg

theorem nonNeg_getD {r : Res} (h : NonNeg r) (k : String) : 0 ≤ r.getD k := by
  rw [getD_eq_get?]
  cases hg : get? r k with
  | none => simp
  | some v => simpa using h (k, v) (mem_of_get? hg)

/-! ### node requests -/

theorem books_setRootMax (s : Core) (t : Res) (hb : Books s) : Books (setRootMax s t) := by
  refine ⟨hb.apps, ?_, hb.nodes⟩
  intro q' hq'
  show QueueBooks s.apps q'
  obtain ⟨q, hq, rfl⟩ := List.mem_map.mp hq'
  have := hb.queues q hq
  split
  · exact ⟨this.allocated, this.pending⟩
  · exact this

/-- the node object partition.AddNode stores -/
def freshNode (id : String) (cap : Res) (schedulable : Bool) : CNode :=
  { id := id, total := prune cap, occupied := [], allocated := [], available := prune cap, schedulable := schedulable,
    allocs := [], reservations := [] }

theorem nodeCreate_cases (s : Core) (id : String) (cap : Res) (b : Bool) :
    s.nodeCreate id cap b = s ∨
    (s.findNode id = none ∧ s.nodeCreate id cap b =
      setRootMax { s with nodes := s.nodes ++ [freshNode id cap b], total := prune (addX s.total (prune cap)) }
        (prune (addX s.total (prune cap)))) := by
  unfold nodeCreate
  cases s.findNode id with
  | some _ => exact Or.inl rfl
  | none => exact Or.inr ⟨rfl, rfl⟩

theorem books_nodeCreate (s : Core) (id : String) (cap : Res) (b : Bool) (hb : Books s) :
    Books (s.nodeCreate id cap b) := by
  rcases nodeCreate_cases s id cap b with h | ⟨_, h⟩
  · rw [h]; exact hb
  · rw [h]
    apply books_setRootMax
    exact ⟨hb.apps, hb.queues, forall_mem_snoc hb.nodes ⟨fun _ => rfl, fun k => by simp [freshNode]⟩⟩

theorem books_nodeUpdate (s : Core) (id : String) (cap : Res) (hw : CoreWF s) (hc : wf cap = true) (hb : Books s) :
    Books (s.nodeUpdate id cap) := by
  unfold nodeUpdate
  split
  · exact hb
  · split
    · exact hb
    · apply books_setRootMax
      refine ⟨hb.apps, hb.queues, ?_⟩
      show ∀ n ∈ updNs s.nodes id _, NodeBooks n
      apply books_upd_nodes _ _ _ hb.nodes
      intro n hn _ hnb
      obtain ⟨_, ho, ha, _⟩ := hw.nodeRes n hn
      have hp := prune_wf cap hc
      constructor
      · exact hnb.allocated
      · intro k
        show (prune (subX (subX (prune cap) n.allocated) n.occupied)).getD k = _
        rw [prune_getD _ (subX_wf _ _ (subX_wf _ _ hp)), subX_getD _ _ ho, subX_getD _ _ ha]

theorem books_nodeSchedulable (s : Core) (id : String) (b : Bool) (hb : Books s) : Books (s.nodeSchedulable id b) := by
  refine ⟨hb.apps, hb.queues, ?_⟩
  show ∀ n ∈ updNs s.nodes id _, NodeBooks n
  apply books_upd_nodes _ _ _ hb.nodes
  intro n _ _ hnb
  exact ⟨hnb.allocated, hnb.available⟩

/-! ### foreign allocations -/

theorem allocSum_append (l1 l2 : List CNodeAlloc) (k : String) : allocSum (l1 ++ l2) k = allocSum l1 k + allocSum l2 k :=
  sumIf_append _ _ _ _

theorem allocSum_rm (l : List CNodeAlloc) (hk : l.Pairwise (fun x y => x.key ≠ y.key)) (key : String) (x : CNodeAlloc)
    (hx : x ∈ l) (hkey : x.key = key) (k : String) :
    allocSum (l.filter (fun y => y.key != key)) k = allocSum l k - (if x.foreign = true then 0 else x.res.getD k) := by
  unfold allocSum
  have := sumIf_filter_rm l (fun y => y.key == key) (fun y => !y.foreign) (fun y => y.res.getD k) x
    (atMostOne_of_pairwise_ne l (·.key) key hk) hx (by simp [hkey])
  show sumIf (l.filter (fun y => !(y.key == key))) _ _ = _
  rw [this]
  cases x.foreign <;> simp

/-- Node.AddAllocation for a foreign allocation: it counts as occupied -/
def addForeignNode (key : String) (res : Res) (n : CNode) : CNode :=
  { n with allocs := n.allocs ++ [{ key := key, app := "", res := res, foreign := true, ph := false }],
           occupied := addX n.occupied res, available := prune (subX n.available res) }

theorem nodeBooks_addForeign (key : String) (res : Res) (n : CNode) (hv : wf n.available = true) (hr : wf res = true)
    (hb : NodeBooks n) : NodeBooks (addForeignNode key res n) := by
  constructor
  · intro k
    show n.allocated.getD k = allocSum (n.allocs ++ [_]) k
    rw [allocSum_append, hb.allocated k]; simp [allocSum, sumIf_single]
  · intro k
    show (prune (subX n.available res)).getD k = n.total.getD k - n.allocated.getD k - (addX n.occupied res).getD k
    rw [prune_subX_getD _ _ hv hr, addX_getD _ _ hr, hb.available k]; omega

theorem foreignAdd_cases (s : Core) (key node : String) (res : Res) :
    s.foreignAdd key node res = s ∨
    (s.foreign.contains key = false ∧ (s.findNode node).isSome = true ∧
      s.foreignAdd key node res = { updNode s node (addForeignNode key res) with foreign := s.foreign ++ [key] }) := by
  unfold foreignAdd
  by_cases hc : s.foreign.contains key = true
  · exact Or.inl (if_pos hc)
  · rw [if_neg hc]
    cases s.findNode node with
    | none => exact Or.inl rfl
    | some _ => exact Or.inr ⟨Bool.eq_false_iff.mpr hc, rfl, rfl⟩

/-- of the state only well-formed available vectors are used: the form the replay of YkProofs/Recover.lean needs -/
theorem books_foreignAdd_of (s : Core) (key node : String) (res : Res) (hv : ∀ n ∈ s.nodes, wf n.available = true)
    (hr : wf res = true) (hb : Books s) : Books (s.foreignAdd key node res) := by
  rcases foreignAdd_cases s key node res with h | ⟨_, _, h⟩
  · rw [h]; exact hb
  · rw [h]
    exact ⟨hb.apps, hb.queues, books_upd_nodes _ _ _ hb.nodes (fun n hn _ hnb => nodeBooks_addForeign key res n (hv n hn) hr hnb)⟩

theorem books_foreignAdd (s : Core) (key node : String) (res : Res) (hw : CoreWF s) (hr : wf res = true) (hb : Books s) :
    Books (s.foreignAdd key node res) :=
  books_foreignAdd_of s key node res (fun n hn => (hw.nodeRes n hn).2.2.2) hr hb

theorem books_foreignRemove (s : Core) (key : String) (hw : CoreWF s) (hb : Books s) : Books (s.foreignRemove key) := by
  unfold foreignRemove
  split
  · exact hb
  · have hb0 : Books { s with foreign := s.foreign.filter (· != key) } := ⟨hb.apps, hb.queues, hb.nodes⟩
    split
    · exact hb0
    · rename_i n hfind
      split
      · exact hb0
      · rename_i fa hfa
        have hnm : n ∈ s.nodes := List.mem_of_find?_eq_some hfind
        have hany := List.find?_some hfind
        obtain ⟨y, hy, hyk⟩ := List.any_eq_true.mp hany
        simp only [Bool.and_eq_true, beq_iff_eq] at hyk
        have hfam : fa ∈ n.allocs := List.mem_of_find?_eq_some hfa
        have hfak : fa.key = key := by simpa using List.find?_some hfa
        have hfy : fa = y := allocKeys_eq (hw.allocKeys n hnm) hfam hy (hfak.trans hyk.1.symm)
        have hff : fa.foreign = true := by rw [hfy]; exact hyk.2
        refine ⟨hb.apps, hb.queues, ?_⟩
        show ∀ m ∈ updNs s.nodes n.id _, NodeBooks m
        apply books_upd_nodes _ _ _ hb.nodes
        intro m hm hid hmb
        have : m = n := nodeIds_eq hw hnm hm hid
        subst this
        obtain ⟨_, ho, ha, hv⟩ := hw.nodeRes m hm
        have hfr := hw.allocRes m hm fa hfam
        constructor
        · intro k
          show m.allocated.getD k = allocSum (m.allocs.filter (fun y => y.key != key)) k
          rw [allocSum_rm _ (hw.allocKeys m hm) key fa hfam hfak, hmb.allocated k]; simp [hff]
        · intro k
          show (addX m.available fa.res).getD k = m.total.getD k - m.allocated.getD k - (subX m.occupied fa.res).getD k
          rw [addX_getD _ _ hfr, subX_getD _ _ hfr, hmb.available k]; omega

/-! ### sums over the items of an application -/

theorem itemSum_append (l1 l2 : List CItem) (c : CItem → Bool) (k : String) :
    itemSum (l1 ++ l2) c k = itemSum l1 c k + itemSum l2 c k := sumIf_append _ _ _ _

theorem itemSum_single (i : CItem) (c : CItem → Bool) (k : String) :
    itemSum [i] c k = if c i = true then i.res.getD k else 0 := sumIf_single _ _ _

theorem itemKeys_atMostOne {l : List CItem} (h : l.Pairwise (fun i j => i.key ≠ j.key)) (key : String) :
    AtMostOne l (fun x => x.key == key) := atMostOne_of_pairwise_ne l (·.key) key h

theorem itemSum_upd (l : List CItem) (hk : l.Pairwise (fun i j => i.key ≠ j.key)) (key : String) (g : CItem → CItem)
    (i : CItem) (hi : i ∈ l) (hkey : i.key = key) (c : CItem → Bool) (k : String) :
    itemSum (l.map (fun x => if (x.key == key) = true then g x else x)) c k =
      itemSum l c k - (if c i = true then i.res.getD k else 0) + (if c (g i) = true then (g i).res.getD k else 0) :=
  sumIf_map_upd l (fun x => x.key == key) g c _ i (itemKeys_atMostOne hk key) hi (by simp [hkey])

theorem itemSum_rm (l : List CItem) (hk : l.Pairwise (fun i j => i.key ≠ j.key)) (key : String)
    (x : CItem) (hx : x ∈ l) (hkey : x.key = key) (c : CItem → Bool) (k : String) :
    itemSum (l.filter (fun y => y.key != key)) c k = itemSum l c k - (if c x = true then x.res.getD k else 0) :=
  sumIf_filter_rm l (fun y => y.key == key) c _ x (itemKeys_atMostOne hk key) hx (by simp [hkey])

theorem AppBooks.append {a b : CApp} (hba : AppBooks a) (i : CItem) (hi : b.items = a.items ++ [i])
    (h1 : ∀ k, b.allocated.getD k = a.allocated.getD k + if (i.bound && !i.ph) = true then i.res.getD k else 0)
    (h2 : ∀ k, b.allocatedPh.getD k = a.allocatedPh.getD k + if (i.bound && i.ph) = true then i.res.getD k else 0)
    (h3 : ∀ k, b.pending.getD k = a.pending.getD k + if (i.inReq && !i.allocated) = true then i.res.getD k else 0) :
    AppBooks b :=
  ⟨fun k => by rw [hi, itemSum_append, itemSum_single, h1, hba.allocated],
   fun k => by rw [hi, itemSum_append, itemSum_single, h2, hba.allocatedPh],
   fun k => by rw [hi, itemSum_append, itemSum_single, h3, hba.pending]⟩

theorem AppBooks.update {a b : CApp} (hba : AppBooks a) (hkeys : a.items.Pairwise (fun i j => i.key ≠ j.key))
    {i : CItem} (him : i ∈ a.items) {key : String} (hkey : i.key = key) (g : CItem → CItem)
    (hi : b.items = a.items.map (fun x => if (x.key == key) = true then g x else x))
    (h1 : ∀ k, b.allocated.getD k = a.allocated.getD k - (if (i.bound && !i.ph) = true then i.res.getD k else 0)
      + (if ((g i).bound && !(g i).ph) = true then (g i).res.getD k else 0))
    (h2 : ∀ k, b.allocatedPh.getD k = a.allocatedPh.getD k - (if (i.bound && i.ph) = true then i.res.getD k else 0)
      + (if ((g i).bound && (g i).ph) = true then (g i).res.getD k else 0))
    (h3 : ∀ k, b.pending.getD k = a.pending.getD k - (if (i.inReq && !i.allocated) = true then i.res.getD k else 0)
      + (if ((g i).inReq && !(g i).allocated) = true then (g i).res.getD k else 0)) : AppBooks b :=
  ⟨fun k => by rw [hi, itemSum_upd _ hkeys key g i him hkey, h1, hba.allocated],
   fun k => by rw [hi, itemSum_upd _ hkeys key g i him hkey, h2, hba.allocatedPh],
   fun k => by rw [hi, itemSum_upd _ hkeys key g i him hkey, h3, hba.pending]⟩

/-! ### one application and the queues above it -/

theorem chain_iff (s : Core) (p : String) : ∀ q ∈ s.queues, ((pathChain s p).contains q.path = true ↔ under p q.path = true) := by
  intro q hq
  unfold pathChain
  rw [List.contains_iff_mem, List.mem_map]
  constructor
  · rintro ⟨q', hm, he⟩; rw [← he]; exact (List.mem_filter.mp hm).2
  · intro hu
    exact ⟨q, List.mem_filter.mpr ⟨hq, hu⟩, rfl⟩

/-- The frame of the books: one live application `a` becomes `f a` (which may leave the partition), every queue is mapped
    by `fq`; `fq` moves the totals of the queues at or above `a` by the change of its totals and keeps the others. -/
theorem books_upd (s t : Core) (id : String) (a : CApp) (f : CApp → CApp) (fq : CQueue → CQueue)
    (hta : t.apps = updApps s.apps id f) (htq : t.queues = s.queues.map fq) (htn : ∀ n ∈ t.nodes, NodeBooks n)
    (hu : s.apps.Pairwise (fun a b => a.live = true → b.live = true → a.id ≠ b.id))
    (ha : a ∈ s.apps) (hl : a.live = true) (hid : a.id = id)
    (hbA : ∀ x ∈ s.apps, x.live = true → AppBooks x) (hbQ : ∀ q ∈ s.queues, QueueBooks s.apps q)
    (hq : (f a).queue = a.queue)
    (hfa : (f a).live = true → AppBooks (f a))
    (hpath : ∀ q, (fq q).path = q.path)
    (hon : ∀ q ∈ s.queues, under a.queue q.path = true → ∀ k,
      (fq q).allocated.getD k = q.allocated.getD k - (a.allocated.getD k + a.allocatedPh.getD k)
          + (if (f a).live = true then (f a).allocated.getD k + (f a).allocatedPh.getD k else 0) ∧
      (fq q).pending.getD k = q.pending.getD k - a.pending.getD k
          + (if (f a).live = true then (f a).pending.getD k else 0))
    (hoff : ∀ q ∈ s.queues, ¬ under a.queue q.path = true → (fq q).allocated = q.allocated ∧ (fq q).pending = q.pending) :
    Books t := by
  have hda : (a.live && a.id == id) = true := by simp [hl, hid]
  refine ⟨?_, ?_, htn⟩
  · rw [hta]
    intro x hx hxl
    obtain ⟨y, hy, rfl⟩ := List.mem_map.mp hx
    by_cases hd : (y.live && y.id == id) = true
    · have : y = a := (appIds_atMostOne id hu).eq hy ha hd hda
      subst this
      rw [if_pos hd] at hxl ⊢
      exact hfa hxl
    · rw [if_neg hd] at hxl ⊢
      exact hbA y hy hxl
  · rw [hta, htq]
    intro q' hq'
    obtain ⟨q, hqm, rfl⟩ := List.mem_map.mp hq'
    have hb := hbQ q hqm
    have hsum := qsum_upd s.apps id f a hu ha hl hid hq q.path
    by_cases hun : under a.queue q.path = true
    · constructor
      · intro k
        rw [hpath, hsum, (hon q hqm hun k).1, hb.allocated k]
        by_cases hfl : (f a).live = true <;> simp [hun, hfl]
      · intro k
        rw [hpath, hsum, (hon q hqm hun k).2, hb.pending k]
        by_cases hfl : (f a).live = true <;> simp [hun, hfl]
    · obtain ⟨e1, e2⟩ := hoff q hqm hun
      exact ⟨fun k => by rw [hpath, hsum, e1, hb.allocated k]; simp [hun],
        fun k => by rw [hpath, hsum, e2, hb.pending k]; simp [hun]⟩

/-- `books_upd` for `updQueues` along a chain that names the queues at or above an application that stays live: its
    totals and theirs move by the same `dA` (allocated) and `dP` (pending).  The deltas are ADDED here; `QMove q q' X P`
    and the `Shape` frames over it (Core2Base.lean, Core2Shape.lean) SUBTRACT `X`, `P`. -/
theorem books_move (s t : Core) (app : String) (a : CApp) (f : CApp → CApp) (chain : List String) (fq : CQueue → CQueue)
    (dA dP : String → Int) (ham : a ∈ s.apps) (hl : a.live = true) (hid : a.id = app)
    (hu : s.apps.Pairwise (fun a b => a.live = true → b.live = true → a.id ≠ b.id)) (hb : Books s)
    (hta : t.apps = updApps s.apps app f) (htq : t.queues = updQs s.queues chain fq) (htn : ∀ n ∈ t.nodes, NodeBooks n)
    (hq : (f a).queue = a.queue) (hlive : (f a).live = true) (hfa : AppBooks (f a))
    (hchain : ∀ q ∈ s.queues, (chain.contains q.path = true ↔ under a.queue q.path = true))
    (hpath : ∀ q, (fq q).path = q.path)
    (happ : ∀ k, (f a).allocated.getD k + (f a).allocatedPh.getD k = a.allocated.getD k + a.allocatedPh.getD k + dA k ∧
      (f a).pending.getD k = a.pending.getD k + dP k)
    (hqs : ∀ q ∈ s.queues, under a.queue q.path = true → ∀ k,
      (fq q).allocated.getD k = q.allocated.getD k + dA k ∧ (fq q).pending.getD k = q.pending.getD k + dP k) : Books t := by
  refine books_upd s t app a f _ hta htq htn hu ham hl hid hb.apps hb.queues hq (fun _ => hfa) (fun q => ?_)
    (fun q hqm hun k => ?_) (fun q hqm hun => ?_)
  · split
    · exact hpath q
    · rfl
  · obtain ⟨h1, h2⟩ := hqs q hqm hun k
    obtain ⟨h3, h4⟩ := happ k
    rw [if_pos ((hchain q hqm).mpr hun), h1, h2, if_pos hlive, if_pos hlive]
    omega
  · rw [if_neg (fun h => hun ((hchain q hqm).mp h))]; exact ⟨rfl, rfl⟩

/-! ### an outstanding ask is counted in the pending totals; a node gains an allocation -/

theorem Books.pending_le {s : Core} (hb : Books s) (hw : CoreWF s) {a : CApp} (ha : a ∈ s.apps) (hl : a.live = true)
    {q : CQueue} (hq : q ∈ s.queues) (hun : under a.queue q.path = true) (k : String) :
    0 ≤ a.pending.getD k ∧ a.pending.getD k ≤ q.pending.getD k := by
  have hpos : ∀ x ∈ s.apps, x.live = true → 0 ≤ x.pending.getD k := by
    intro x hx hxl
    rw [(hb.apps x hx hxl).pending k]
    exact sumIf_nonneg _ _ _ (fun j hj _ => nonNeg_getD (hw.itemRes x hx hxl j hj).2 k)
  refine ⟨hpos a ha hl, ?_⟩
  rw [(hb.queues q hq).pending k]
  refine le_sumIf s.apps _ (fun x => x.pending.getD k) ?_ a ha (by simp [hl, hun])
  intro x hx hcx
  simp only [Bool.and_eq_true] at hcx
  exact hpos x hx hcx.1

theorem Books.item_pending_le {s : Core} (hb : Books s) (hw : CoreWF s) {a : CApp} (ha : a ∈ s.apps) (hl : a.live = true)
    {i : CItem} (hi : i ∈ a.items) (hc : (i.inReq && !i.allocated) = true)
    {q : CQueue} (hq : q ∈ s.queues) (hun : under a.queue q.path = true) (k : String) :
    0 ≤ i.res.getD k ∧ i.res.getD k ≤ a.pending.getD k ∧ a.pending.getD k ≤ q.pending.getD k := by
  refine ⟨nonNeg_getD (hw.itemRes a ha hl i hi).2 k, ?_, (hb.pending_le hw ha hl hq hun k).2⟩
  rw [(hb.apps a ha hl).pending k]
  exact le_sumIf a.items _ (fun j => j.res.getD k) (fun j hj _ => nonNeg_getD (hw.itemRes a ha hl j hj).2 k) i hi hc

/-- Node.AddAllocation -/
def addAllocNode (x : CNodeAlloc) (n : CNode) : CNode :=
  { n with allocs := n.allocs ++ [x], allocated := addX n.allocated x.res, available := prune (subX n.available x.res) }

theorem nodeBooks_addAlloc (x : CNodeAlloc) (n : CNode) (hf : x.foreign = false) (hv : wf n.available = true)
    (hr : wf x.res = true) (hb : NodeBooks n) : NodeBooks (addAllocNode x n) := by
  constructor
  · intro k
    show (addX n.allocated x.res).getD k = allocSum (n.allocs ++ [x]) k
    rw [addX_getD _ _ hr, allocSum_append, ← hb.allocated k]; simp [allocSum, sumIf_single, hf]
  · intro k
    show (prune (subX n.available x.res)).getD k = n.total.getD k - (addX n.allocated x.res).getD k - n.occupied.getD k
    rw [prune_subX_getD _ _ hv hr, addX_getD _ _ hr, hb.available k]; omega

/-! ### what the model's searches for an item found -/

theorem find_outstanding {l : List CItem} {key : String} {i : CItem}
    (h : l.find? (fun i => i.key == key && i.inReq && !i.allocated) = some i) :
    i ∈ l ∧ i.key = key ∧ i.inReq = true ∧ i.allocated = false := by
  have hp := List.find?_some h
  simp only [Bool.and_eq_true, beq_iff_eq, Bool.not_eq_true'] at hp
  exact ⟨List.mem_of_find?_eq_some h, hp.1.1, hp.1.2, hp.2⟩

theorem find_key_some {l : List CItem} {key : String} {i : CItem} (h : l.find? (·.key == key) = some i) :
    i ∈ l ∧ i.key = key :=
  ⟨List.mem_of_find?_eq_some h, by simpa using List.find?_some h⟩

/-- what RemoveAllocationAsk found: the request with that key -/
theorem find_request {l : List CItem} {key : String} {x : CItem} (h : l.find? (fun x => x.key == key && x.inReq) = some x) :
    x ∈ l ∧ x.key = key ∧ x.inReq = true :=
  ⟨List.mem_of_find?_eq_some h, by simpa using List.find?_some h⟩

/-! ### the side condition of the releases -/

/-- The side condition under which `releaseKey` is the modelled release path: if the item `i` the request names is a
    bound allocation of the application, its node is registered and lists the allocation (non-foreign, same size) —
    the implementation skips the node and queue update otherwise. -/
structure ReleaseOK (s : Core) (app key : String) : Prop where
  onNode : ∀ a i, s.findApp app = some a → a.items.find? (·.key == key) = some i → i.bound = true →
    ∃ n, s.findNode i.node = some n ∧ ∃ x ∈ n.allocs, x.key = key ∧ x.foreign = false ∧ ∀ k, x.res.getD k = i.res.getD k

/-! ### the executable clauses imply the books -/

theorem sparseEq_getD {a b : Res} (h : sparseEq a b = true) (k : String) : a.getD k = b.getD k := by
  unfold sparseEq at h
  by_cases hk : k ∈ a.keys ++ b.keys
  · simpa using List.all_eq_true.mp h k hk
  · rw [List.mem_append, not_or] at hk
    rw [getD_of_not_mem_keys hk.1, getD_of_not_mem_keys hk.2]

theorem sumRes_map_getD {α : Type} (l : List α) (f : α → Res) (hr : ∀ x ∈ l, wf (f x) = true) (k : String) :
    (sumRes (l.map f)).getD k = (l.map (fun x => (f x).getD k)).sum :=
  foldl_addX_map_getD l f hr k

theorem sumRes_filter_getD {α : Type} (l : List α) (c : α → Bool) (f : α → Res) (hr : ∀ x ∈ l, wf (f x) = true) (k : String) :
    (sumRes ((l.filter c).map f)).getD k = sumIf l c (fun x => (f x).getD k) :=
  sumRes_map_getD _ _ (fun x hx => hr x (List.mem_filter.mp hx).1) k

theorem sum_ite_atMostOne {β : Type} (cs : List β) (P : β → Bool) (v : Int) (hu : AtMostOne cs P) :
    (cs.map (fun c => if P c = true then v else 0)).sum = if cs.any P = true then v else 0 := by
  induction cs with
  | nil => rfl
  | cons c t ih =>
    have hp := List.pairwise_cons.mp hu
    rw [List.map_cons, List.sum_cons, ih hp.2, List.any_cons]
    cases hc : P c with
    | false => simp
    | true =>
      have : t.any P = false := by
        rw [List.any_eq_false]; intro x hx hpx; exact hp.1 x hx hc hpx
      simp [this]

/-- the applications below a parent queue are partitioned by its children -/
theorem sum_partition {α β : Type} (cs : List β) (l : List α) (L : α → Bool) (U : α → β → Bool) (V : α → Bool) (g : α → Int)
    (hex : ∀ a ∈ l, L a = true → V a = cs.any (U a))
    (hdis : ∀ a ∈ l, L a = true → AtMostOne cs (U a)) :
    (cs.map (fun c => sumIf l (fun a => L a && U a c) g)).sum = sumIf l (fun a => L a && V a) g := by
  induction l with
  | nil => simp only [sumIf_nil]; exact sum_map_zero cs
  | cons a t ih =>
    have ih' := ih (fun x hx => hex x (List.mem_cons_of_mem _ hx)) (fun x hx => hdis x (List.mem_cons_of_mem _ hx))
    simp only [sumIf_cons]
    rw [sum_map_add, ih']
    congr 1
    cases hl : L a with
    | false => simp only [Bool.false_and, Bool.false_eq_true, if_false]; exact sum_map_zero cs
    | true =>
      simp only [Bool.true_and]
      rw [sum_ite_atMostOne cs (U a) (g a) (hdis a List.mem_cons_self hl), hex a List.mem_cons_self hl]

/-- Shape of the queue tree relative to `under` (the hierarchy is encoded in the paths): children are deeper than their
    parent, applications sit in leaf queues (below a leaf there is only the leaf), and an application is below a parent
    queue exactly if it is below one — and only one — of its children. -/
structure QueueTreeWF (s : Core) : Prop where
  deeper : ∀ q ∈ s.queues, ∀ c ∈ s.children q.path, q.path.length < c.path.length
  leafApps : ∀ q ∈ s.queues, q.leaf = true → ∀ a ∈ s.apps, a.live = true → under a.queue q.path = (a.queue == q.path)
  parentApps : ∀ q ∈ s.queues, q.leaf = false → ∀ a ∈ s.apps, a.live = true →
    under a.queue q.path = (s.children q.path).any (fun c => under a.queue c.path)
  disjoint : ∀ q ∈ s.queues, q.leaf = false → (s.children q.path).Pairwise (fun c d =>
    ∀ a ∈ s.apps, a.live = true → under a.queue c.path = true → under a.queue d.path = true → False)

theorem clause_none {s : Core} (h : s.conserved = none) (c : Core → Option String) (hc : c ∈ conservedClauses) : c s = none := by
  unfold conserved at h
  exact List.findSome?_eq_none_iff.mp h c hc

theorem mem_length_le_sum (l : List CQueue) (q : CQueue) (hq : q ∈ l) : q.path.length ≤ (l.map (fun x => x.path.length)).sum := by
  induction l with
  | nil => cases hq
  | cons b t ih =>
    rw [List.map_cons, List.sum_cons]
    cases hq with
    | head => omega
    | tail _ h => have := ih h; omega

theorem appBooks_of_exec (s : Core) (hw : CoreWF s) (h1 : s.conserved = none) : ∀ a ∈ s.apps, a.live = true → AppBooks a := by
  intro a ha hl
  have hlive : a ∈ s.liveApps := mem_liveApps.mpr ⟨ha, hl⟩
  have key : ∀ (r : Res) (c : CItem → Bool) (msg : String),
      (if sparseEq r (sumRes ((a.items.filter c).map (·.res))) = true then none else some msg) = none →
      ∀ k, r.getD k = itemSum a.items c k := by
    intro r c msg h k
    split at h
    · rename_i he
      rw [sparseEq_getD he k]; exact sumRes_filter_getD _ c _ (fun i hi => (hw.itemRes a ha hl i hi).1) k
    · cases h
  refine ⟨?_, ?_, ?_⟩
  · have := List.findSome?_eq_none_iff.mp (clause_none h1 I1 (.head _)) a hlive
    exact key _ _ _ this
  · have := List.findSome?_eq_none_iff.mp (clause_none h1 I2 (.tail _ (.head _))) a hlive
    exact key _ _ _ this
  · have := List.findSome?_eq_none_iff.mp (clause_none h1 I3 (.tail _ (.tail _ (.head _)))) a hlive
    exact key _ _ _ this

theorem checks_none {b1 b2 : Bool} {m1 m2 : String}
    (h : (if (!b1) = true then some m1 else if (!b2) = true then some m2 else none) = none) : b1 = true ∧ b2 = true := by
  cases b1 <;> cases b2 <;> simp at h ⊢

theorem nodeBooks_of_exec (s : Core) (hw : CoreWF s) (h2 : s.nodeLedger = none) : ∀ n ∈ s.nodes, NodeBooks n := by
  intro n hn
  obtain ⟨he1, he2⟩ := checks_none (List.findSome?_eq_none_iff.mp h2 n hn)
  obtain ⟨_, ho, ha, _⟩ := hw.nodeRes n hn
  constructor
  · intro k
    rw [sparseEq_getD he1 k]; exact sumRes_filter_getD _ _ _ (hw.allocRes n hn) k
  · intro k
    rw [sparseEq_getD he2 k, subX_getD _ _ ho, subX_getD _ _ ha]

theorem I4_none {s : Core} (h : I4 s = none) (q : CQueue) (hq : q ∈ s.queues) (hl : q.leaf = true) :
    sparseEq q.allocated (sumRes ((s.liveApps.filter (fun a => a.queue == q.path)).map (fun a => addX a.allocated a.allocatedPh))) = true ∧
    sparseEq q.pending (sumRes ((s.liveApps.filter (fun a => a.queue == q.path)).map (·.pending))) = true :=
  checks_none (List.findSome?_eq_none_iff.mp h q (List.mem_filter.mpr ⟨hq, hl⟩))

theorem I5_none {s : Core} (h : I5 s = none) (q : CQueue) (hq : q ∈ s.queues) (hl : q.leaf = false) :
    sparseEq q.allocated (sumRes ((s.children q.path).map (·.allocated))) = true ∧
    sparseEq q.pending (sumRes ((s.children q.path).map (·.pending))) = true :=
  checks_none (List.findSome?_eq_none_iff.mp h q (List.mem_filter.mpr ⟨hq, by simp [hl]⟩))

theorem queueBooks_of_exec (s : Core) (hw : CoreWF s) (ht : QueueTreeWF s) (h1 : s.conserved = none) :
    ∀ q ∈ s.queues, QueueBooks s.apps q := by
  have h4 := clause_none h1 I4 (.tail _ (.tail _ (.tail _ (.head _))))
  have h5 := clause_none h1 I5 (.tail _ (.tail _ (.tail _ (.tail _ (.head _)))))
  have main : ∀ n : Nat, ∀ q ∈ s.queues, (s.queues.map (fun x => x.path.length)).sum - q.path.length < n → QueueBooks s.apps q := by
    intro n
    induction n with
    | zero => intro q _ h; omega
    | succ n ih =>
      intro q hq hlt
      cases hleaf : q.leaf with
      | true =>
        obtain ⟨e1, e2⟩ := I4_none h4 q hq hleaf
        have hmine : ∀ a ∈ s.liveApps.filter (fun a => a.queue == q.path), a ∈ s.apps ∧ a.live = true :=
          fun a ha => mem_liveApps.mp (List.mem_filter.mp ha).1
        have hcongr : ∀ g : CApp → Int, sumIf s.apps (fun a => a.live && (a.queue == q.path)) g = qsum s.apps q.path g := by
          intro g
          apply sumIf_congr
          intro a ha
          cases hl : a.live with
          | false => simp
          | true => simp only [Bool.true_and]; rw [ht.leafApps q hq hleaf a ha hl]
        constructor
        · intro k
          rw [sparseEq_getD e1 k, sumRes_map_getD _ _ (fun a ha => addX_wf _ _ (hw.appRes a (hmine a ha).1 (hmine a ha).2).2.1),
            ← hcongr, ← sumIf_liveApps]
          congr 1
          apply List.map_congr_left
          intro a ha
          exact addX_getD _ _ (hw.appRes a (hmine a ha).1 (hmine a ha).2).2.2 k
        · intro k
          rw [sparseEq_getD e2 k, sumRes_map_getD _ _ (fun a ha => (hw.appRes a (hmine a ha).1 (hmine a ha).2).1),
            ← hcongr, ← sumIf_liveApps]
      | false =>
        obtain ⟨e1, e2⟩ := I5_none h5 q hq hleaf
        have hch : ∀ c ∈ s.children q.path, c ∈ s.queues ∧ QueueBooks s.apps c := by
          intro c hc
          have hcq : c ∈ s.queues := (List.mem_filter.mp hc).1
          refine ⟨hcq, ih c hcq ?_⟩
          have h1 := ht.deeper q hq c hc
          have h2 := mem_length_le_sum s.queues c hcq
          omega
        have hpart : ∀ g : CApp → Int,
            ((s.children q.path).map (fun c => qsum s.apps c.path g)).sum = qsum s.apps q.path g := by
          intro g
          unfold qsum
          apply sum_partition (s.children q.path) s.apps (fun a => a.live) (fun a c => under a.queue c.path)
            (fun a => under a.queue q.path) g
          · intro a ha hl; exact ht.parentApps q hq hleaf a ha hl
          · intro a ha hl
            refine List.Pairwise.imp ?_ (ht.disjoint q hq hleaf)
            intro c d h hc hd; exact h a ha hl hc hd
        constructor
        · intro k
          rw [sparseEq_getD e1 k, sumRes_map_getD _ _ (fun c hc => (hw.queueRes c (hch c hc).1).1), ← hpart]
          congr 1
          apply List.map_congr_left
          intro c hc; exact (hch c hc).2.allocated k
        · intro k
          rw [sparseEq_getD e2 k, sumRes_map_getD _ _ (fun c hc => (hw.queueRes c (hch c hc).1).2.1), ← hpart]
          congr 1
          apply List.map_congr_left
          intro c hc; exact (hch c hc).2.pending k
  intro q hq
  exact main _ q hq (Nat.lt_succ_self _)

end Yk
