/- The placement model (YkModel/Place.lean, YkModel/PlaceSpec.lean) behind YkProps/C17: PlaceApplication takes the first
   rule whose result passes the checks (`FirstPassing`), AddApplication makes queues only below the deepest existing
   one (`NewBelow`); `addApp_spec` is everything an accepted placement says, `runRule_queue` what a rule returns. -/
import YkModel.Place
import YkModel.PlaceSpec
namespace Yk.Place

/-- what the loop body of PlaceApplication works with for the rule `r` (`last`: it is the last rule) -/
def offer (rx : Str → Str → Bool) (t : Tree) (a : App) (r : Rule) (last : Bool) : Option QName :=
  match runRule rx t a r with
  | .err _ => none
  | res => yields t res last

/-- `r` is the first rule of `rs`, in configured order, whose result passes the checks, and the result is `n`: every
    rule before it runs without error and yields nothing or a queue name that fails the checks (without panic) -/
def FirstPassing (rx : Str → Str → Bool) (t : Tree) (a : App) (rs : List Rule) (r : Rule) (n : QName) : Prop :=
  ∃ pre post, rs = pre ++ r :: post ∧
    (∀ e, runRule rx t a r ≠ .err e) ∧ offer rx t a r post.isEmpty = some n ∧ eligible t a n = some true ∧
    ∀ r' ∈ pre, (∀ e, runRule rx t a r' ≠ .err e) ∧
      ∀ n', offer rx t a r' false = some n' → eligible t a n' = some false

/-- what is true of the queues that an AddApplication call adds: they hang on the path of the placed name below the
    deepest queue that existed, which is not a leaf; leaves get its child template — the template-controlled settings
    AND the effective settings derived from the template's properties (`dynSettings`: on the recovery queue path nothing
    is derived, UpdateQueueProperties returns early) —, parents carry the template on and have blank settings -/
def NewBelow (t : Tree) (n : QName) (news : List Queue) : Prop :=
  ∃ anc, walkUp t n = some anc ∧ anc.leaf = false ∧
    ∀ x ∈ news, anc.path <+: x.path ∧ x.path <+: lowerName n ∧ x.managed = false ∧ x.draining = false ∧
      (x.leaf = true → x.cfg = anc.tpl ∧ x.tpl = [] ∧ x.tplProps = [] ∧ x.set = dynSettings x.path true anc.tplProps) ∧
      (x.leaf = false → x.tpl = anc.tpl ∧ x.cfg = [] ∧ x.tplProps = anc.tplProps ∧ x.set = dynSettings x.path false [])

/-- a configured list (users or groups) none of whose entries newFilter can use: it is not empty, no entry is a valid
    name, and a single entry is not a regular expression either -/
def NoUsable (valid : Str → Bool) (l : List Str) : Prop :=
  l ≠ [] ∧ (∀ x ∈ l, valid x = false) ∧ (∀ x, l = [x] → hasSpecial x = false)

theorem lowerName_append (a b : QName) : lowerName (a ++ b) = lowerName a ++ lowerName b := by
  simp [lowerName]

theorem lowerName_rootQ : lowerName rootQ = rootQ := by decide +kernel
theorem lowerName_recoveryQ : lowerName recoveryQ = recoveryQ := by decide +kernel

theorem lowerName_defaultQ_ne : lowerName defaultQ ≠ recoveryQ := by decide +kernel

theorem filterList_nil (valid compiles : Str → Bool) : filterList valid compiles [] = ([], none, true) := rfl

theorem ite_eq_cases {α : Type} {c : Prop} [Decidable c] {x y z : α} (h : (if c then y else x) = z) :
    c ∧ y = z ∨ ¬c ∧ x = z := by
  by_cases hc : c
  · rw [if_pos hc] at h; exact Or.inl ⟨hc, h⟩
  · rw [if_neg hc] at h; exact Or.inr ⟨hc, h⟩

theorem of_ite_ne {α : Type} {c : Prop} [Decidable c] {x y z : α} (h : (if c then y else x) = z) (hy : y ≠ z) :
    ¬c ∧ x = z :=
  (ite_eq_cases h).resolve_left (fun hc => hy hc.2)

section
variable {rx : Str → Str → Bool} {t t' : Tree} {a : App} {rules : List Rule} {n : QName} {out : Outcome}

theorem findQ_some {p : QName} {q : Queue} (h : findQ t p = some q) : q ∈ t ∧ q.path = p := by
  unfold findQ at h
  have h1 := List.mem_of_find?_eq_some h
  have h2 := List.find?_some h
  exact ⟨h1, by simpa using h2⟩

theorem getQueue_some {q : Queue} (h : getQueue t n = some q) :
    q ∈ t ∧ q.path = lowerName n ∧ findQ t (lowerName n) = some q ∧ (lowerName n).head? = some sRoot := by
  unfold getQueue at h
  rcases ite_eq_cases h with ⟨hr, h⟩ | ⟨_, h⟩
  · exact ⟨(findQ_some h).1, (findQ_some h).2, h, hr⟩
  · cases h

theorem lowerName_take (a : QName) (k : Nat) : lowerName (a.take k) = (lowerName a).take k := by
  simp [lowerName, List.map_take]

theorem lowerName_drop (a : QName) (k : Nat) : lowerName (a.drop k) = (lowerName a).drop k := by
  simp [lowerName, List.map_drop]

theorem lowerName_length (a : QName) : (lowerName a).length = a.length := by simp [lowerName]

/-! ### CheckSubmitAccess: somebody on the path lets the user in -/

/-- `checkSubmitR` and `walkUpR` work on the reversed name: an end piece `s` of the reversed name is, read forwards, an
    initial piece of the name -/
theorem reverse_eq_take_of_suffix {α : Type} {s p : List α} (h : s <:+ p.reverse) : s.reverse = p.take s.length := by
  have h' : s.reverse <+: p := by rw [← List.reverse_reverse p]; exact List.reverse_prefix.mpr h
  simpa using List.prefix_iff_eq_take.mp h'

theorem checkSubmitR_path {u : User} {r : List Str} (h : checkSubmitR t u r = true) :
    ∃ s, s ≠ [] ∧ s <:+ r ∧ ownAllows t u s.reverse = true := by
  induction r with
  | nil => cases h
  | cons x rest ih =>
    rw [checkSubmitR] at h
    obtain ⟨_, h⟩ := of_ite_ne h nofun
    rcases (Bool.or_eq_true _ _).mp h with h | h
    · exact ⟨x :: rest, nofun, List.suffix_refl _, h⟩
    · obtain ⟨s, h1, h2, h3⟩ := ih h
      exact ⟨s, h1, h2.trans (List.suffix_cons x rest), h3⟩

theorem checkSubmit_path {u : User} {p : QName} (h : checkSubmit t u p = true) :
    ∃ k, 0 < k ∧ k ≤ p.length ∧ ownAllows t u (p.take k) = true := by
  obtain ⟨s, h1, h2, h3⟩ := checkSubmitR_path h
  rw [reverse_eq_take_of_suffix h2] at h3
  exact ⟨s.length, List.length_pos_iff.mpr h1, by simpa using h2.length_le, h3⟩

theorem walkUpR_some {r : List Str} {q : Queue} (h : walkUpR t r = some q) :
    ∃ s, s ≠ [] ∧ s <:+ r ∧ s.length < r.length ∧ getQueue t s.reverse = some q := by
  -- the four branches of `walkUpR` in the order of its text (binders by position); a new branch there renumbers them
  fun_induction walkUpR t r with
  | case1 => cases h
  | case2 => cases h
  | case3 x y rest q' hq =>
    cases h
    exact ⟨y :: rest, nofun, List.suffix_cons x _, Nat.lt_succ_self _, hq⟩
  | case4 x y rest hq ih =>
    obtain ⟨s, h1, h2, h3, h4⟩ := ih h
    exact ⟨s, h1, h2.trans (List.suffix_cons x _), Nat.lt_succ_of_lt h3, h4⟩

theorem walkUp_path {q : Queue} (h : walkUp t n = some q) :
    q.path <+: lowerName n ∧ q.path.length < n.length ∧ q ∈ t ∧ (lowerName n).head? = some sRoot := by
  obtain ⟨s, _, h2, h3, h4⟩ := walkUpR_some h
  obtain ⟨hm, hp, _, hr⟩ := getQueue_some h4
  have hpre : q.path <+: lowerName n := by
    have := (List.reverse_prefix.mpr h2).map lower
    rw [List.reverse_reverse] at this
    rw [hp]; exact this
  refine ⟨hpre, by rw [hp, lowerName_length, List.length_reverse]; simpa using h3, hm, ?_⟩
  obtain ⟨w, hw⟩ := hpre
  rw [← hw, List.head?_append, hp, hr]; rfl

/-! ### PlaceApplication = the first rule whose result passes the checks -/

/-- `choose` runs the loop of `place`: in every branch of `place` it takes the same branch -/
theorem place_placed_iff (rx : Str → Str → Bool) (t : Tree) (a : App) (rs : List Rule) (n : QName) :
    place rx t a rs = .placed n ↔ ∃ r, choose rx t a rs = some (r, n) := by
  fun_induction place rx t a rs <;> simp [choose, *]

theorem offer_eq {r : Rule} (last : Bool)
    (hne : ∀ e, runRule rx t a r ≠ .err e) : offer rx t a r last = yields t (runRule rx t a r) last := by
  unfold offer
  split
  · exact absurd ‹_› (hne _)
  · rfl

theorem FirstPassing.cons {rs : List Rule} {r r0 : Rule}
    (h : FirstPassing rx t a rs r n) (hne : ∀ e, runRule rx t a r0 ≠ .err e)
    (hoff : ∀ n', offer rx t a r0 rs.isEmpty = some n' → eligible t a n' = some false) :
    FirstPassing rx t a (r0 :: rs) r n := by
  obtain ⟨pre, post, hrs, h1, h2, h3, h4⟩ := h
  have hf : rs.isEmpty = false := by rw [hrs]; cases pre <;> rfl
  rw [hf] at hoff
  refine ⟨r0 :: pre, post, by rw [hrs]; rfl, h1, h2, h3, ?_⟩
  intro r' hr'
  rcases List.mem_cons.mp hr' with e | hm
  · rw [e]; exact ⟨hne, hoff⟩
  · exact h4 r' hm

theorem choose_first (rx : Str → Str → Bool) (t : Tree) (a : App) (rs : List Rule) (r : Rule) (n : QName)
    (h : choose rx t a rs = some (r, n)) : FirstPassing rx t a rs r n := by
  -- the six branches of `choose` in the order of its text (case3, case6: the rule is passed over; case5: it is chosen);
  -- a new branch there renumbers them
  fun_induction choose rx t a rs with
  | case1 => cases h
  | case2 => cases h
  | case3 r0 rest hne hy ih =>
    exact (ih h).cons hne (fun n' hn' => by rw [offer_eq _ hne, hy] at hn'; cases hn')
  | case4 => cases h
  | case5 r0 rest m he hne hy =>
    cases h
    exact ⟨[], rest, rfl, hne, by rw [offer_eq _ hne, hy], he, nofun⟩
  | case6 r0 rest m he hne hy ih =>
    exact (ih h).cons hne (fun n' hn' => by rw [offer_eq _ hne, hy] at hn'; cases hn'; exact he)

/-! ### AddApplication: the queues a call creates -/

/-- what is true of a queue made below the existing queue `anc` on the way to the path `full`: the clause of `NewBelow` for one
    new queue, in the same words (a change to one is a change to both) -/
def CreatedUnder (anc : Queue) (full : QName) (x : Queue) : Prop :=
  anc.path <+: x.path ∧ x.path <+: full ∧ x.managed = false ∧ x.draining = false ∧
    (x.leaf = true → x.cfg = anc.tpl ∧ x.tpl = [] ∧ x.tplProps = [] ∧ x.set = dynSettings x.path true anc.tplProps) ∧
    (x.leaf = false → x.tpl = anc.tpl ∧ x.cfg = [] ∧ x.tplProps = anc.tplProps ∧ x.set = dynSettings x.path false [])

theorem createdUnder_newDynamic (parent : Queue) (name : Str) (leaf : Bool) {full : QName}
    (h : parent.path ++ [lower name] <+: full) : CreatedUnder parent full (newDynamic parent name leaf) :=
  ⟨List.prefix_append _ _, h, rfl, rfl,
    fun (hl : leaf = true) => by subst hl; exact ⟨rfl, rfl, rfl, rfl⟩,
    fun (hl : leaf = false) => by subst hl; exact ⟨rfl, rfl, rfl, rfl⟩⟩

/-- a new parent queue carries the template on: what is made below it is as if made below its own parent -/
theorem CreatedUnder.of_newDynamic {parent : Queue} {name : Str} {full : QName} {x : Queue}
    (h : CreatedUnder (newDynamic parent name false) full x) : CreatedUnder parent full x := by
  obtain ⟨h1, h2, h3, h4, h5, h6⟩ := h
  exact ⟨(List.prefix_append _ _).trans h1, h2, h3, h4, h5, h6⟩

theorem refuses_or {c : Prop} [Decidable c] {e : Reason} {x : Tree × Except Reason Queue} {res : Except Reason Queue}
    (h : (if c then (t, .error e) else x) = (t', res)) : (t' = t ∧ ∃ e, res = .error e) ∨ ¬c ∧ x = (t', res) := by
  rcases ite_eq_cases h with ⟨_, h⟩ | h
  · cases h; exact Or.inl ⟨rfl, _, rfl⟩
  · exact Or.inr h

theorem createChain_spec {names : List Str} {parent : Queue} {res : Except Reason Queue}
    (h : createChain t parent names = (t', res)) :
    ∃ news, t' = t ++ news ∧ (news ≠ [] → parent.leaf = false) ∧
      (∀ x ∈ news, CreatedUnder parent (parent.path ++ lowerName names) x) ∧
      ∀ q, res = .ok q → q.path = parent.path ++ lowerName names ∧ (q = parent ∧ names = [] ∨ q ∈ news ∧ q.leaf = true) := by
  -- the six branches of `createChain` in the order of its text (case2–case5: the four refusals; case6: a queue is made);
  -- a new branch there renumbers them
  fun_induction createChain t parent names with
  | case1 t parent =>
    cases h
    exact ⟨[], (List.append_nil _).symm, fun h => absurd rfl h, fun _ hx => absurd hx List.not_mem_nil,
      fun q hq => by cases hq; exact ⟨(List.append_nil _).symm, Or.inl ⟨rfl, rfl⟩⟩⟩
  | case2 | case3 | case4 | case5 =>
    cases h
    exact ⟨[], (List.append_nil _).symm, fun h => absurd rfl h, fun _ hx => absurd hx List.not_mem_nil, fun _ hq => nomatch hq⟩
  | case6 t parent name rest _ _ hpl _ ih =>
    obtain ⟨news, hn1, hn2, hn3, hn4⟩ := ih h
    have hfull : (newDynamic parent name rest.isEmpty).path ++ lowerName rest = parent.path ++ lowerName (name :: rest) :=
      List.append_assoc ..
    rw [hfull] at hn3 hn4
    refine ⟨newDynamic parent name rest.isEmpty :: news, by rw [hn1, List.append_assoc]; rfl, fun _ => by simpa using hpl, ?_, ?_⟩
    · intro x hx
      rcases List.mem_cons.mp hx with e | hm
      · rw [e]
        exact createdUnder_newDynamic _ _ _ (by rw [← hfull]; exact List.prefix_append _ _)
      · -- a queue below the new one exists only when the new one is a parent
        have hl : rest.isEmpty = false := hn2 (List.ne_nil_of_mem hm)
        have := hn3 x hm
        rw [hl] at this
        exact this.of_newDynamic
    · intro q hq
      obtain ⟨q1, ⟨e, hr⟩ | ⟨q2, q3⟩⟩ := hn4 q hq
      · exact ⟨q1, Or.inr ⟨by rw [e]; exact List.mem_cons_self, by rw [e, hr]; rfl⟩⟩
      · exact ⟨q1, Or.inr ⟨List.mem_cons_of_mem _ q2, q3⟩⟩
/-- createQueue fails without a trace, or everything new hangs below the deepest existing queue on the name's path,
    which is not a leaf and admits the user -/
theorem createQueue_spec {u : User} {res : Except Reason Queue} (h : createQueue t u n = (t', res)) :
    (t' = t ∧ ∃ e, res = .error e) ∨
    ∃ news anc, t' = t ++ news ∧ walkUp t n = some anc ∧ anc.leaf = false ∧ checkSubmit t u anc.path = true ∧
      (∀ x ∈ news, CreatedUnder anc (lowerName n) x) ∧
      ∀ q, res = .ok q → q.path = lowerName n ∧ q ∈ news ∧ q.leaf = true := by
  unfold createQueue at h
  rcases refuses_or h with hs | ⟨_, h⟩
  · exact Or.inl hs
  cases hw : walkUp t n with
  | none => rw [hw] at h; cases h; exact Or.inl ⟨rfl, _, rfl⟩
  | some anc =>
    rw [hw] at h
    simp only at h
    rcases refuses_or h with hs | ⟨hcs, h⟩
    · exact Or.inl hs
    rcases refuses_or h with hs | ⟨hleaf, h⟩
    · exact Or.inl hs
    obtain ⟨⟨w, hw'⟩, hlt, _, _⟩ := walkUp_path hw
    have hfull : anc.path ++ lowerName (n.drop anc.path.length) = lowerName n := by
      rw [lowerName_drop, ← hw', List.drop_left]
    obtain ⟨news, hn1, _, hn2, hn3⟩ := createChain_spec h
    rw [hfull] at hn2 hn3
    refine Or.inr ⟨news, anc, hn1, rfl, by simpa using hleaf, by simpa using hcs, hn2, ?_⟩
    intro q hq
    obtain ⟨q1, ⟨_, e⟩ | q2⟩ := hn3 q hq
    · exact absurd (List.drop_eq_nil_iff.mp e) (Nat.not_le_of_gt hlt)
    · exact ⟨q1, q2⟩

theorem createRecovery_spec {res : Except Reason Queue} (h : createRecovery t = (t', res)) :
    (t' = t ∧ ∃ e, res = .error e) ∨
    ∃ root, findQ t rootQ = some root ∧ root.leaf = false ∧ t' = t ++ [newRecovery root] ∧ res = .ok (newRecovery root) := by
  unfold createRecovery at h
  cases hr : findQ t rootQ with
  | none => rw [hr] at h; cases h; exact Or.inl ⟨rfl, _, rfl⟩
  | some root =>
    rw [hr] at h
    simp only at h
    rcases refuses_or h with hs | ⟨hleaf, h⟩
    · exact Or.inl hs
    rcases refuses_or h with hs | ⟨_, h⟩
    · exact Or.inl hs
    cases h
    exact Or.inr ⟨root, rfl, by simpa using hleaf, rfl, rfl⟩

theorem walkUp_recovery {root : Queue} (hn : isRecoveryName n = true)
    (hr : findQ t rootQ = some root) : walkUp t n = some root := by
  have hl : lowerName n = recoveryQ := by simpa [isRecoveryName] using hn
  cases n with
  | nil => simp [lowerName, recoveryQ] at hl
  | cons x n1 =>
    cases n1 with
    | nil => simp [lowerName, recoveryQ] at hl
    | cons y n2 =>
      cases n2 with
      | cons z n3 => simp [lowerName, recoveryQ] at hl
      | nil =>
        have hx : lower x = sRoot := by
          simp [lowerName, recoveryQ] at hl; exact hl.1
        have hg : getQueue t [x] = some root := by
          simp [getQueue, lowerName, hx]
          exact hr
        simp [walkUp, walkUpR, hg]

/-- the creation step of AddApplication for the placed name `n`: it fails without a trace, or adds queues below the
    deepest existing queue — for a spelling of the recovery queue name just the recovery leaf -/
theorem create_spec {u : User} {res : Except Reason Queue}
    (h : (if isRecoveryName n then createRecovery t else createQueue t u n) = (t', res)) :
    (t' = t ∧ ∃ e, res = .error e) ∨ ∃ news, t' = t ++ news ∧ NewBelow t n news ∧
      (isRecoveryName n = true → ∀ x ∈ news, x.leaf = true ∧ x.path = recoveryQ) ∧
      ∀ q, res = .ok q → q.path = lowerName n ∧ q ∈ news ∧ q.leaf = true := by
  rcases ite_eq_cases h with ⟨hrec, h⟩ | ⟨hrec, h⟩
  · rcases createRecovery_spec h with hs | ⟨root, hr, hl, e1, e2⟩
    · exact Or.inl hs
    have hn : lowerName n = recoveryQ := by simpa [isRecoveryName] using hrec
    have hp : (newRecovery root).path = recoveryQ := by
      show root.path ++ [lower sRecovery] = recoveryQ
      rw [(findQ_some hr).2]; decide +kernel
    refine Or.inr ⟨[newRecovery root], e1, ⟨root, walkUp_recovery hrec hr, hl, ?_⟩, ?_, ?_⟩
    · intro x hx
      rw [List.mem_singleton.mp hx]
      exact createdUnder_newDynamic root sRecovery true (by rw [hn, ← hp]; exact List.prefix_refl _)
    · intro _ x hx
      rw [List.mem_singleton.mp hx]
      exact ⟨rfl, hp⟩
    · intro q hq
      rw [e2] at hq; cases hq
      exact ⟨by rw [hn]; exact hp, List.mem_singleton.mpr rfl, rfl⟩
  · rcases createQueue_spec h with hs | ⟨news, anc, e1, hw, hl, _, hall, hok⟩
    · exact Or.inl hs
    · exact Or.inr ⟨news, e1, ⟨anc, hw, hl, hall⟩, fun hr => absurd hr hrec, hok⟩

def AddAppSpec (rx : Str → Str → Bool) (t : Tree) (rules : List Rule) (a : App) (news : Tree) (out : Outcome) : Prop :=
  (∀ q, out = .accepted q → ∃ r n, choose rx t a rules = some (r, n) ∧ q = lowerName n ∧
    ((∃ x, getQueue t n = some x ∧ x.leaf = true ∧ x.path = q ∧ news = []) ∨
     (getQueue t n = none ∧ ∃ x ∈ news, x.path = q ∧ x.leaf = true))) ∧
  (news ≠ [] → ∃ r n, choose rx t a rules = some (r, n) ∧ getQueue t n = none ∧ NewBelow t n news ∧
    (isRecoveryName n = true → ∀ x ∈ news, x.leaf = true ∧ x.path = recoveryQ))

theorem AddAppSpec.nil (h : ∀ q, out ≠ .accepted q) : AddAppSpec rx t rules a [] out :=
  ⟨fun q hq => absurd hq (h q), fun h => absurd rfl h⟩

theorem addApp_spec (h : addApp rx t rules a = (t', out)) : ∃ news, t' = t ++ news ∧ AddAppSpec rx t rules a news out := by
  unfold addApp at h
  cases hp : place rx t a rules with
  | panic => rw [hp] at h; cases h; exact ⟨[], (List.append_nil t).symm, .nil nofun⟩
  | rejected => rw [hp] at h; cases h; exact ⟨[], (List.append_nil t).symm, .nil nofun⟩
  | ruleErr e => rw [hp] at h; cases h; exact ⟨[], (List.append_nil t).symm, .nil nofun⟩
  | placed n =>
    rw [hp] at h
    simp only at h
    obtain ⟨r, hc⟩ := (place_placed_iff rx t a rules n).mp hp
    cases hg : getQueue t n with
    | some x =>
      rw [hg] at h
      simp only at h
      rcases ite_eq_cases h with ⟨hl, h⟩ | ⟨_, h⟩
      · cases h
        refine ⟨[], (List.append_nil t).symm, fun q hq => ?_, fun h => absurd rfl h⟩
        cases hq
        exact ⟨r, n, hc, (getQueue_some hg).2.1, Or.inl ⟨x, hg, hl, rfl, rfl⟩⟩
      · cases h; exact ⟨[], (List.append_nil t).symm, .nil nofun⟩
    | none =>
      rw [hg] at h
      cases hcr : (if isRecoveryName n then createRecovery t else createQueue t a.user n) with
      | mk t1 res =>
        simp only [hcr] at h
        rcases create_spec hcr with ⟨e1, e, e2⟩ | ⟨news, e1, hb, hrec, hok⟩
        · rw [e1, e2] at h
          cases h; exact ⟨[], (List.append_nil t).symm, .nil nofun⟩
        cases res with
        | error e => cases h; exact ⟨news, e1, nofun, fun _ => ⟨r, n, hc, hg, hb, hrec⟩⟩
        | ok q =>
          obtain ⟨q1, q2, q3⟩ := hok q rfl
          simp only at h
          rw [if_pos q3] at h
          cases h
          refine ⟨news, e1, fun q' hq' => ?_, fun _ => ⟨r, n, hc, hg, hb, hrec⟩⟩
          cases hq'
          exact ⟨r, n, hc, q1, Or.inr ⟨hg, q, q2, rfl, q3⟩⟩

/-! ### what a rule returns -/

theorem finish_queue {c : Bool} {n m : QName} (h : finish t c n = .queue m) :
    m = n ∧ (c = true ∨ ∃ q, getQueue t n = some q) := by
  obtain ⟨hc, h⟩ := of_ite_ne h nofun
  cases h
  refine ⟨rfl, ?_⟩
  cases c with
  | true => exact Or.inl rfl
  | false => exact Or.inr (Option.ne_none_iff_exists'.mp (by simpa using hc))

theorem underParent_queue {c : Bool} {parent : RuleRes} {child m : QName}
    (h : underParent t c parent child = .queue m) :
    ∃ pn, parent = .queue pn ∧ m = pn ++ child ∧ (c = true ∨ ∃ q, getQueue t m = some q) := by
  cases parent with
  | queue pn =>
    obtain ⟨h1, h2⟩ := finish_queue h
    exact ⟨pn, rfl, h1, by rw [h1]; exact h2⟩
  | noMatch => cases h
  | err e => cases h

theorem resolveParent_queue {res : RuleRes} {m : QName} (h : resolveParent t res = .queue m) :
    ∃ p, res = .queue p ∧ m = (if isQualified p then p else sRoot :: p) := by
  cases res with
  | queue p =>
    refine ⟨p, rfl, ?_⟩
    simp only [resolveParent] at h
    split at h
    · obtain ⟨_, h⟩ := of_ite_ne h nofun
      cases h; rfl
    · cases h; rfl
  | noMatch => cases h
  | err e => cases h

/-- the result of the parent rule as a rule uses it: root when there is no parent rule -/
def parentRes (rx : Str → Str → Bool) (t : Tree) (a : App) (parents : Rule) : RuleRes :=
  if parents.isEmpty then .queue rootQ else resolveParent t (runRule rx t a parents)

theorem isQualified_head (h : isQualified n = true) : n.head? = some sRoot := by
  simp only [isQualified, Bool.and_eq_true, decide_eq_true_eq] at h
  exact h.1

theorem parentRes_queue {parents : Rule} {pn : QName} (h : parentRes rx t a parents = .queue pn) :
    pn.head? = some sRoot ∧ (pn = rootQ ∨ ∃ p, runRule rx t a parents = .queue p ∧ (pn = p ∨ pn = sRoot :: p)) := by
  unfold parentRes at h
  split at h
  · cases h; exact ⟨rfl, Or.inl rfl⟩
  · obtain ⟨p, hp, e⟩ := resolveParent_queue h
    by_cases hq : isQualified p = true
    · rw [if_pos hq] at e
      exact ⟨by rw [e]; exact isQualified_head hq, Or.inr ⟨p, hp, Or.inl e⟩⟩
    · rw [if_neg hq] at e
      exact ⟨by rw [e]; rfl, Or.inr ⟨p, hp, Or.inr e⟩⟩

theorem splitDot_sRoot : splitDot sRoot = [sRoot] := by decide +kernel

/-- what the provided, user, tag and fixed rules return, all through the create flag check: a qualified name of the
    rule's own, or the rule's own part(s) below the result of the parent rule; the parts of its own are valid names when
    the constructors accept the rule -/
def OwnOrBelowParent (rx : Str → Str → Bool) (t : Tree) (a : App) (nd : Node) (parents : Rule) (n : QName) : Prop :=
  (nd.create = true ∨ ∃ q, getQueue t n = some q) ∧
    ∃ pn own, n = pn ++ own ∧ (∀ hp, nd.wf hp = true → own.all validQueueName = true) ∧
      ((pn = [] ∧ own.head? = some sRoot) ∨ parentRes rx t a parents = .queue pn)

/-- the one place where `runRule` is taken apart, rule type by rule type -/
theorem runRule_queue {nd : Node} {parents : Rule} (h : runRule rx t a (nd :: parents) = .queue n) :
    (nd.kind = .recovery ∧ a.forced = true ∧ n = recoveryQ) ∨ OwnOrBelowParent rx t a nd parents n := by
  have fin : ∀ m : QName, m.head? = some sRoot → (∀ hp, nd.wf hp = true → m.all validQueueName = true) →
      finish t nd.create m = .queue n → OwnOrBelowParent rx t a nd parents n := by
    intro m hr hv hm
    obtain ⟨e, hc⟩ := finish_queue hm
    subst e
    exact ⟨hc, [], n, rfl, hv, Or.inl ⟨rfl, hr⟩⟩
  have und : ∀ child : QName, (∀ hp, nd.wf hp = true → child.all validQueueName = true) →
      underParent t nd.create (parentRes rx t a parents) child = .queue n → OwnOrBelowParent rx t a nd parents n := by
    intro child hv hm
    obtain ⟨pn, h1, h2, hc⟩ := underParent_queue hm
    exact ⟨hc, pn, child, h2, hv, Or.inr h1⟩
  -- the provided rule and the tag rule, on the requested name `s`
  have named : ∀ s : Str, (if isQualified (splitDot s) then
        (if (splitDot s).all validQueueName then finish t nd.create (splitDot s) else .err .invalidName)
      else if !validQueueName (replaceDot s) then .err .invalidName
      else underParent t nd.create (parentRes rx t a parents) [replaceDot s]) = .queue n →
      OwnOrBelowParent rx t a nd parents n := by
    intro s hs
    by_cases hq : isQualified (splitDot s) = true
    · rw [if_pos hq] at hs
      by_cases hv : (splitDot s).all validQueueName = true
      · rw [if_pos hv] at hs
        exact fin _ (isQualified_head hq) (fun _ _ => hv) hs
      · rw [if_neg hv] at hs; cases hs
    · rw [if_neg hq] at hs
      obtain ⟨hv, hs⟩ := of_ite_ne hs nofun
      exact und _ (fun _ _ => by simpa using hv) hs
  unfold runRule at h
  cases hk : nd.kind with
  | provided =>
    simp only [hk] at h
    obtain ⟨_, h⟩ := of_ite_ne h nofun
    obtain ⟨_, h⟩ := of_ite_ne h nofun
    exact Or.inr (named _ h)
  | user =>
    simp only [hk] at h
    obtain ⟨_, h⟩ := of_ite_ne h nofun
    obtain ⟨hv, h⟩ := of_ite_ne h nofun
    exact Or.inr (und _ (fun _ _ => by simpa using hv) h)
  | tag name =>
    simp only [hk] at h
    obtain ⟨_, h⟩ := of_ite_ne h nofun
    obtain ⟨_, h⟩ := of_ite_ne h nofun
    exact Or.inr (named _ h)
  | fixed value =>
    simp only [hk] at h
    have hval : ∀ hp, nd.wf hp = true → (splitDot value).all validQueueName = true := by
      intro hp hwf
      simp only [Node.wf, hk, Bool.and_eq_true] at hwf
      exact hwf.1.2
    obtain ⟨_, h⟩ := of_ite_ne h nofun
    by_cases hq : fixedQualified value = true
    · rw [if_pos hq] at h
      refine Or.inr (fin _ ?_ hval h)
      simp only [fixedQualified, Bool.or_eq_true, decide_eq_true_eq] at hq
      rcases hq with hv | hq
      · rw [hv, splitDot_sRoot]; rfl
      · exact isQualified_head hq
    · rw [if_neg hq] at h
      exact Or.inr (und _ hval h)
  | recovery =>
    simp only [hk] at h
    by_cases hf : a.forced = true
    · rw [if_pos hf] at h
      cases h
      exact Or.inl ⟨rfl, hf, rfl⟩
    · rw [if_neg hf] at h; cases h

/-- a rule returns the name of a queue that does not exist only with its create flag set; the recovery rule only
    returns the recovery queue, for forced applications -/
theorem runRule_create {r : Rule} (h : runRule rx t a r = .queue n) (hg : getQueue t n = none) :
    ∃ nd rest, r = nd :: rest ∧ (nd.create = true ∨ (nd.kind = .recovery ∧ a.forced = true ∧ n = recoveryQ)) := by
  cases r with
  | nil => cases h
  | cons nd rest =>
    refine ⟨nd, rest, rfl, ?_⟩
    rcases runRule_queue h with hrec | ⟨hc | ⟨q, hq⟩, _⟩
    · exact Or.inr hrec
    · exact Or.inl hc
    · rw [hg] at hq; cases hq

theorem valid_sRoot : validQueueName sRoot = true := by decide +kernel

theorem runRule_valid (rx : Str → Str → Bool) (t : Tree) (a : App) : ∀ (r : Rule) (n : QName),
    Rule.wf r = true → runRule rx t a r = .queue n → n.all validQueueName = true := by
  intro r
  induction r with
  | nil => intro n _ h; cases h
  | cons nd rest ih =>
    intro n hwf h
    simp only [Rule.wf, Bool.and_eq_true] at hwf
    rcases runRule_queue h with ⟨_, _, e⟩ | ⟨_, pn, own, e, hv, ⟨e', _⟩ | hp⟩
    · rw [e]; decide +kernel
    · rw [e, e']; exact hv _ hwf.1
    · rw [e, List.all_append, hv _ hwf.1, Bool.and_true]
      rcases (parentRes_queue hp).2 with e | ⟨p, hp, e | e⟩
      · rw [e]; decide +kernel
      · rw [e]; exact ih p hwf.2 hp
      · rw [e, List.all_cons, valid_sRoot, ih p hwf.2 hp]; rfl

/-- every name a rule returns starts with the part `root`: no walk-up loop runs out of parts -/
theorem runRule_root {r : Rule} (h : runRule rx t a r = .queue n) : n.head? = some sRoot := by
  cases r with
  | nil => cases h
  | cons nd rest =>
    rcases runRule_queue h with ⟨_, _, e⟩ | ⟨_, pn, own, e, _, ⟨e', ho⟩ | hp⟩
    · rw [e]; rfl
    · rw [e, e']; exact ho
    · rw [e, List.head?_append, (parentRes_queue hp).1]; rfl

theorem offer_some {r : Rule} {last : Bool} (h : offer rx t a r last = some n) :
    runRule rx t a r = .queue n ∨ (last = true ∧ n = defaultQ ∧ ∃ q, getQueue t defaultQ = some q) := by
  unfold offer at h
  cases hr : runRule rx t a r with
  | err e => rw [hr] at h; cases h
  | queue m => rw [hr] at h; cases h; exact Or.inl rfl
  | noMatch =>
    rw [hr] at h
    rcases ite_eq_cases h with ⟨hc, h⟩ | ⟨_, h⟩
    · cases h
      simp only [Bool.and_eq_true] at hc
      exact Or.inr ⟨hc.1, rfl, Option.isSome_iff_exists.mp hc.2⟩
    · cases h

theorem walkUpR_root (t : Tree) (root : Queue) (hr : getQueue t [sRoot] = some root) :
    ∀ (r : List Str), r ≠ [] → walkUpR t (r ++ [sRoot]) ≠ none := by
  intro r
  induction r with
  | nil => intro h; exact absurd rfl h
  | cons x rest ih =>
    intro _
    cases rest with
    | nil => simp [walkUpR, hr]
    | cons y r' =>
      have := ih (by simp)
      simp only [List.cons_append] at this ⊢
      unfold walkUpR
      split
      · simp
      · exact this

theorem getQueue_root {root : Queue} (h : findQ t rootQ = some root) : getQueue t [sRoot] = some root := by
  have : lowerName [sRoot] = rootQ := by decide +kernel
  simp only [getQueue, this]
  simpa [rootQ] using h

theorem walkUp_ne_none {root : Queue} (hroot : findQ t rootQ = some root)
    (hn : n.head? = some sRoot) (hg : getQueue t n = none) : walkUp t n ≠ none := by
  have hgr := getQueue_root hroot
  cases n with
  | nil => simp at hn
  | cons x rest =>
    simp at hn; subst hn
    cases rest with
    | nil => rw [hgr] at hg; cases hg
    | cons y r' =>
      have := walkUpR_root t root hgr (y :: r').reverse (by simp)
      simpa [walkUp] using this

theorem eligible_ne_none {root : Queue} (hroot : findQ t rootQ = some root)
    (hn : n.head? = some sRoot) : eligible t a n ≠ none := by
  intro h
  unfold eligible at h
  obtain ⟨_, h⟩ := of_ite_ne h nofun
  obtain ⟨_, h⟩ := of_ite_ne h nofun
  obtain ⟨_, h⟩ := of_ite_ne h nofun
  cases hg : getQueue t n with
  | some q => rw [hg] at h; cases h
  | none =>
    rw [hg] at h
    cases hw : walkUp t n with
    | none => exact walkUp_ne_none hroot hn hg hw
    | some q => rw [hw] at h; cases h

theorem place_no_panic (rx : Str → Str → Bool) (t : Tree) (a : App) (root : Queue) (hroot : findQ t rootQ = some root)
    (rules : List Rule) : place rx t a rules ≠ .panic := by
  -- the six branches of `place` in the order of its text (case4: `eligible` answers `none`, the panic); a new branch there renumbers them
  fun_induction place rx t a rules with
  | case1 => nofun
  | case2 => nofun
  | case3 r rest hne hy ih => exact ih
  | case4 r rest n he hne hy =>
    -- the name comes from the rule or is root.default: it starts with root
    refine absurd he (eligible_ne_none hroot ?_)
    rw [← offer_eq _ hne] at hy
    rcases offer_some hy with hr | ⟨_, e, _⟩
    · exact runRule_root hr
    · rw [e]; rfl
  | case5 => nofun
  | case6 r rest n he hne hy ih => exact ih

/-! ### the property theorems (stated in YkProps/C17.lean) -/

/-- a name that passes the checks of the loop body is not below the recovery queue and spells the recovery queue only
    for a forced application; it is the recovery queue of a forced application (taken without further check), an
    active leaf the user may submit to, or no queue yet with an existing ancestor the user may submit to -/
theorem eligible_true (h : eligible t a n = some true) :
    belowRecovery n = false ∧ (isRecoveryName n = true → a.forced = true) ∧ ((n = recoveryQ ∧ a.forced = true) ∨
     (∃ q, getQueue t n = some q ∧ q.leaf = true ∧ checkSubmit t a.user q.path = true ∧ q.draining = false) ∨
     (getQueue t n = none ∧ ∃ anc, walkUp t n = some anc ∧ checkSubmit t a.user anc.path = true)) := by
  unfold eligible at h
  by_cases hfr : (decide (n = recoveryQ) && a.forced) = true
  · simp only [Bool.and_eq_true, decide_eq_true_eq] at hfr
    refine ⟨?_, fun _ => hfr.2, Or.inl hfr⟩
    rw [hfr.1]; decide +kernel
  · rw [if_neg hfr] at h
    obtain ⟨hnf, h⟩ := of_ite_ne h nofun
    obtain ⟨hb, h⟩ := of_ite_ne h nofun
    refine ⟨by simpa using hb, fun hr => by simpa [hr] using hnf, Or.inr ?_⟩
    cases hg : getQueue t n with
    | some q =>
      rw [hg] at h
      simp only [Option.some.injEq, Bool.and_eq_true, Bool.not_eq_true'] at h
      exact Or.inl ⟨q, rfl, h.1.1, h.1.2, h.2⟩
    | none =>
      rw [hg] at h
      cases hw : walkUp t n with
      | none => rw [hw] at h; cases h
      | some anc =>
        rw [hw] at h
        exact Or.inr ⟨rfl, anc, rfl, Option.some.inj h⟩

/-- the checks of the loop body: a name that passes and names an existing queue names a leaf that is not draining —
    unless it is the recovery queue of a forced application (the `break` before the checks) -/
theorem eligible_not_draining {t : Tree} {a : App} {n : QName} {q : Queue} (he : eligible t a n = some true)
    (hq : getQueue t n = some q) : q.draining = false ∨ (n = recoveryQ ∧ a.forced = true) := by
  rcases (eligible_true he).2.2 with hrec | ⟨q', hq', _, _, hd⟩ | ⟨hnone, _⟩
  · exact Or.inr hrec
  · rw [hq] at hq'
    cases hq'
    exact Or.inl hd
  · rw [hq] at hnone
    cases hnone

theorem accepted_eligible {q : QName} (h : addApp rx t rules a = (t', .accepted q)) :
    ∃ r n, choose rx t a rules = some (r, n) ∧ q = lowerName n ∧ eligible t a n = some true := by
  obtain ⟨_, _, h2, _⟩ := addApp_spec h
  obtain ⟨r, n, hc, hq, _⟩ := h2 q rfl
  obtain ⟨_, _, _, _, _, hel, _⟩ := choose_first rx t a rules r n hc
  exact ⟨r, n, hc, hq, hel⟩

theorem accepted_leaf_active {q : QName} (h : addApp rx t rules a = (t', .accepted q)) :
    (∃ x ∈ t', x.path = q ∧ x.leaf = true) ∧
    (∀ x, findQ t q = some x → x.leaf = true ∧ (x.draining = false ∨ (a.forced = true ∧ q = recoveryQ))) := by
  obtain ⟨news, h1, h2, h3⟩ := addApp_spec h
  obtain ⟨r, n, hc, hq, hcase⟩ := h2 q rfl
  obtain ⟨_, _, _, _, _, hel, _⟩ := choose_first rx t a rules r n hc
  rcases hcase with ⟨x, hg, hl, hp, hn⟩ | ⟨hg, x, hx, hp, hl⟩
  · have hf : findQ t q = some x := by rw [hq]; exact (getQueue_some hg).2.2.1
    refine ⟨⟨x, by rw [h1]; exact List.mem_append_left _ (getQueue_some hg).1, hp, hl⟩, ?_⟩
    intro y hy
    rw [hf] at hy; cases hy
    refine ⟨hl, ?_⟩
    rcases (eligible_true hel).2.2 with ⟨e, hf⟩ | ⟨x', hg', _, _, hd⟩ | ⟨hg', _⟩
    · exact Or.inr ⟨hf, by rw [hq, e]; exact lowerName_recoveryQ⟩
    · rw [hg] at hg'; cases hg'; exact Or.inl hd
    · rw [hg] at hg'; cases hg'
  · refine ⟨⟨x, by rw [h1]; exact List.mem_append_right _ hx, hp, hl⟩, ?_⟩
    intro y hy
    exfalso
    obtain ⟨_, n', hc', _, ⟨anc, hw, _⟩, _⟩ := h3 (List.ne_nil_of_mem hx)
    rw [hc] at hc'; cases hc'
    obtain ⟨_, _, _, hroot⟩ := walkUp_path hw
    unfold getQueue at hg
    rw [if_pos hroot, ← hq] at hg
    rw [hg] at hy; cases hy

theorem accepted_acl {q : QName}
    (h : addApp rx t rules a = (t', .accepted q)) (hnf : ¬(a.forced = true ∧ q = recoveryQ)) :
    ∃ k, 0 < k ∧ k ≤ q.length ∧ ownAllows t a.user (q.take k) = true := by
  obtain ⟨_, n, _, hq, hel⟩ := accepted_eligible h
  rcases (eligible_true hel).2.2 with ⟨e, hf⟩ | ⟨x, hg, _, hcs, _⟩ | ⟨_, anc, hw, hcs⟩
  · exact absurd ⟨hf, by rw [hq, e]; exact lowerName_recoveryQ⟩ hnf
  · -- the queue exists: somebody on its path lets the user in
    obtain ⟨k, hk0, hkl, hk⟩ := checkSubmit_path hcs
    rw [(getQueue_some hg).2.1, ← hq] at hk hkl
    exact ⟨k, hk0, hkl, hk⟩
  · -- somebody on the path of the deepest existing ancestor, which is an initial part of the name
    obtain ⟨k, hk0, hkl, hk⟩ := checkSubmit_path hcs
    obtain ⟨⟨w, hw'⟩, hlt, _, _⟩ := walkUp_path hw
    rw [← List.take_append_of_le_length hkl (l₂ := w), hw', ← hq] at hk
    exact ⟨k, hk0, by rw [hq, lowerName_length]; exact Nat.le_trans hkl (Nat.le_of_lt hlt), hk⟩

theorem place_rejected_of_noMatch (rx : Str → Str → Bool) (t : Tree) (a : App) (hd : getQueue t defaultQ = none) :
    ∀ rules : List Rule, (∀ r ∈ rules, runRule rx t a r = .noMatch) → place rx t a rules = .rejected := by
  intro rules
  induction rules with
  | nil => intro _; rfl
  | cons r rest ih =>
    intro hall
    unfold place
    rw [hall r (List.mem_cons_self ..)]
    simp [yields, hd]
    exact ih (fun r' hr' => hall r' (List.mem_cons_of_mem _ hr'))

theorem addApp_no_panic {root : Queue} (hroot : findQ t rootQ = some root) :
    (addApp rx t rules a).2 ≠ .panic := by
  have hp := place_no_panic rx t a root hroot rules
  unfold addApp
  cases hpl : place rx t a rules with
  | panic => exact absurd hpl hp
  | rejected => simp
  | ruleErr e => simp
  | placed n =>
    simp only
    cases getQueue t n with
    | some x => simp only; split <;> simp
    | none =>
      simp only
      split
      · simp
      · split <;> simp

/-- a list that is absent or has no usable entry keeps no name and no expression; only an absent list leaves `empty` -/
theorem filterList_unusable {valid : Str → Bool} (compiles : Str → Bool) {l : List Str} (h : l = [] ∨ NoUsable valid l) :
    filterList valid compiles l = ([], none, l.isEmpty) := by
  rcases h with e | ⟨hne, hall, hsp⟩
  · rw [e]; rfl
  · match l, hne, hall, hsp with
    | [u], _, hall, hsp => simp [filterList, hsp u rfl, hall u (by simp)]
    | u1 :: u2 :: rest, _, hall, _ =>
      have : (u1 :: u2 :: rest).filter valid = [] := List.filter_eq_nil_iff.mpr (fun x hx => by simp [hall x hx])
      simp [filterList, this]

/-! ### the executable clauses (YkModel/PlaceSpec.lean, evaluated by the driver on the implementation's answers) hold
    for the model's own answer -/

theorem model_clauseR1 (h : addApp rx t rules a = (t', out)) : clauseR1 rx t rules a ⟨out, t'⟩ = true := by
  unfold clauseR1
  cases out with
  | accepted q =>
    obtain ⟨_, _, h2, _⟩ := addApp_spec h
    obtain ⟨r, n, hc, hq, _⟩ := h2 q rfl
    simp [hc, hq]
  | rejected r => rfl
  | panic => rfl

theorem model_clauseN1 (h : addApp rx t rules a = (t', out)) : clauseN1 rx t rules a ⟨out, t'⟩ = true := by
  unfold clauseN1
  cases hp : place rx t a rules with
  | rejected =>
    unfold addApp at h
    rw [hp] at h
    cases h; simp
  | _ => rfl

theorem model_clauseA1 (h : addApp rx t rules a = (t', out)) : clauseA1 t a ⟨out, t'⟩ = true := by
  unfold clauseA1
  cases out with
  | accepted q =>
    simp only
    by_cases hf : a.forced = true ∧ q = recoveryQ
    · simp [hf.1, hf.2]
    · obtain ⟨k, hk0, hkl, hk⟩ := accepted_acl h hf
      simp only [Bool.or_eq_true]
      right
      unfold aclOnPath
      rw [List.any_eq_true]
      exact ⟨k, by simp; omega, by simp [hk0, hk]⟩
  | rejected r => rfl
  | panic => rfl

theorem model_clauseL2 (h : addApp rx t rules a = (t', out)) : clauseL2 t a ⟨out, t'⟩ = true := by
  unfold clauseL2
  cases out with
  | accepted q =>
    simp only
    cases hf : findQ t q with
    | none => rfl
    | some x =>
      obtain ⟨hl, hd⟩ := (accepted_leaf_active h).2 x hf
      rcases hd with hd | ⟨h1, h2⟩
      · simp [hl, hd]
      · simp [hl, h1, h2]
  | rejected r => rfl
  | panic => rfl

theorem model_clauseP1 {root : Queue}
    (hroot : findQ t rootQ = some root) (h : addApp rx t rules a = (t', out)) : clauseP1 ⟨out, t'⟩ = true := by
  have := addApp_no_panic (rx := rx) (rules := rules) (a := a) hroot
  rw [h] at this
  simpa [clauseP1] using this

theorem belowRecovery_iff : belowRecovery n = true ↔ recoveryQ <+: lowerName n ∧ 3 ≤ n.length := by
  simp [belowRecovery]

end

/-! ### what a call creates, and the recovery queue -/

theorem created_only_with_create {rx : Str → Str → Bool} {t : Tree} {rules : List Rule} {a : App} {t' : Tree} {out : Outcome}
    (hwf : ∀ r ∈ rules, Rule.wf r = true) (h : addApp rx t rules a = (t', out)) :
    ∃ news, t' = t ++ news ∧
      (news ≠ [] → ∃ nd rest n, FirstPassing rx t a rules (nd :: rest) n ∧ getQueue t n = none ∧
        (nd.create = true ∨ (nd.kind = .recovery ∧ a.forced = true ∧ n = recoveryQ)) ∧
        n.all validQueueName = true ∧ NewBelow t n news) := by
  obtain ⟨news, h1, _, h3⟩ := addApp_spec h
  refine ⟨news, h1, ?_⟩
  intro hne
  obtain ⟨r, n, hc, hg, hb, _⟩ := h3 hne
  obtain ⟨pre, post, hrs, _, hoff, _, _⟩ := choose_first rx t a rules r n hc
  have hrun : runRule rx t a r = .queue n := by
    rcases offer_some hoff with hr | ⟨_, hd, q, hq⟩
    · exact hr
    · subst hd; rw [hg] at hq; cases hq
  obtain ⟨nd, rest, hr, hcreate⟩ := runRule_create hrun hg
  have hmem : r ∈ rules := by rw [hrs]; simp
  subst hr
  exact ⟨nd, rest, n, choose_first rx t a rules _ n hc, hg, hcreate, runRule_valid rx t a _ n (hwf _ hmem) hrun, hb⟩

/-- only a forced application can end in the recovery queue -/
theorem recovery_only_forced {rx : Str → Str → Bool} {t : Tree} {rules : List Rule} {a : App} {t' : Tree}
    (h : addApp rx t rules a = (t', .accepted recoveryQ)) : a.forced = true := by
  obtain ⟨_, n, _, hq, hel⟩ := accepted_eligible h
  exact (eligible_true hel).2.1 (by simp [isRecoveryName, ← hq])

theorem model_clauseV1 {rx : Str → Str → Bool} {t : Tree} {rules : List Rule} {a : App} {t' : Tree} {out : Outcome}
    (h : addApp rx t rules a = (t', out)) : clauseV1 a ⟨out, t'⟩ = true := by
  unfold clauseV1
  cases out with
  | accepted q =>
    simp only
    by_cases hq : q = recoveryQ
    · subst hq; simp [recovery_only_forced h]
    · simp [hq]
  | rejected r => rfl
  | panic => rfl

/-- no call creates a queue at or below the recovery queue path, except the recovery leaf itself for a forced
    application -/
theorem recovery_path_protected {rx : Str → Str → Bool} {t : Tree} {rules : List Rule} {a : App} {t' : Tree} {out : Outcome}
    (h : addApp rx t rules a = (t', out)) :
    ∃ news, t' = t ++ news ∧
      ∀ x ∈ news, recoveryQ <+: x.path → x.path = recoveryQ ∧ x.leaf = true ∧ a.forced = true := by
  obtain ⟨news, h1, _, h3⟩ := addApp_spec h
  refine ⟨news, h1, ?_⟩
  intro x hx hpre
  obtain ⟨r, n, hc, _, ⟨anc, _, _, hall⟩, hnews⟩ := h3 (List.ne_nil_of_mem hx)
  obtain ⟨_, hxn, _⟩ := hall x hx
  obtain ⟨_, _, _, _, _, hel, _⟩ := choose_first rx t a rules r n hc
  obtain ⟨hbelow, hforced, _⟩ := eligible_true hel
  have hpn : recoveryQ <+: lowerName n := hpre.trans hxn
  -- the name is not below the recovery queue, so it has just two parts: it spells the recovery queue
  have hlen : n.length ≤ 2 := by
    refine Nat.le_of_not_lt (fun hge => ?_)
    rw [belowRecovery_iff.mpr ⟨hpn, hge⟩] at hbelow
    cases hbelow
  have hrec : isRecoveryName n = true := by
    have := hpn.eq_of_length_le (by rw [lowerName_length]; exact hlen)
    simp [isRecoveryName, ← this]
  obtain ⟨hl, hpth⟩ := hnews hrec x hx
  exact ⟨hpth, hl, hforced hrec⟩

theorem model_clauseV2 {rx : Str → Str → Bool} {t : Tree} {rules : List Rule} {a : App} {t' : Tree} {out : Outcome}
    (h : addApp rx t rules a = (t', out)) :
    ∀ x ∈ t', x ∉ t → recoveryQ <+: x.path → x.path = recoveryQ ∧ x.leaf = true := by
  obtain ⟨news, h1, hall⟩ := recovery_path_protected h
  intro x hx hnt hpre
  rw [h1] at hx
  rcases List.mem_append.mp hx with hm | hm
  · exact absurd hm hnt
  · exact ⟨(hall x hm hpre).1, (hall x hm hpre).2.1⟩

end Yk.Place
