/-
  C05 — User and group quotas are enforced and follow the active configuration.
  Property theorems only.  The model (YkModel/Ugm.lean) mirrors pkg/scheduler/ugm: a queue-tracker tree is a map
  `queue path ↦ tracker` (usage, running applications, maxResources, maxRunningApps, useWildCard), the manager holds
  the user and group trackers and the limit maps of the active configuration; `updateConfig` runs the five phases of
  Manager.UpdateConfig as written.  The correspondence run (harness component `ugm`) steps this model from every
  state the real manager reaches and compares answers and complete states.
-/
import YkProofs.UgmGroupFirstLoad
import YkProofs.UgmEnforce
namespace Yk.C05
open Yk Yk.Res Yk.Ugm

/-! ## Enforcement -/

/-- Resources.  `headroom` walks hierarchy `h` of a user's or group's queue-tracker tree (creating missing trackers, for
    a user with the wildcard limits `w` of the active configuration) and answers with the component-wise minimum of
    `max - usage` over the trackers that have a maximum.  Let `hro` be any answer not larger than that (Manager.Headroom
    hands out the minimum of the user's and the group's), and let the ask `r` fit in it the way Application.tryAllocate
    checks (`FitInMaxUndef`).  Then after IncreaseTrackedResource, on EVERY tracker `p` of the path and every resource type
    of the ask that the tracker's maximum defines, the tracked usage is within the maximum, provided it was before; the
    limits themselves are untouched. -/
theorem headroom_enforces (w : List (Path × Limit)) (isUser : Bool) (t : Tree) (h : Path) (app : String) (r : Res)
    (hw : WildWf w) (ht : TreeWf t) (hr : wf r = true) (hro : ORes)
    (hle : LeOn hro (headroom w isUser t h).2) (hfit : fitInMaxUndef hro (some r) = true) :
    ∀ p ∈ prefixes h, ∃ n n', aget (headroom w isUser t h).1 p = some n ∧
      aget (increase w isUser (headroom w isUser t h).1 h app r) p = some n' ∧
      n'.maxRes = n.maxRes ∧ n'.maxApps = n.maxApps ∧
      ∀ mx, n.maxRes = some mx → isZero n.maxRes = false → ∀ k, r.has k = true → mx.has k = true →
        (n.usage.getD []).getD k ≤ mx.getD k → (n'.usage.getD []).getD k ≤ mx.getD k :=
  headroom_enforces_tree w isUser t h app r hw ht hr hro hle hfit

/-- The same at the manager, as the scheduler uses it: Manager.Headroom (which creates the user tracker, resolves and
    links the group of the application, and answers with the minimum of the user's and the group's headroom), then
    `FitInMaxUndef`, then Manager.IncreaseTrackedResource.  `Within t1 t2 q r`: on every tracker of path `q` the limits are
    unchanged and the usage in `t2` is within the maximum on every type of `r` the maximum defines, provided it was in
    `t1`.  It holds for the user's tree and for the tree of the group the application resolved to. -/
theorem manager_headroom_enforces (m : Mgr) (q : Path) (app u : String) (ugs : List String) (r : Res) (hm : MgrWf m)
    (hq : q ≠ []) (happ : app ≠ "") (hu : u ≠ "") (hr : wf r = true)
    (hfit : fitInMaxUndef (headroomM m q app u ugs).2 (some r) = true) :
    (∃ ut1 ut2, aget (headroomM m q app u ugs).1.users u = some ut1 ∧
      aget (increaseM (headroomM m q app u ugs).1 q app r u ugs).users u = some ut2 ∧ Within ut1.qt ut2.qt q r) ∧
    (∀ gt1, groupForApp (headroomM m q app u ugs).1 u app ≠ "" →
      aget (headroomM m q app u ugs).1.groups (groupForApp (headroomM m q app u ugs).1 u app) = some gt1 →
      ∃ gt2, aget (increaseM (headroomM m q app u ugs).1 q app r u ugs).groups (groupForApp (headroomM m q app u ugs).1 u app) = some gt2 ∧
        Within gt1.qt gt2.qt q r) :=
  manager_enforces m q app u ugs r hm hq happ hu hr hfit

/-- Applications.  When `canRunApp` says yes for an application, after its first IncreaseTrackedResource every tracker
    on the path with a maximum-applications limit runs at most that many applications — unless the application was
    already running there, in which case the count did not change. -/
theorem canRun_enforces (w : List (Path × Limit)) (isUser : Bool) (t : Tree) (h : Path) (app : String) (r : Res)
    (hcan : (canRunApp w isUser t h app).2 = true) :
    ∀ p ∈ prefixes h, ∃ n n', aget (canRunApp w isUser t h app).1 p = some n ∧
      aget (increase w isUser (canRunApp w isUser t h app).1 h app r) p = some n' ∧ n'.maxApps = n.maxApps ∧
      (n.apps.contains app = true → n'.apps = n.apps) ∧
      (n.apps.contains app = false → n.maxApps ≠ 0 → n'.apps.length ≤ n.maxApps) :=
  canRun_enforces_tree w isUser t h app r hcan

/-- The same at the manager: Manager.CanRunApp = true, then IncreaseTrackedResource (`WithinApps`: per tracker of the path,
    at most max-applications running afterwards, or the application was already running there), for the user's tree and
    the resolved group's tree. -/
theorem manager_canRun_enforces (m : Mgr) (q : Path) (app u : String) (ugs : List String) (r : Res)
    (hq : q ≠ []) (happ : app ≠ "") (hu : u ≠ "") (hcan : (canRunM m q app u ugs).2 = true) :
    (∃ ut1 ut2, aget (canRunM m q app u ugs).1.users u = some ut1 ∧
      aget (increaseM (canRunM m q app u ugs).1 q app r u ugs).users u = some ut2 ∧ WithinApps ut1.qt ut2.qt q app) ∧
    (∀ gt1, groupForApp (canRunM m q app u ugs).1 u app ≠ "" →
      aget (canRunM m q app u ugs).1.groups (groupForApp (canRunM m q app u ugs).1 u app) = some gt1 →
      ∃ gt2, aget (increaseM (canRunM m q app u ugs).1 q app r u ugs).groups (groupForApp (canRunM m q app u ugs).1 u app) = some gt2 ∧
        WithinApps gt1.qt gt2.qt q app) :=
  Yk.Ugm.manager_canRun_enforces m q app u ugs r hq happ hu hcan

/-! ## Accounting -/

/-- Tracked usage = sum of the live allocations, per queue and resource type, after EVERY history of operations on the
    queue trackers of one user or group tracker: increases, releases (with and without removeApp, including the removal
    of emptied trackers), the walks of Headroom/CanRunApp that create trackers, limit changes, and the unlinking done by
    a configuration reload — under the callers' contract `histOk` (a release is for a live allocation; removeApp comes
    with the last allocation of the application). -/
theorem usage_is_sum (isUser : Bool) (w : List (Path × Limit)) (ops : List TOp)
    (hok : histOk isUser (newTree w isUser, []) ops) :
    ∀ p k, usageAt (ops.foldl (tstep isUser) (newTree w isUser, [])).1 p k
         = sumLive (ops.foldl (tstep isUser) (newTree w isUser, [])).2 p k :=
  (inv_run isUser ops (newTree w isUser, []) (inv_new w isUser) hok).sum

/-- Every tracker on the path of a live allocation exists and lists the application as running. -/
theorem live_apps_listed (isUser : Bool) (w : List (Path × Limit)) (ops : List TOp)
    (hok : histOk isUser (newTree w isUser, []) ops) :
    ∀ a ∈ (ops.foldl (tstep isUser) (newTree w isUser, [])).2, ∀ p ∈ prefixes a.q,
      ∃ n, aget (ops.foldl (tstep isUser) (newTree w isUser, [])).1 p = some n ∧ a.app ∈ n.apps := by
  intro a ha p hp
  obtain ⟨n, hn, _, hm⟩ := (inv_run isUser ops (newTree w isUser, []) (inv_new w isUser) hok).live a ha p hp
  exact ⟨n, hn, hm⟩

/-- The same at the manager, for USER trackers and ALL histories of manager operations — Headroom, CanRunApp,
    IncreaseTrackedResource, DecreaseTrackedResource and configuration reloads (which re-set limits, unlink queue trackers
    and remove user trackers) in any order — under the callers' contract `mHistOk`: the usage a user's tracker holds on a
    queue is the sum of the user's live allocations there, and a user without tracker has no live allocation.
    (`mStep` runs the operation on the manager and books the allocation in / out of the ledger.)
    For GROUP trackers the statement fails across reloads: see `group_usage_lost_on_reload`. -/
theorem user_usage_is_sum (ops : List Op) (hok : mHistOk ({}, []) ops) :
    (∀ u ut, aget (ops.foldl mStep ({}, [])).1.users u = some ut →
      ∀ p k, usageAt ut.qt p k = sumLive (userAllocs (ops.foldl mStep ({}, [])).2 u) p k) ∧
    (∀ u, aget (ops.foldl mStep ({}, [])).1.users u = none → userAllocs (ops.foldl mStep ({}, [])).2 u = []) :=
  ⟨fun u ut h => ((uinv_run ops ({}, []) uinv_empty hok).trees u ut h).sum,
   (uinv_run ops ({}, []) uinv_empty hok).missing⟩

/-- A release after the increase restores the usage of every queue (in any state reached under the contract). -/
theorem decrease_restores {t : Tree} {L : List Alloc} (h : Inv t L) (w : List (Path × Limit)) (isUser : Bool) (a : Alloc)
    (rm : Bool) (hr : wf a.r = true) (hrm : rm = true → ∀ b ∈ L, b.app ≠ a.app) :
    ∀ p k, usageAt (decrease (increase w isUser t a.q a.app a.r) a.q a.app a.r rm).1 p k = usageAt t p k :=
  usage_unique (inv_dec (inv_inc h w isUser a hr) a rm (by simp) (fun hrmv b hb => hrm hrmv b (mem_erase_append_self hb))) h
    (((List.perm_append_comm (l₁ := L) (l₂ := [a])).erase a).trans (by simp))

/-- The group resolved for an application does not change while the application is tracked: Headroom, CanRunApp,
    IncreaseTrackedResource and DecreaseTrackedResource (other than the removeApp release of that very application)
    keep the link of every application that is running for its user.  (A configuration reload may break the link:
    resetGroupEarlierUsage deletes it when the group loses its limit.) -/
theorem group_fixed (m : Mgr) (op : Op) (u app : String) (x : Option String)
    (hlink : linkOf m u app = some x) (htracked : trackedApp m u app = true)
    (hop : opKeepsLink op u app = true) : linkOf (step m op) u app = some x := by
  cases op with
  | conf c => simp [opKeepsLink] at hop
  | headroom q app0 u0 ugs =>
    show linkOf (headroomM m q app0 u0 ugs).1 u app = some x
    rw [headroomM_fst]; exact linkOf_touchM_some hlink q app0 u0 ugs
  | canRun q app0 u0 ugs =>
    show linkOf (canRunM m q app0 u0 ugs).1 u app = some x
    rw [canRunM_fst]; exact linkOf_touchM_some hlink q app0 u0 ugs
  | inc q app0 r u0 ugs => exact linkOf_increaseM_some hlink q app0 r u0 ugs
  | dec q app0 r u0 rm =>
    simp only [opKeepsLink, Bool.and_eq_true, Bool.not_eq_true'] at hop
    exact linkOf_decreaseM m q app0 r u0 rm u app x hlink htracked hop.1 hop.2

/-! ## Limits follow the configuration -/

/-- THE STATEMENT: after any history whose last configuration is `c`, the limit in force for every user and group on every
    queue is the one `c` configures (named entry, else wildcard entry, else none). -/
def LimitsFollowConfig : Prop :=
  ∀ (ops : List Op) (c : Cfg), lastCfg ops = some c →
    (∀ u p, u ≠ "" → u ≠ "*" → inForceUser (run {} ops) u p = configuredUser c u p) ∧
    (∀ g p, g ≠ "" → inForceGroup (run {} ops) g p = configuredGroup c g p)

/-- It holds for the first configuration loaded into an empty manager, whatever the configuration (queue paths are
    non-empty: they start with the root queue). -/
theorem limits_follow_config_first_load (c : Cfg) (hc : ∀ q ∈ c, q.1 ≠ []) :
    (∀ u p, u ≠ "" → u ≠ "*" → inForceUser (updateConfig {} c) u p = configuredUser c u p) ∧
    (∀ g p, g ≠ "" → inForceGroup (updateConfig {} c) g p = configuredGroup c g p) := by
  have h := first_load_synced c hc
  exact ⟨h.1, h.2.1⟩

/-- AFTER A RELOAD.  `Synced m`: the trackers of `m` are in step with its active configuration (every queue tracker holds no
    limit, the wildcard limit of its queue, or the limit its user / group is named with there; named queues are reachable
    from the root; the empty manager is synced, `Yk.Ugm.synced_empty`, and so is the manager after a first load,
    `synced_after_first_load`).  For ANY synced manager and ANY new configuration
    that passed the validator (`properCfgB`), under decidable hypotheses on the active maps of the manager and the maps the
    new configuration is parsed into —
      * `noWildcardDropBesideNamed` (excludes F17): no queue loses its wildcard user limit while users are named on it in
        both configurations;
      * `noDropAboveKept` for users and for groups (excludes F18 / group-lost): nobody loses the limit of a queue and keeps
        or gets a limit in the subtree of that queue;
      * `singleDrop` for users and for groups: at most one queue per user / group loses its limit (one reset per tracker:
        the iteration order of the old limit map cannot matter) —
    the limits in force after UpdateConfig are exactly those of the new configuration, for every user, group and queue, and
    the manager is synced again: the statement chains over any number of such reloads. -/
theorem limits_follow_config_reload_partial (m : Mgr) (c : Cfg) (hs : Synced m) (hc : properCfgB c = true)
    (h17 : noWildcardDropBesideNamed m (parseCfg c) = true)
    (h18u : noDropAboveKept m.userLimits (parseCfg c).userLimits = true)
    (h18g : noDropAboveKept m.groupLimits (parseCfg c).groupLimits = true)
    (h1u : singleDrop m.userLimits (parseCfg c).userLimits = true)
    (h1g : singleDrop m.groupLimits (parseCfg c).groupLimits = true) :
    (∀ u p, u ≠ "" → u ≠ "*" → inForceUser (updateConfig m c) u p = configuredUser c u p) ∧
    (∀ g p, g ≠ "" → inForceGroup (updateConfig m c) g p = configuredGroup c g p) ∧
    Synced (updateConfig m c) := by
  have hp1 := phase1 hs c (properCfgB_ne hc)
  have hpn := PM_processConfig_proper m c hc
  have hlim := limitIn_parsed m c
  rw [← processConfig_snd m c] at h17 h18u h18g h1u h1g
  obtain ⟨w2, l2, su2, sg2⟩ := phase2 hp1 hpn h18u h18g h1u h1g _ rfl
  have := reload_tail m _ hpn (fun p _ h e => by rw [e] at h; cases h.1) hs.wne h17 _ w2 l2 su2 sg2
  unfold updateConfig finishConfig
  simp only
  rw [hp1.gl, hp1.ul]
  exact ⟨fun u p h1 h2 => (this.1 u p).trans ((hlim p).1 u h1 h2), fun g p h1 => (this.2.1 g p).trans ((hlim p).2 g h1), this.2.2⟩

/-- The first load of a validated configuration leaves the manager synced (it is the reload of the empty manager, whose
    hypotheses hold trivially), so the partial statement applies to the second configuration, the third, ... -/
theorem synced_after_first_load (c : Cfg) (hc : properCfgB c = true) : Synced (updateConfig {} c) :=
  (first_load_synced c (properCfgB_ne hc)).2.2

private def lim (r : Res) (a : Nat) (us gs : List String) : LimitEntry := { users := us, groups := gs, maxRes := some r, maxApps := a }
private def R : Path := ["root"]
private def RA : Path := ["root", "a"]
private def RAB : Path := ["root", "a", "b"]
private def RB : Path := ["root", "b"]
private def RC : Path := ["root", "c"]

/-- F17, stale wildcard limit.  c1: root {u1 named, `*` mem 5 / 2 apps}; Headroom creates the tracker of u3 with the
    wildcard limit; c2: root {u2 named}.  Both configurations name users on root, so clearEarlierSetUserWildCardLimits
    skips the queue: u3 keeps max mem 5 / 2 applications although c2 gives it no limit. -/
def staleWildcard : List Op :=
  [.conf [(R, [lim [("mem", 9)] 0 ["u1"] [], lim [("mem", 5)] 2 ["*"] []])], .headroom R "app1" "u3" [],
   .conf [(R, [lim [("mem", 9)] 0 ["u2"] []])]]

theorem stale_wildcard_limit :
    inForceUser (run {} staleWildcard) "u3" R = (some [("mem", 5)], 2) ∧
    configuredUser [(R, [lim [("mem", 9)] 0 ["u2"] []])] "u3" R = (none, 0) ∧
    (headroomM (run {} staleWildcard) R "app1" "u3" []).2 = some [("mem", 5)] := by decide +kernel

/-- The same with configurations only: the tracker of u1 exists because u1 is named on root.a. -/
theorem stale_wildcard_limit_config_only :
    inForceUser (run {} [.conf [(R, [lim [("mem", 9)] 0 ["u2"] [], lim [("mem", 5)] 2 ["*"] []]), (RA, [lim [("mem", 3)] 0 ["u1"] []])],
                         .conf [(R, [lim [("mem", 9)] 0 ["u3"] []]), (RA, [lim [("mem", 3)] 0 ["u1"] []])]]) "u1" R
      ≠ configuredUser [(R, [lim [("mem", 9)] 0 ["u3"] []]), (RA, [lim [("mem", 3)] 0 ["u1"] []])] "u1" R := by decide +kernel

/-- F18, lost named limit.  c1: u1 named on root.a and root.a.b; c2: u1 named on root.a.b only.  The limit of c2 is
    applied to the tracker first; then resetUserEarlierUsage(u1, root.a) unlinks root.a together with its child root.a.b
    and removes the emptied user tracker: no limit is in force on root.a.b, Headroom answers nil (unlimited). -/
def namedLost : List Op :=
  [.conf [(R, []), (RA, [lim [("mem", 5)] 0 ["u1"] []]), (RAB, [lim [("mem", 3)] 0 ["u1"] []])],
   .conf [(R, []), (RA, []), (RAB, [lim [("mem", 3)] 0 ["u1"] []])]]

theorem named_limit_lost :
    inForceUser (run {} namedLost) "u1" RAB = (none, 0) ∧
    configuredUser [(R, []), (RA, []), (RAB, [lim [("mem", 3)] 0 ["u1"] []])] "u1" RAB = (some [("mem", 3)], 0) ∧
    (headroomM (run {} namedLost) RAB "app1" "u1" []).2 = none := by decide +kernel

/-- The same defect on the group side (resetGroupEarlierUsage → unlinkQT). -/
theorem group_limit_lost :
    inForceGroup (run {} [.conf [(R, []), (RA, [lim [("mem", 5)] 0 [] ["g1"]]), (RAB, [lim [("mem", 3)] 0 [] ["g1"]])],
                          .conf [(R, []), (RA, []), (RAB, [lim [("mem", 3)] 0 [] ["g1"]])]]) "g1" RAB = (none, 0) ∧
    configuredGroup [(R, []), (RA, []), (RAB, [lim [("mem", 3)] 0 [] ["g1"]])] "g1" RAB = (some [("mem", 3)], 0) := by decide +kernel

/-- The unrestricted statement is false for the code as written. -/
theorem limits_follow_config_refuted : ¬ LimitsFollowConfig := by
  intro h
  have h1 := (h namedLost [(R, []), (RA, []), (RAB, [lim [("mem", 3)] 0 ["u1"] []])] rfl).1 "u1" RAB (by decide) (by decide)
  rw [named_limit_lost.1, named_limit_lost.2.1] at h1
  cases h1

/-! ### the hypotheses of the partial reload statement: satisfiable, and each one needed -/

/-- A real pair of configurations that meets every hypothesis and changes limits: the named limit of u1 on root and the
    wildcard limit of root change, u2 loses its limit on root.a, u3 gets one there, the group limit of g1 changes. -/
def reloadOk1 : Cfg := [(R, [lim [("mem", 9)] 0 ["u1"] ["g1"], lim [("mem", 5)] 2 ["*"] []]), (RA, [lim [("mem", 3)] 0 ["u2"] []])]
def reloadOk2 : Cfg := [(R, [lim [("mem", 7)] 1 ["u1"] ["g1"], lim [("mem", 4)] 0 ["*"] []]), (RA, [lim [("mem", 2)] 0 ["u3"] []])]

theorem reload_hypotheses_satisfiable :
    properCfgB reloadOk1 = true ∧ properCfgB reloadOk2 = true ∧
    noWildcardDropBesideNamed (updateConfig {} reloadOk1) (parseCfg reloadOk2) = true ∧
    noDropAboveKept (updateConfig {} reloadOk1).userLimits (parseCfg reloadOk2).userLimits = true ∧
    noDropAboveKept (updateConfig {} reloadOk1).groupLimits (parseCfg reloadOk2).groupLimits = true ∧
    singleDrop (updateConfig {} reloadOk1).userLimits (parseCfg reloadOk2).userLimits = true ∧
    singleDrop (updateConfig {} reloadOk1).groupLimits (parseCfg reloadOk2).groupLimits = true ∧
    -- limits do change
    inForceUser (updateConfig {} reloadOk1) "u1" R = (some [("mem", 9)], 0) ∧
    inForceUser (updateConfig (updateConfig {} reloadOk1) reloadOk2) "u1" R = (some [("mem", 7)], 1) ∧
    inForceUser (updateConfig {} reloadOk1) "u2" RA = (some [("mem", 3)], 0) ∧
    inForceUser (updateConfig (updateConfig {} reloadOk1) reloadOk2) "u2" RA = (none, 0) ∧
    inForceUser (updateConfig (updateConfig {} reloadOk1) reloadOk2) "u2" R = (some [("mem", 4)], 0) := by
  refine ⟨by decide, by decide, by decide, by decide, by decide, by decide, by decide, by decide, by decide, by decide, by decide, by decide⟩

/-- the corollary for that pair, from the theorems (not by evaluation) -/
example : ∀ u p, u ≠ "" → u ≠ "*" →
    inForceUser (updateConfig (updateConfig {} reloadOk1) reloadOk2) u p = configuredUser reloadOk2 u p :=
  have ⟨c1, c2, h17, h18u, h18g, h1u, h1g, _⟩ := reload_hypotheses_satisfiable
  (limits_follow_config_reload_partial _ reloadOk2 (synced_after_first_load reloadOk1 c1) c2 h17 h18u h18g h1u h1g).1

/-- A wildcard limit may be dropped when the queue names nobody in one of the configurations (the hypothesis excludes only
    the F17 situation). -/
example : noWildcardDropBesideNamed (updateConfig {} [(R, [lim [("mem", 5)] 2 ["*"] []])]) (parseCfg [(R, [lim [("mem", 3)] 0 ["u1"] []])]) = true := by
  decide +kernel

/-- NECESSITY.  The F17 witness violates `noWildcardDropBesideNamed` and nothing else ... -/
theorem stale_wildcard_violates_only_h17 :
    let c1 : Cfg := [(R, [lim [("mem", 9)] 0 ["u2"] [], lim [("mem", 5)] 2 ["*"] []]), (RA, [lim [("mem", 3)] 0 ["u1"] []])]
    let c2 : Cfg := [(R, [lim [("mem", 9)] 0 ["u3"] []]), (RA, [lim [("mem", 3)] 0 ["u1"] []])]
    properCfgB c1 = true ∧ properCfgB c2 = true ∧
    noWildcardDropBesideNamed (updateConfig {} c1) (parseCfg c2) = false ∧
    noDropAboveKept (updateConfig {} c1).userLimits (parseCfg c2).userLimits = true ∧
    noDropAboveKept (updateConfig {} c1).groupLimits (parseCfg c2).groupLimits = true ∧
    singleDrop (updateConfig {} c1).userLimits (parseCfg c2).userLimits = true ∧
    singleDrop (updateConfig {} c1).groupLimits (parseCfg c2).groupLimits = true ∧
    inForceUser (updateConfig (updateConfig {} c1) c2) "u1" R ≠ configuredUser c2 "u1" R := by
  decide +kernel

/-- ... the F18 witness violates `noDropAboveKept` for users and nothing else ... -/
theorem named_lost_violates_only_h18 :
    let c1 : Cfg := [(R, []), (RA, [lim [("mem", 5)] 0 ["u1"] []]), (RAB, [lim [("mem", 3)] 0 ["u1"] []])]
    let c2 : Cfg := [(R, []), (RA, []), (RAB, [lim [("mem", 3)] 0 ["u1"] []])]
    properCfgB c1 = true ∧ properCfgB c2 = true ∧
    noWildcardDropBesideNamed (updateConfig {} c1) (parseCfg c2) = true ∧
    noDropAboveKept (updateConfig {} c1).userLimits (parseCfg c2).userLimits = false ∧
    noDropAboveKept (updateConfig {} c1).groupLimits (parseCfg c2).groupLimits = true ∧
    singleDrop (updateConfig {} c1).userLimits (parseCfg c2).userLimits = true ∧
    singleDrop (updateConfig {} c1).groupLimits (parseCfg c2).groupLimits = true ∧
    inForceUser (updateConfig (updateConfig {} c1) c2) "u1" RAB ≠ configuredUser c2 "u1" RAB := by
  decide +kernel

/-- ... and the group-lost witness violates `noDropAboveKept` for groups and nothing else.  (`singleDrop` is not shown
    necessary: it makes the resets of clearEarlierSetLimits independent of Go's map order in the proof; the small-scope
    search of the model finds no limit violation that needs it.  Its absence does matter for links and usage:
    `reload_outcome_depends_on_map_order`.) -/
theorem group_lost_violates_only_h18g :
    let c1 : Cfg := [(R, []), (RA, [lim [("mem", 5)] 0 [] ["g1"]]), (RAB, [lim [("mem", 3)] 0 [] ["g1"]])]
    let c2 : Cfg := [(R, []), (RA, []), (RAB, [lim [("mem", 3)] 0 [] ["g1"]])]
    properCfgB c1 = true ∧ properCfgB c2 = true ∧
    noWildcardDropBesideNamed (updateConfig {} c1) (parseCfg c2) = true ∧
    noDropAboveKept (updateConfig {} c1).userLimits (parseCfg c2).userLimits = true ∧
    noDropAboveKept (updateConfig {} c1).groupLimits (parseCfg c2).groupLimits = false ∧
    singleDrop (updateConfig {} c1).userLimits (parseCfg c2).userLimits = true ∧
    singleDrop (updateConfig {} c1).groupLimits (parseCfg c2).groupLimits = true ∧
    inForceGroup (updateConfig (updateConfig {} c1) c2) "g1" RAB ≠ configuredGroup c2 "g1" RAB := by
  decide +kernel

/-! ## Group accounting across reloads -/

/-- THE STATEMENT for groups across reloads: the usage a group tracker holds on a queue is the sum of the live allocations
    of the applications linked to the group. -/
def GroupUsageIsSum (m : Mgr) (live : List (String × Alloc)) : Prop :=
  ∀ g gt, g ≠ "" → aget m.groups g = some gt → ∀ p k, usageAt gt.qt p k = sumLive (groupAllocs m live g) p k

/-- It holds for every manager history WITHOUT reloads that starts from the first load of a proper configuration (every
    queue path starts at the root and every `limits:` entry sets a limit, as configs.Validate demands): Headroom, CanRunApp,
    IncreaseTrackedResource and DecreaseTrackedResource (removeApp included) in any order under the callers' contract
    `gHistOk` (= `mHistOk`, application ids unique across users, no reload), with the application → group links exactly
    as ensureGroupInternal resolves them.  Along the way: every link points to an existing group tracker, and a group
    tracker of the configuration is never removed. -/
theorem group_usage_is_sum_partial (c : Cfg) (hc : ProperCfg c) (ops : List Op)
    (hok : gHistOk (updateConfig {} c, []) ops) :
    GroupUsageIsSum (ops.foldl mStep (updateConfig {} c, [])).1 (ops.foldl mStep (updateConfig {} c, [])).2 :=
  fun g gt hne hgt => ((ginv_run ops (updateConfig {} c, []) (ginv_first_load c hc) hok).trees g gt hne hgt).sum

/-- The same from ANY state that meets the group invariant `GInv` (user accounting, links resolved to existing trackers,
    every resolvable group has an anchored tracker, group usage = sum): histories without reloads keep it. -/
theorem group_usage_is_sum_from (m0 : Mgr) (L0 : List (String × Alloc)) (h0 : GInv m0 L0) (ops : List Op)
    (hok : gHistOk (m0, L0) ops) :
    GInv (ops.foldl mStep (m0, L0)).1 (ops.foldl mStep (m0, L0)).2 ∧
    GroupUsageIsSum (ops.foldl mStep (m0, L0)).1 (ops.foldl mStep (m0, L0)).2 :=
  ⟨ginv_run ops (m0, L0) h0 hok, fun g gt hne hgt => ((ginv_run ops (m0, L0) h0 hok).trees g gt hne hgt).sum⟩

/-- g1 limited on root and root.a; app1 (user u1, group g1) holds mem 3 in root.b, app2 holds mem 2 in root.a.  A reload
    drops the root.a limit: decreaseTrackedResourceUsageDownwards wipes usage and running applications of g1 on root.a AND
    on its ancestor root.  app1 stays linked to g1 and keeps its allocation, but g1 counts nothing: Headroom(root.b)
    answers mem 20 instead of 17. -/
def groupReset : List Op :=
  [.conf [(R, [lim [("mem", 20)] 0 [] ["g1"]]), (RA, [lim [("mem", 10)] 0 [] ["g1"]]), (RB, [])],
   .inc RB "app1" [("mem", 3)] "u1" ["g1"], .inc RA "app2" [("mem", 2)] "u1" ["g1"],
   .conf [(R, [lim [("mem", 20)] 0 [] ["g1"]]), (RA, []), (RB, [])]]

theorem group_usage_lost_on_reload :
    groupForApp (run {} groupReset) "u1" "app1" = "g1" ∧
    (match aget (run {} groupReset).groups "g1" with | some gt => usageAt gt.qt R "mem" | none => -1) = 0 ∧
    (headroomM (run {} groupReset) RB "app1" "u1" ["g1"]).2 = some [("mem", 20)] ∧
    ¬ GroupUsageIsSum (run {} groupReset) [("u1", ⟨"app1", RB, [("mem", 3)]⟩), ("u1", ⟨"app2", RA, [("mem", 2)]⟩)] := by
  refine ⟨by decide +kernel, by decide +kernel, by decide +kernel, fun h => ?_⟩
  have ⟨gt, hgt, hne⟩ : ∃ gt ∈ aget (run {} groupReset).groups "g1", usageAt gt.qt R "mem" ≠
      sumLive (groupAllocs (run {} groupReset) [("u1", ⟨"app1", RB, [("mem", 3)]⟩), ("u1", ⟨"app2", RA, [("mem", 2)]⟩)] "g1") R "mem" := by
    decide +kernel
  exact hne (h "g1" gt (by decide) hgt R "mem")

/-! ## The outcome of a reload depends on Go's map iteration order -/

/-- g1 limited on root, root.a.b and root.c; app1 (u3, g1) holds mem 3 in root.c; the reload keeps only the root.c limit.
    clearEarlierSetGroupLimits ranges over a Go map: resetting (g1, root) first breaks the link app1 → g1; resetting
    (g1, root.a.b) first wipes the applications of root, the later reset of root finds none and app1 stays linked to a
    group tracker that no longer counts it. -/
theorem reload_outcome_depends_on_map_order :
    let c2 : Cfg := [(R, []), (RA, []), (RAB, []), (RC, [lim [("mem", 4)] 1 [] ["g1"]])]
    let pre := run {} [.conf [(R, [lim [("mem", 5)] 0 [] ["g1"]]), (RA, []), (RAB, [lim [("mem", 5)] 0 [] ["g1"]]), (RC, [lim [("mem", 4)] 0 [] ["g1"]])],
                       .inc RC "app1" [("mem", 3)] "u3" ["g1"]]
    let s := processConfig pre c2
    groupForApp (finishConfig s [(R, "g1"), (RAB, "g1")] []) "u3" "app1" = "" ∧
    groupForApp (finishConfig s [(RAB, "g1"), (R, "g1")] []) "u3" "app1" = "g1" := by decide +kernel

/-! ## non-vacuity -/

private def exW : List (Path × Limit) := [(RA, { maxRes := some [("mem", 4)], maxApps := 1 })]

/-- the headroom of a fresh user tree under a wildcard limit; an ask that fits, one that does not -/
example : (headroom exW true (newTree exW true) RA).2 = some [("mem", 4)] ∧
    fitInMaxUndef (headroom exW true (newTree exW true) RA).2 (some [("mem", 3)]) = true ∧
    fitInMaxUndef (headroom exW true (newTree exW true) RA).2 (some [("mem", 5)]) = false ∧
    fitInMaxUndef (headroom exW true (newTree exW true) RA).2 (some [("cpu", 50)]) = true := by decide +kernel
example : (canRunApp exW true (increase exW true (newTree exW true) RA "app1" []) RA "app2").2 = false ∧
    (canRunApp exW true (increase exW true (newTree exW true) RA "app1" []) RA "app1").2 = true := by decide +kernel
example : histOk true (newTree exW true, [])
    [.inc exW ⟨"app1", RA, [("mem", 2)]⟩, .touch exW RAB, .dec ⟨"app1", RA, [("mem", 2)]⟩ true, .unlink RA] := by
  exact ⟨(by show wf [("mem", 2)] = true; decide +kernel), trivial, ⟨by decide +kernel, fun _ b hb => (List.eq_nil_iff_forall_not_mem.mp (by decide +kernel) b hb).elim⟩,
    trivial, trivial⟩

/-- a manager history with a reload between the allocation and its release meets the contract -/
example : mHistOk ({}, [])
    [.conf [(R, [lim [("mem", 9)] 0 ["u1"] []])], .inc RA "app1" [("mem", 2)] "u1" [], .conf [(R, [])],
     .dec RA "app1" [("mem", 2)] "u1" true] := by
  exact ⟨trivial, ⟨by decide +kernel, by decide +kernel, by decide +kernel, by decide +kernel⟩, trivial,
    ⟨by decide +kernel, fun _ b hb => (List.eq_nil_iff_forall_not_mem.mp (by decide +kernel) b hb).elim⟩, trivial⟩

/-- a proper configuration with a group limit, and a history without reload that meets the group contract -/
example : ProperCfg [(R, [lim [("mem", 20)] 0 [] ["g1"]]), (RA, [lim [("mem", 10)] 0 [] ["g1"]]), (RB, [])] := by
  unfold ProperCfg
  decide +kernel
example : groupForApp (run (updateConfig {} [(R, [lim [("mem", 20)] 0 [] ["g1"]]), (RA, [lim [("mem", 10)] 0 [] ["g1"]]), (RB, [])])
    [.inc RB "app1" [("mem", 3)] "u1" ["g1"]]) "u1" "app1" = "g1" := by decide +kernel
example : gHistOk (updateConfig {} [(R, [lim [("mem", 20)] 0 [] ["g1"]])], [])
    [.inc RA "app1" [("mem", 2)] "u1" ["g1"], .headroom RA "app1" "u1" ["g1"], .dec RA "app1" [("mem", 2)] "u1" true] := by
  exact ⟨⟨⟨by decide +kernel, by decide +kernel, by decide +kernel, by decide +kernel⟩, fun e he => (by cases he)⟩, trivial,
    ⟨by decide +kernel, fun _ b hb => (List.eq_nil_iff_forall_not_mem.mp (by decide +kernel) b hb).elim⟩, trivial⟩

/-- fall back from a named limit to an UNCHANGED wildcard limit (corpus/C05/ugm-fallback-to-unchanged-wildcard.jsonl): u1 is
    named on root beside a wildcard limit and runs app1 in root.a; the reload drops the named limit and repeats the wildcard
    entry as it was: the limit in force for u1 on root is the wildcard limit of the latest configuration, and its headroom
    is counted against it -/
example : inForceUser (run {} [.conf [(R, [lim [("mem", 9)] 0 ["u1"] [], lim [("mem", 5)] 2 ["*"] []]), (RA, [])],
     .inc RA "app1" [("mem", 3)] "u1" [], .conf [(R, [lim [("mem", 5)] 2 ["*"] []]), (RA, [])]]) "u1" R = (some [("mem", 5)], 2) := by decide +kernel
example : (headroomM (run {} [.conf [(R, [lim [("mem", 9)] 0 ["u1"] [], lim [("mem", 5)] 2 ["*"] []]), (RA, [])],
     .inc RA "app1" [("mem", 3)] "u1" [], .conf [(R, [lim [("mem", 5)] 2 ["*"] []]), (RA, [])]]) RA "app1" "u1" []).2 = some [("mem", 2)] := by decide +kernel

end Yk.C05
