/-
  Life-cycle invariants of the stepped Core model (C06 "no placeholder outlives its application", C10 "terminated
  applications leave the partition", "an application with outstanding asks or live real allocations is never
  Completed"): the definitions, and in namespace `Life` what the proofs per operation are made of.  The state machine is
  read by state name (`fireState_run`, `fireState_complete`: RunApplication and CompleteApplication off the generated
  table, once); the invariants are clauses about one application record; `Step a b` says what a record function does to
  the life cycle of a record — where the state name goes and what the new item list may hold there —, every clause is
  proved against it once, and a record function is shown to be an instance branch by branch of the model's `if`; a step
  that rewrites one record keeps the invariants when the new record has their clauses and the node map adds only entries
  of positive size (`Shape.life`).
  The one record function that is no `Step` is `deallocApp` / `deallocAppRun` of the node removal, which makes an ask
  outstanding again (Core2LifeNode.lean goes through the clauses for it).

  `Moves`, the same two events as a relation between state names, is not read by the life cycle but by the reservation
  invariant: its clause `quiet` (a Failing / Completing / terminated application holds no reservation) needs to know from
  which states such a state is entered (`ResS.quiet_of_moves`, `ResS.quiet_of_step`, Core2ResStep.lean).  The lemmas
  `<f>_moves` next to the record functions (`relSt_moves`, `askAppT_moves`, `askApp_moves`, `relAllApp_moves`) serve it: a
  record function whose `ResS.AppStep` is to come from `AppStep.of_step` owes one.

  Namespaces of the life-cycle files (a letter says no more than where the name stands): `Life` is this file up to
  `Shape.life_flag`; `LifeA` holds the lemmas of Core2LifeOps.lean (`ask`, `schedAlloc`, `releaseKey`, the operations that
  leave the records alone) and, at the end of this file, `askState` / `bindApp_state`, which the reservations read too;
  `LifeB` those of Core2LifeRel.lean (release of one allocation, placeholder swap); `LifeC` of Core2LifeApp.lean
  (application removal, timeouts); `LifeD` of Core2LifeNode.lean (node removal) and, in Core2LifeRel.lean, the four outcomes
  of a release for a Failing application in the form YkProps/C06.lean states them; `LifeE` of Core2LifeProps.lean (what C06
  and C10 state beyond preservation).  The invariants and the `life_nopend_<operation>` theorems stand in `Yk`.
-/
import YkProofs.Core2LinkRun
namespace Yk
open Res Core

/-- the size of an ask / allocation is positive somewhere (what `ask` accepts: not zero, nothing negative) -/
def PosRes (r : Res) : Prop := ∃ k, 0 < r.getD k

def CItem.outstanding (i : CItem) : Bool := i.inReq && !i.allocated

/-- The part of the life-cycle invariant that also holds in the middle of a node removal (where an application that has
    just terminated is still listed as live until the loop over the node's allocations is done). -/
structure LifeCore (s : Core) : Prop where
  pos : ∀ a ∈ s.apps, a.live = true → ∀ i ∈ a.items, PosRes i.res
  posNode : ∀ n ∈ s.nodes, ∀ x ∈ n.allocs, x.foreign = false → PosRes x.res
  /-- a Completing application holds no real allocation (a real allocation moves it back to Running) -/
  completingNoReal : ∀ a ∈ s.apps, a.live = true → a.state = "Completing" → ∀ i ∈ a.items, i.bound = true → i.ph = true
  /-- C06: no placeholder outlives its application — an application that has terminated (Completed / Failed) or has left
      the partition lists no bound placeholder -/
  noPhOrphan : ∀ a ∈ s.apps, (a.live = false ∨ terminated a.state = true) → ∀ i ∈ a.items, i.bound = true → i.ph = false
  /-- C10: a Completed application holds no real allocation -/
  completedNoReal : ∀ a ∈ s.apps, a.state = "Completed" → ∀ i ∈ a.items, i.bound = true → i.ph = true

/-- The life-cycle invariant at the operation boundaries. -/
structure LifeInv (s : Core) : Prop extends LifeCore s where
  /-- C10: terminated applications leave the partition -/
  termGone : ∀ a ∈ s.apps, a.live = true → terminated a.state = false

/-- C10, the clause about asks.  It holds along every history, also through a node removal that rolls back an in-flight
    swap of a Completing application: `LifeD.appMid_deallocAppRun`. -/
structure NoPendInv (s : Core) : Prop where
  /-- a Completing application has no outstanding ask (an ask moves it back to Running) -/
  completingNoPending : ∀ a ∈ s.apps, a.live = true → a.state = "Completing" → ∀ i ∈ a.items, i.outstanding = false
  completedNoAsk : ∀ a ∈ s.apps, a.state = "Completed" → ∀ i ∈ a.items, i.outstanding = false

/-- The clause about asks for one record as it holds in the middle of a node removal: the clause about Completed speaks
    only of records that have left the partition (why: `LifeD.appMid_deallocAppRun`). -/
structure AppNoPendMid (a : CApp) : Prop where
  completingNoPending : a.live = true → a.state = "Completing" → ∀ i ∈ a.items, i.outstanding = false
  completedNoAsk : a.live = false → a.state = "Completed" → ∀ i ∈ a.items, i.outstanding = false

def NoPendMid (s : Core) : Prop := ∀ a ∈ s.apps, AppNoPendMid a

theorem NoPendInv.mid {s : Core} (h : NoPendInv s) : NoPendMid s :=
  fun a ha => ⟨h.completingNoPending a ha, fun _ => h.completedNoAsk a ha⟩

theorem NoPendMid.inv {s : Core} (h : NoPendMid s) (ht : ∀ a ∈ s.apps, a.live = true → terminated a.state = false) :
    NoPendInv s := by
  refine ⟨fun a ha => (h a ha).completingNoPending, ?_⟩
  intro a ha hst
  cases hl : a.live with
  | false => exact (h a ha).completedNoAsk hl hst
  | true =>
    have := ht a ha hl
    simp [hst, terminated] at this

/-! ### a total that is zero: no item of its kind (the tests of the model are on totals, the clauses on items) -/

theorem no_item_of_sum_zero (l : List CItem) (c : CItem → Bool) (hnn : ∀ i ∈ l, NonNeg i.res) (hpos : ∀ i ∈ l, PosRes i.res)
    (hz : ∀ k, itemSum l c k = 0) : ∀ i ∈ l, c i = false := by
  intro i hi
  cases hc : c i with
  | false => rfl
  | true =>
    exfalso
    obtain ⟨k, hk⟩ := hpos i hi
    have := le_sumIf l c (fun j => j.res.getD k) (fun j hj _ => nonNeg_getD (hnn j hj) k) i hi hc
    have h0 : sumIf l c (fun j => j.res.getD k) = 0 := hz k
    omega

theorem AppBooks.none_of_zero {a : CApp} (hb : AppBooks a) (hw : AppWF a) (hpos : ∀ i ∈ a.items, PosRes i.res) :
    (isZero (some a.allocated) = true → ∀ i ∈ a.items, i.bound = true → i.ph = true) ∧
    (isZero (some a.allocatedPh) = true → ∀ i ∈ a.items, i.bound = true → i.ph = false) ∧
    (isZero (some a.pending) = true → ∀ i ∈ a.items, i.outstanding = false) := by
  have hnn : ∀ i ∈ a.items, NonNeg i.res := fun i hi => (hw.itemRes i hi).2
  refine ⟨?_, ?_, ?_⟩
  · intro hz i hi hbd
    have := no_item_of_sum_zero a.items _ hnn hpos (fun k => by rw [← hb.allocated k]; exact isZero_getD hz k) i hi
    simpa [hbd] using this
  · intro hz i hi hbd
    have := no_item_of_sum_zero a.items _ hnn hpos (fun k => by rw [← hb.allocatedPh k]; exact isZero_getD hz k) i hi
    simpa [hbd] using this
  · intro hz i hi
    have := no_item_of_sum_zero a.items (fun i => i.inReq && !i.allocated) hnn hpos
      (fun k => by rw [← hb.pending k]; exact isZero_getD hz k) i hi
    exact this

theorem posRes_of_sgtz {r : Res} (hw : wf r = true) (hs : strictlyGreaterThanZero (some r) = true) : PosRes r := by
  unfold strictlyGreaterThanZero at hs
  simp only at hs
  split at hs
  · cases hs
  · obtain ⟨p, hp, hpos⟩ := List.any_eq_true.mp hs
    exact ⟨p.1, by rw [getD_of_mem hw hp]; simpa using hpos⟩

theorem LifeCore.of_lists {s t : Core} (ha : t.apps = s.apps) (hn : t.nodes = s.nodes) (h : LifeCore s) : LifeCore t :=
  ⟨by rw [ha]; exact h.pos, by rw [hn]; exact h.posNode, by rw [ha]; exact h.completingNoReal, by rw [ha]; exact h.noPhOrphan,
   by rw [ha]; exact h.completedNoReal⟩

theorem NoPendInv.of_apps {s t : Core} (ha : t.apps = s.apps) (h : NoPendInv s) : NoPendInv t :=
  ⟨by rw [ha]; exact h.completingNoPending, by rw [ha]; exact h.completedNoAsk⟩

theorem AppState.mem_all (a : AppState) : a ∈ AppState.all := by cases a <;> decide

theorem AppEvent.mem_all (e : AppEvent) : e ∈ AppEvent.all := by cases e <;> decide

namespace Life

/-! ### the state machine, for an arbitrary state name -/

theorem ofName_name {st : String} {a : AppState} (h : AppState.ofName st = some a) : a.name = st := by
  unfold AppState.ofName at h
  simpa using List.find?_some h

theorem ne_name_of_ofName_none {st : String} (h : AppState.ofName st = none) (a : AppState) : st ≠ a.name := by
  intro e
  exact List.find?_eq_none.mp h a a.mem_all (by rw [e]; exact beq_self_eq_true _)

theorem fireState_ind (P : String → String → Prop) (e : AppEvent) (st : String)
    (h0 : AppState.ofName st = none → P st st) (h1 : ∀ a : AppState, P a.name (handle a e).name) :
    P st (fireState st e) := by
  unfold fireState
  cases h : AppState.ofName st with
  | none => exact h0 h
  | some a =>
    have := ofName_name h
    subst this
    exact h1 a

/-- the generated table, evaluated once by the kernel over all states, for the two events the record functions fire from
    any state (`decide` alone evaluates it in the elaborator as well) -/
theorem handle_table : ∀ a ∈ AppState.all,
    (handle a .run).name = (if a.name = "New" ∨ a.name = "Resuming" then "Accepted"
      else if a.name = "Accepted" ∨ a.name = "Completing" then "Running" else a.name) ∧
    (handle a .complete).name = (if a.name = "Accepted" ∨ a.name = "Running" then "Completing"
      else if a.name = "Completing" then "Completed" else a.name) := by decide +kernel

theorem fireState_run (st : String) :
    fireState st .run =
      if st = "New" ∨ st = "Resuming" then "Accepted" else if st = "Accepted" ∨ st = "Completing" then "Running" else st := by
  refine fireState_ind (fun s t => t = if s = "New" ∨ s = "Resuming" then "Accepted"
    else if s = "Accepted" ∨ s = "Completing" then "Running" else s) .run st ?_ (fun a => (handle_table a a.mem_all).1)
  intro hn
  have hne := ne_name_of_ofName_none hn
  rw [if_neg (fun h => h.elim (hne .new) (hne .resuming)), if_neg (fun h => h.elim (hne .accepted) (hne .completing))]

theorem fireState_complete (st : String) :
    fireState st .complete =
      if st = "Accepted" ∨ st = "Running" then "Completing" else if st = "Completing" then "Completed" else st := by
  refine fireState_ind (fun s t => t = if s = "Accepted" ∨ s = "Running" then "Completing"
    else if s = "Completing" then "Completed" else s) .complete st ?_ (fun a => (handle_table a a.mem_all).2)
  intro hn
  have hne := ne_name_of_ofName_none hn
  rw [if_neg (fun h => h.elim (hne .accepted) (hne .running)), if_neg (show st ≠ "Completing" from hne .completing)]

theorem fail_failing : fireState "Failing" .fail = "Failed" := by decide +kernel

/-- The moves of an application's state, by state name, that the record functions of the stepped model make: the edges of
    RunApplication and CompleteApplication from any state, FailApplication from Failing, and no move. -/
inductive Moves : String → String → Prop
  | stay (st : String) : Moves st st
  | accept : Moves "New" "Accepted"
  | resumed : Moves "Resuming" "Accepted"
  | start : Moves "Accepted" "Running"
  | again : Moves "Completing" "Running"
  | idleA : Moves "Accepted" "Completing"
  | idleR : Moves "Running" "Completing"
  | done : Moves "Completing" "Completed"
  | failed : Moves "Failing" "Failed"

theorem Moves.run (st : String) : Moves st (fireState st .run) := by
  rw [fireState_run]
  split
  · rename_i h; rcases h with rfl | rfl
    · exact .accept
    · exact .resumed
  · split
    · rename_i h; rcases h with rfl | rfl
      · exact .start
      · exact .again
    · exact .stay st

theorem Moves.complete (st : String) : Moves st (fireState st .complete) := by
  rw [fireState_complete]
  split
  · rename_i h; rcases h with rfl | rfl
    · exact .idleA
    · exact .idleR
  · split
    · rename_i h; subst h; exact .done
    · exact .stay st

theorem Moves.fail : Moves "Failing" (fireState "Failing" .fail) := by rw [fail_failing]; exact .failed

/-- CompleteApplication fired under a test: the state after `askAppT`, `askApp`, `relAllApp`, `dropAsksApp` -/
theorem Moves.ite_complete {c : Prop} [Decidable c] (st : String) : Moves st (if c then fireState st .complete else st) := by
  split
  · exact .complete _
  · exact .stay _

theorem Moves.into_terminated {st st' : String} (h : Moves st st') (hs : terminated st' = true) :
    terminated st = true ∨ st = "Completing" ∨ st = "Failing" := by
  cases h <;> simp_all [terminated]

theorem Moves.into_failing {st st' : String} (h : Moves st st') (hs : st' = "Failing") : st = "Failing" := by
  cases h <;> simp_all

theorem run_ne_completing (st : String) : fireState st .run ≠ "Completing" := by
  rw [fireState_run]
  split
  · simp
  · split
    · simp
    · rename_i h; exact fun e => h (Or.inr e)

theorem run_completed (st : String) (h : fireState st .run = "Completed") : st = "Completed" := by
  rw [fireState_run] at h
  split at h
  · simp at h
  · split at h
    · simp at h
    · exact h

theorem run_terminated (st : String) (h : terminated (fireState st .run) = true) : terminated st = true := by
  rw [fireState_run] at h
  split at h
  · simp [terminated] at h
  · split at h
    · simp [terminated] at h
    · exact h

theorem complete_terminated (st : String) (h : terminated (fireState st .complete) = true) :
    st = "Completing" ∨ terminated st = true := by
  rw [fireState_complete] at h
  split at h
  · simp [terminated] at h
  · split at h
    · rename_i hc; exact Or.inl hc
    · exact Or.inr h

/-- for the record functions whose test excludes Completing: `askAppT`, `askApp`, `dropAsksApp` -/
theorem ite_complete_not_terminated {c : Prop} [Decidable c] {st : String} (hc : c → st ≠ "Completing")
    (hnt : terminated st = false) : terminated (if c then fireState st .complete else st) = false := by
  split
  · rename_i h
    cases ht : terminated (fireState st .complete) with
    | false => rfl
    | true =>
      rcases complete_terminated _ ht with e | e
      · exact absurd e (hc h)
      · rw [hnt] at e; cases e
  · exact hnt

/-! ### the invariants, application by application -/

structure AppCore (a : CApp) : Prop where
  pos : a.live = true → ∀ i ∈ a.items, PosRes i.res
  completingNoReal : a.live = true → a.state = "Completing" → ∀ i ∈ a.items, i.bound = true → i.ph = true
  noPhOrphan : (a.live = false ∨ terminated a.state = true) → ∀ i ∈ a.items, i.bound = true → i.ph = false
  completedNoReal : a.state = "Completed" → ∀ i ∈ a.items, i.bound = true → i.ph = true

structure AppLife (a : CApp) : Prop extends AppCore a where
  termGone : a.live = true → terminated a.state = false

structure AppNoPend (a : CApp) : Prop where
  completingNoPending : a.live = true → a.state = "Completing" → ∀ i ∈ a.items, i.outstanding = false
  completedNoAsk : a.state = "Completed" → ∀ i ∈ a.items, i.outstanding = false

def PosNodes (nodes : List CNode) : Prop := ∀ n ∈ nodes, ∀ x ∈ n.allocs, x.foreign = false → PosRes x.res

theorem appCore_of {s : Core} (h : LifeCore s) {a : CApp} (ha : a ∈ s.apps) : AppCore a :=
  ⟨h.pos a ha, h.completingNoReal a ha, h.noPhOrphan a ha, h.completedNoReal a ha⟩

theorem appLife_of {s : Core} (h : LifeInv s) {a : CApp} (ha : a ∈ s.apps) : AppLife a :=
  ⟨appCore_of h.toLifeCore ha, h.termGone a ha⟩

theorem appNoPend_of {s : Core} (h : NoPendInv s) {a : CApp} (ha : a ∈ s.apps) : AppNoPend a :=
  ⟨h.completingNoPending a ha, h.completedNoAsk a ha⟩

theorem lifeCore_of {s : Core} (ha : ∀ a ∈ s.apps, AppCore a) (hn : PosNodes s.nodes) : LifeCore s :=
  ⟨fun a h => (ha a h).pos, hn, fun a h => (ha a h).completingNoReal, fun a h => (ha a h).noPhOrphan,
   fun a h => (ha a h).completedNoReal⟩

theorem lifeInv_of {s : Core} (ha : ∀ a ∈ s.apps, AppLife a) (hn : PosNodes s.nodes) : LifeInv s :=
  ⟨lifeCore_of (fun a h => (ha a h).toAppCore) hn, fun a h => (ha a h).termGone⟩

theorem noPendInv_of {s : Core} (ha : ∀ a ∈ s.apps, AppNoPend a) : NoPendInv s :=
  ⟨fun a h => (ha a h).completingNoPending, fun a h => (ha a h).completedNoAsk⟩

theorem not_completing_of_real {a : CApp} {i : CItem} (hca : AppCore a) (hlv : a.live = true) (him : i ∈ a.items)
    (hbd : i.bound = true) (hph : i.ph = false) : a.state ≠ "Completing" := fun hC => by
  have := hca.completingNoReal hlv hC i him hbd
  rw [hph] at this; cases this

theorem AppCore.of_items {a b : CApp} (hl : b.live = a.live) (hs : b.state = a.state)
    (hi : ∀ y ∈ b.items, ∃ x ∈ a.items, y.res = x.res ∧ y.ph = x.ph ∧ (y.bound = true → x.bound = true))
    (h : AppCore a) : AppCore b := by
  refine ⟨?_, ?_, ?_, ?_⟩
  · intro hbl y hy
    obtain ⟨x, hx, hr, _⟩ := hi y hy
    rw [hr]; exact h.pos (hl ▸ hbl) x hx
  · intro hbl hst y hy hyb
    obtain ⟨x, hx, _, hp, hb⟩ := hi y hy
    rw [hp]; exact h.completingNoReal (hl ▸ hbl) (hs ▸ hst) x hx (hb hyb)
  · intro hor y hy hyb
    obtain ⟨x, hx, _, hp, hb⟩ := hi y hy
    rw [hp]; exact h.noPhOrphan (hl ▸ hs ▸ hor) x hx (hb hyb)
  · intro hst y hy hyb
    obtain ⟨x, hx, _, hp, hb⟩ := hi y hy
    rw [hp]; exact h.completedNoReal (hs ▸ hst) x hx (hb hyb)

theorem AppLife.of_items {a b : CApp} (hl : b.live = a.live) (hs : b.state = a.state)
    (hi : ∀ y ∈ b.items, ∃ x ∈ a.items, y.res = x.res ∧ y.ph = x.ph ∧ (y.bound = true → x.bound = true))
    (h : AppLife a) : AppLife b :=
  ⟨h.toAppCore.of_items hl hs hi, by rw [hl, hs]; exact h.termGone⟩

theorem AppNoPend.of_items {a b : CApp} (hl : b.live = a.live) (hs : b.state = a.state)
    (hi : ∀ y ∈ b.items, ∃ x ∈ a.items, y.outstanding = true → x.outstanding = true) (h : AppNoPend a) :
    AppNoPend b := by
  have hold : (∀ x ∈ a.items, x.outstanding = false) → ∀ y ∈ b.items, y.outstanding = false := by
    intro hall y hy
    obtain ⟨x, hx, ho⟩ := hi y hy
    cases hyo : y.outstanding with
    | false => rfl
    | true => rw [hall x hx] at ho; exact (ho hyo).symm
  exact ⟨fun hbl hst => hold (h.completingNoPending (hl ▸ hbl) (hs ▸ hst)), fun hst => hold (h.completedNoAsk (hs ▸ hst))⟩

theorem left_of_failed {b : CApp} (e : b.live = !(terminated b.state)) (hs : b.state = "Failed") :
    b.state = "Failed" ∧ b.live = false :=
  ⟨hs, by rw [e, hs]; simp [terminated]⟩

theorem live_of_failing {b : CApp} (e : b.live = !(terminated b.state)) (hs : b.state = "Failing") :
    b.state = "Failing" ∧ b.live = true :=
  ⟨hs, by rw [e, hs]; simp [terminated]⟩

theorem AppLife.of_no_items {b : CApp} (h : ∀ y ∈ b.items, False) (hg : b.live = true → terminated b.state = false) :
    AppLife b ∧ AppNoPend b :=
  ⟨⟨⟨fun _ y hy => (h y hy).elim, fun _ _ y hy => (h y hy).elim, fun _ y hy => (h y hy).elim,
    fun _ y hy => (h y hy).elim⟩, hg⟩, fun _ _ y hy => (h y hy).elim, fun _ y hy => (h y hy).elim⟩

theorem AppNoPend.of_none {b : CApp} (h : ∀ y ∈ b.items, y.outstanding = false) : AppNoPend b :=
  ⟨fun _ _ => h, fun _ => h⟩

/-! ### what the clauses read of an item list, and item lists that only lose -/

def NoReal (l : List CItem) : Prop := ∀ i ∈ l, i.bound = true → i.ph = true
def NoPh (l : List CItem) : Prop := ∀ i ∈ l, i.bound = true → i.ph = false
def NoAsk (l : List CItem) : Prop := ∀ i ∈ l, i.outstanding = false
def Pos (l : List CItem) : Prop := ∀ i ∈ l, PosRes i.res

/-- every item of `m` is an item of `l` that has at most lost its binding or its request (sizes and kinds are kept) -/
def Loses (l m : List CItem) : Prop :=
  ∀ y ∈ m, ∃ x ∈ l, y.res = x.res ∧ y.ph = x.ph ∧ (y.bound = true → x.bound = true) ∧
    (y.outstanding = true → x.outstanding = true)

theorem Loses.refl (l : List CItem) : Loses l l := fun y hy => ⟨y, hy, rfl, rfl, id, id⟩

theorem Loses.filter {l m : List CItem} (h : Loses l m) (p : CItem → Bool) : Loses l (m.filter p) :=
  fun y hy => h y (List.mem_filter.mp hy).1

def ItemLoses (g : CItem → CItem) : Prop :=
  ∀ x, (g x).res = x.res ∧ (g x).ph = x.ph ∧ ((g x).bound = true → x.bound = true) ∧
    ((g x).outstanding = true → x.outstanding = true)

theorem Loses.map {l m : List CItem} (h : Loses l m) {g : CItem → CItem} (hg : ItemLoses g) : Loses l (m.map g) := by
  intro y hy
  obtain ⟨x, hx, rfl⟩ := List.mem_map.mp hy
  obtain ⟨g1, g2, g3, g4⟩ := hg x
  obtain ⟨z, hz, a1, a2, a3, a4⟩ := h x hx
  exact ⟨z, hz, g1.trans a1, g2.trans a2, fun h => a3 (g3 h), fun h => a4 (g4 h)⟩

theorem ItemLoses.ite (c : CItem → Bool) {g : CItem → CItem} (hg : ItemLoses g) :
    ItemLoses (fun x => if c x = true then g x else x) := by
  intro x
  dsimp only
  split
  · exact hg x
  · exact ⟨rfl, rfl, id, id⟩

theorem Loses.updItem {l m : List CItem} (h : Loses l m) (k : String) {g : CItem → CItem} (hg : ItemLoses g) :
    Loses l (updItem k g m) :=
  h.map (hg.ite (fun x => x.key == k))

theorem ItemLoses.of_irrel {g : CItem → CItem} (hg : ItemIrrel g) : ItemLoses g := by
  intro x
  obtain ⟨_, h2, h3, h4, h5, h6⟩ := hg x
  exact ⟨h2, h3, fun h => h5 ▸ h, fun h => by unfold CItem.outstanding at h ⊢; rw [← h4, ← h6]; exact h⟩

theorem itemLoses_unbind : ItemLoses (fun x => { x with bound := false }) := fun _ => ⟨rfl, rfl, fun h => (by cases h), id⟩

theorem itemLoses_unreq : ItemLoses (fun x => { x with inReq := false }) :=
  fun _ => ⟨rfl, rfl, id, fun h => (by simp [CItem.outstanding] at h)⟩

theorem Loses.pos {l m : List CItem} (h : Loses l m) (hl : Pos l) : Pos m := fun y hy => by
  obtain ⟨x, hx, hr, _⟩ := h y hy
  rw [hr]; exact hl x hx

theorem Loses.noReal {l m : List CItem} (h : Loses l m) (hl : NoReal l) : NoReal m := fun y hy hb => by
  obtain ⟨x, hx, _, hp, hbd, _⟩ := h y hy
  rw [hp]; exact hl x hx (hbd hb)

theorem Loses.noPh {l m : List CItem} (h : Loses l m) (hl : NoPh l) : NoPh m := fun y hy hb => by
  obtain ⟨x, hx, _, hp, hbd, _⟩ := h y hy
  rw [hp]; exact hl x hx (hbd hb)

theorem Loses.noAsk {l m : List CItem} (h : Loses l m) (hl : NoAsk l) : NoAsk m := fun y hy => by
  obtain ⟨x, hx, _, _, _, ho⟩ := h y hy
  cases hyo : y.outstanding with
  | false => rfl
  | true => rw [hl x hx] at ho; exact (ho hyo).symm

/-! ### one rewriting of an application record, as far as the life cycle is concerned -/

/-- What a record function of the model does to the life cycle of the record `a` (`b` is the new record): where the
    state name goes and what the new item list may hold there.  The constructors go by where the record ends up, since
    that is what the invariants constrain; `live` is not read (each record function has its own law for it). -/
inductive Step (a b : CApp) : Prop
  /-- the application has work: any state but Completing / Completed / Failed -/
  | safe (hc : b.state ≠ "Completing") (ht : terminated b.state = false)
  /-- the state stays; no real allocation and no outstanding ask is gained (placeholders only matter once terminated) -/
  | stay (hs : b.state = a.state) (hr : NoReal a.items → NoReal b.items)
      (hp : terminated a.state = true → NoPh a.items → NoPh b.items) (hk : NoAsk a.items → NoAsk b.items)
  /-- CompleteApplication from Accepted / Running: no real allocation, nothing outstanding -/
  | idle (hs : b.state = "Completing") (hr : NoReal b.items) (hk : NoAsk b.items)
  /-- CompleteApplication from Completing: no placeholder left; what a Completing record does not hold is not gained -/
  | done (hs : b.state = "Completed") (hp : NoPh b.items)
      (hr : (a.state = "Completing" → NoReal a.items) → NoReal b.items)
      (hk : (a.state = "Completing" → NoAsk a.items) → NoAsk b.items)
  /-- FailApplication from Failing: no placeholder left -/
  | failed (hs : b.state = "Failed") (hp : NoPh b.items)

namespace Step
variable {a b c : CApp}

theorem stay_of_loses (hs : b.state = a.state) (hi : Loses a.items b.items) : Step a b :=
  .stay hs hi.noReal (fun _ => hi.noPh) hi.noAsk

theorem cingReal (h : Step a b) (ha : a.state = "Completing" → NoReal a.items) (hst : b.state = "Completing") :
    NoReal b.items := by
  cases h with
  | safe hc _ => exact absurd hst hc
  | stay hs hr _ _ => exact hr (ha (hs ▸ hst))
  | idle _ hr _ => exact hr
  | done hs _ _ _ => rw [hs] at hst; simp at hst
  | failed hs _ => rw [hs] at hst; simp at hst

theorem cingAsk (h : Step a b) (ha : a.state = "Completing" → NoAsk a.items) (hst : b.state = "Completing") :
    NoAsk b.items := by
  cases h with
  | safe hc _ => exact absurd hst hc
  | stay hs _ _ hk => exact hk (ha (hs ▸ hst))
  | idle _ _ hk => exact hk
  | done hs _ _ _ => rw [hs] at hst; simp at hst
  | failed hs _ => rw [hs] at hst; simp at hst

theorem cedReal (h : Step a b) (ha : a.state = "Completing" → NoReal a.items) (ha' : a.state = "Completed" → NoReal a.items)
    (hst : b.state = "Completed") : NoReal b.items := by
  cases h with
  | safe _ hnt => rw [hst] at hnt; simp [terminated] at hnt
  | stay hs hr _ _ => exact hr (ha' (hs ▸ hst))
  | idle hs _ _ => rw [hs] at hst; simp at hst
  | done _ _ hr _ => exact hr ha
  | failed hs _ => rw [hs] at hst; simp at hst

theorem cedAsk (h : Step a b) (ha : a.state = "Completing" → NoAsk a.items) (ha' : a.state = "Completed" → NoAsk a.items)
    (hst : b.state = "Completed") : NoAsk b.items := by
  cases h with
  | safe _ hnt => rw [hst] at hnt; simp [terminated] at hnt
  | stay hs _ _ hk => exact hk (ha' (hs ▸ hst))
  | idle hs _ _ => rw [hs] at hst; simp at hst
  | done _ _ _ hk => exact hk ha
  | failed hs _ => rw [hs] at hst; simp at hst

theorem termPh (h : Step a b) (ha : terminated a.state = true → NoPh a.items) (ht : terminated b.state = true) :
    NoPh b.items := by
  cases h with
  | safe _ hnt => rw [hnt] at ht; cases ht
  | stay hs _ hp _ => rw [hs] at ht; exact hp ht (ha ht)
  | idle hs _ _ => rw [hs] at ht; simp [terminated] at ht
  | done _ hp _ _ => exact hp
  | failed _ hp => exact hp

theorem trans (h1 : Step a b) (h2 : Step b c) : Step a c := by
  cases h2 with
  | safe hc ht => exact .safe hc ht
  | idle hs hr hk => exact .idle hs hr hk
  | failed hs hp => exact .failed hs hp
  | done hs hp hr hk => exact .done hs hp (fun ha => hr (h1.cingReal ha)) (fun ha => hk (h1.cingAsk ha))
  | stay hs hr hp hk =>
    cases h1 with
    | safe hc ht => exact .safe (hs ▸ hc) (hs ▸ ht)
    | stay hs' hr' hp' hk' =>
      exact .stay (hs.trans hs') (fun h => hr (hr' h)) (fun t n => hp (hs' ▸ t) (hp' t n)) (fun h => hk (hk' h))
    | idle hs' hr' hk' => exact .idle (hs.trans hs') (hr hr') (hk hk')
    | done hs' hp' hr' hk' =>
      exact .done (hs.trans hs') (hp (by rw [hs']; rfl) hp') (fun h => hr (hr' h)) (fun h => hk (hk' h))
    | failed hs' hp' => exact .failed (hs.trans hs') (hp (by rw [hs']; rfl) hp')

theorem congr {b' : CApp} (h : Step a b) (hs : b'.state = b.state) (hi : b'.items = b.items) : Step a b' := by
  cases h with
  | safe hc ht => exact .safe (hs ▸ hc) (hs ▸ ht)
  | stay hs' hr hp hk => exact .stay (hs.trans hs') (hi ▸ hr) (hi ▸ hp) (hi ▸ hk)
  | idle hs' hr hk => exact .idle (hs.trans hs') (hi ▸ hr) (hi ▸ hk)
  | done hs' hp hr hk => exact .done (hs.trans hs') (hi ▸ hp) (hi ▸ hr) (hi ▸ hk)
  | failed hs' hp => exact .failed (hs.trans hs') (hi ▸ hp)

theorem setLive (h : Step a b) (v : Bool) : Step a { b with live := v } := h.congr rfl rfl

/-- for a record kept listed as live inside a node removal (`nodeRmApp`, `confirmApp`) apply `Step.setLive` first: then
    `hl` is trivial -/
theorem core (h : Step a b) (hca : AppCore a) (hlv : a.live = true) (hpos : Pos b.items)
    (hl : b.live = false → terminated b.state = true) : AppCore b :=
  ⟨fun _ => hpos, fun _ => h.cingReal (hca.completingNoReal hlv),
    fun hd => h.termPh (fun t => hca.noPhOrphan (Or.inr t)) (hd.elim hl id),
    h.cedReal (hca.completingNoReal hlv) hca.completedNoReal⟩

theorem nopend (h : Step a b) (hlv : a.live = true) (hpa : AppNoPend a) : AppNoPend b :=
  ⟨fun _ => h.cingAsk (hpa.completingNoPending hlv), h.cedAsk (hpa.completingNoPending hlv) hpa.completedNoAsk⟩

theorem nopendMid (h : Step a b) (hlv : a.live = true) (hpa : AppNoPendMid a) (hlb : b.live = true) : AppNoPendMid b :=
  ⟨fun _ => h.cingAsk (hpa.completingNoPending hlv), fun hf => by rw [hlb] at hf; cases hf⟩

theorem life (h : Step a b) (hla : AppLife a) (hlv : a.live = true) (hpos : Pos b.items)
    (hl : b.live = !(terminated b.state)) : AppLife b ∧ (AppNoPend a → AppNoPend b) :=
  ⟨⟨h.core hla.toAppCore hlv hpos (fun e => by rw [hl] at e; simpa using e), fun e => by rw [hl] at e; simpa using e⟩,
    h.nopend hlv⟩

theorem life_kept (h : Step a b) (hla : AppLife a) (hlv : a.live = true) (hpos : Pos b.items) (hlb : b.live = true)
    (hnt : terminated b.state = false) : AppLife b ∧ (AppNoPend a → AppNoPend b) :=
  h.life hla hlv hpos (by rw [hlb, hnt]; rfl)

theorem ofRun (hs : b.state = fireState a.state .run) (hnt : terminated a.state = false) : Step a b := by
  refine .safe (hs ▸ run_ne_completing _) ?_
  cases h : terminated b.state with
  | false => rfl
  | true => rw [hs] at h; rw [run_terminated _ h] at hnt; cases hnt

/-- `hidle`, `hdone`: what the new record holds when the model fires CompleteApplication from Accepted / Running and from
    Completing -/
theorem ofCompleteItems (hs : b.state = fireState a.state .complete) (hi : Loses a.items b.items)
    (hidle : a.state = "Accepted" ∨ a.state = "Running" → NoReal b.items ∧ NoAsk b.items)
    (hdone : a.state = "Completing" → NoPh b.items) : Step a b := by
  rw [fireState_complete] at hs
  split at hs
  · rename_i h; exact .idle hs (hidle h).1 (hidle h).2
  · split at hs
    · rename_i h; exact .done hs (hdone h) (fun ha => hi.noReal (ha h)) (fun ha => hi.noAsk (ha h))
    · exact .stay_of_loses hs hi

/-- the tests as the model makes them, on totals: the books of the new record turn a zero total into "no item of that
    kind" -/
theorem ofComplete (hbb : AppBooks b) (hwb : AppWF b) (hpos : Pos b.items) (hs : b.state = fireState a.state .complete)
    (hi : Loses a.items b.items)
    (hidle : a.state = "Accepted" ∨ a.state = "Running" →
      isZero (some b.pending) = true ∧ isZero (some b.allocated) = true)
    (hdone : a.state = "Completing" → isZero (some b.allocatedPh) = true) : Step a b := by
  obtain ⟨z1, z2, z3⟩ := hbb.none_of_zero hwb hpos
  exact ofCompleteItems hs hi (fun h => ⟨z1 (hidle h).2, z3 (hidle h).1⟩) (fun h => z2 (hdone h))

theorem ofFail (hbb : AppBooks b) (hwb : AppWF b) (hpos : Pos b.items) (ha : a.state = "Failing")
    (hs : b.state = fireState a.state .fail) (hz : isZero (some b.allocatedPh) = true) : Step a b :=
  .failed (by rw [hs, ha, fail_failing]) ((hbb.none_of_zero hwb hpos).2.1 hz)

end Step

/-! ### the node entries stay positive -/

/-- all a description of a step has to say about its node map for `LifeCore.posNode` -/
def AddsPos (fn : CNode → CNode) : Prop := ∀ n, ∀ x ∈ (fn n).allocs, x.foreign = false → x ∈ n.allocs ∨ PosRes x.res

theorem AddsPos.of_sub {fn : CNode → CNode} (h : ∀ n, ∀ x ∈ (fn n).allocs, x ∈ n.allocs) : AddsPos fn :=
  fun n x hx _ => Or.inl (h n x hx)

theorem AddsPos.self : AddsPos (fun n => n) := .of_sub (fun _ _ hx => hx)

theorem AddsPos.of_irrel {g : CNode → CNode} (hg : NodeIrrel g) : AddsPos g := .of_sub (fun n _ hx => (hg n).2.1 ▸ hx)

theorem AddsPos.onNodeId {id : String} {h : CNode → CNode} (hh : AddsPos h) : AddsPos (onNodeId id h) := fun n =>
  onNodeId_keeps (P := fun m => ∀ x ∈ m.allocs, x.foreign = false → x ∈ n.allocs ∨ PosRes x.res) (fun _ => hh n)
    (fun _ hx _ => Or.inl hx)

/-- a node that gains the entry `e` (`addAllocNode e`, `nodeSwap`) -/
theorem AddsPos.of_add {fn : CNode → CNode} {e : CNodeAlloc} (he : PosRes e.res)
    (h : ∀ n, ∀ x ∈ (fn n).allocs, x ∈ n.allocs ∨ x = e) : AddsPos fn :=
  fun n x hx _ => (h n x hx).imp id (fun hxe => by rw [hxe]; exact he)

theorem AddsPos.comp {f g : CNode → CNode} (hf : AddsPos f) (hg : AddsPos g) : AddsPos (fun n => g (f n)) :=
  fun n x hx hxf => (hg (f n) x hx hxf).elim (fun h => hf n x h hxf) Or.inr

theorem PosNodes.map {ns : List CNode} (h : PosNodes ns) {fn : CNode → CNode} (hf : AddsPos fn) : PosNodes (ns.map fn) := by
  intro n' hn' x hx hxf
  obtain ⟨n, hn, rfl⟩ := List.mem_map.mp hn'
  exact (hf n x hx hxf).elim (fun hm => h n hn x hm hxf) id

/-! ### the transport over a `Shape` -/

section
variable {s t : Core} {app : String} {a a' : CApp} {fq : CQueue → CQueue} {fn : CNode → CNode}

theorem _root_.Yk.Shape.lifeCore (sh : Shape s t app a a' fq fn) (hw : CoreWF s) (hl : LifeCore s) (hfa : AppCore a')
    (hn : AddsPos fn) : LifeCore t :=
  lifeCore_of (sh.all hw hfa (fun _ hx => appCore_of hl hx)) (sh.nodes ▸ PosNodes.map hl.posNode hn)

/-- A step that rewrites the one record `a` to `a'` keeps both invariants when `a'` has their clauses (from the `Step` of
    the record function: `Step.life`) and the node map adds no entry but positive ones. -/
theorem _root_.Yk.Shape.life (sh : Shape s t app a a' fq fn) (hw : CoreWF s) (hl : LifeInv s)
    (hfa : AppLife a' ∧ (AppNoPend a → AppNoPend a')) (hn : AddsPos fn) : LifeInv t ∧ (NoPendInv s → NoPendInv t) :=
  ⟨lifeInv_of (sh.all hw hfa.1 (fun _ hx => appLife_of hl hx)) (sh.nodes ▸ PosNodes.map hl.posNode hn),
    fun hp => noPendInv_of (sh.all hw (hfa.2 (appNoPend_of hp sh.mem.1)) (fun _ hx => appNoPend_of hp hx))⟩

end

theorem flag_step {a b : CApp} (g : CItem → CItem) (hg : ItemIrrel g) (hi : b.items = a.items.map g)
    (hs : b.state = a.state) : Step a b :=
  .stay_of_loses hs (hi ▸ (Loses.refl _).map (ItemLoses.of_irrel hg))

theorem _root_.Yk.Shape.life_flag {s t : Core} {app : String} {a a' : CApp} {fq : CQueue → CQueue} {g : CItem → CItem}
    (sh : Shape s t app a a' fq (fun n => n)) (hw : CoreWF s) (hl : LifeInv s) (hg : ItemIrrel g)
    (hi : a'.items = a.items.map g) (hs : a'.state = a.state) (hlv : a'.live = a.live) :
    LifeInv t ∧ (NoPendInv s → NoPendInv t) := by
  obtain ⟨ham, hla, _⟩ := sh.mem
  exact sh.life hw hl ((flag_step g hg hi hs).life_kept (appLife_of hl ham) hla
    (hi ▸ ((Loses.refl _).map (ItemLoses.of_irrel hg)).pos (hl.pos a ham hla)) (hlv.trans hla) (hs ▸ hl.termGone a ham hla)) .self

end Life

/-! ### the state after `ask` and after `schedAlloc` (read by the life cycle and by the reservations) -/

namespace LifeA

/-- the state of the application after a new ask: RunApplication for a New / Completing one -/
def askState (st : String) : String := if st == "New" || st == "Completing" then fireState st .run else st

theorem bindApp_state (key node : String) (i : CItem) (a : CApp) :
    ((bindApp key node i a).state = a.state ∧ i.ph = true) ∨ (bindApp key node i a).state = fireState a.state .run := by
  unfold bindApp
  cases i.ph
  · exact Or.inr rfl
  · show ((if equals (some (addX a.allocatedPh i.res)) (some a.phAsk) false = true then fireState a.state .run else a.state)
        = a.state ∧ true = true) ∨
      (if equals (some (addX a.allocatedPh i.res)) (some a.phAsk) false = true then fireState a.state .run else a.state)
        = fireState a.state .run
    split
    · exact Or.inr rfl
    · exact Or.inl ⟨rfl, rfl⟩

end LifeA

structure CoreInv (s : Core) : Prop where
  wf : CoreWF s
  books : Books s
  linked : Linked s
  life : LifeInv s

end Yk
