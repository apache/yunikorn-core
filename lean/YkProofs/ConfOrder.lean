/-
  C15, map order: `resources.NewResourceFromConf` ranges over a Go map.  The model reads the map as a list of entries;
  here: for a map (unique keys) the result does not depend on the order of the entries — the same error, or resources
  that give the same quantity to every type — and FitInMaxUndef only looks at those quantities (`fit_ext`; IsZero and
  StrictlyGreaterThanZero: `isZero_congr`, `sgtz_congr` in YkProofs/ConfPerm.lean).
-/
import YkProofs.Conf
namespace Yk.Conf
open Yk Yk.Res

def VRel {α β : Type} (R : α → β → Prop) : V α → V β → Prop
  | .ok a, .ok b => R a b
  | .error e, .error e' => e = e'
  | _, _ => False

theorem VRel.cases {α β : Type} {R : α → β → Prop} {x : V α} {y : V β} (h : VRel R x y) :
    (∃ e, x = .error e ∧ y = .error e) ∨ ∃ a b, x = .ok a ∧ y = .ok b ∧ R a b := by
  cases x <;> cases y <;> simp only [VRel] at h
  · exact .inl ⟨_, by rw [h], rfl⟩
  · exact .inr ⟨_, _, rfl, rfl, h⟩

theorem VRel.trans {α : Type} {R : α → α → Prop} (hR : ∀ a b c, R a b → R b c → R a c) {x y z : V α}
    (h1 : VRel R x y) (h2 : VRel R y z) : VRel R x z := by
  rcases h1.cases with ⟨e, rfl, rfl⟩ | ⟨a, b, rfl, rfl, hab⟩
  · exact h2
  · rcases h2.cases with ⟨e, he, _⟩ | ⟨_, c, hb, rfl, hbc⟩
    · cases he
    · cases hb; exact hR a b c hab hbc

theorem VRel.error {α β : Type} {R : α → β → Prop} (e : VErr) : VRel R (Except.error e : V α) (Except.error e : V β) := rfl

theorem VRel.bind {α β γ δ : Type} {R : α → β → Prop} {S : γ → δ → Prop} {x : V α} {y : V β} {f : α → V γ} {g : β → V δ}
    (h : VRel R x y) (hf : ∀ a b, R a b → VRel S (f a) (g b)) : VRel S (x >>= f) (y >>= g) := by
  rcases h.cases with ⟨e, hx, hy⟩ | ⟨a, b, hx, hy, hab⟩ <;> rw [hx, hy]
  · exact VRel.error e
  · exact hf a b hab

theorem VRel.ite_error {α β : Type} {R : α → β → Prop} {c : Bool} {e : VErr} {x : V α} {y : V β} (h : VRel R x y) :
    VRel R (if c = true then .error e else x) (if c = true then .error e else y) := by
  cases c
  · exact h
  · exact VRel.error e

theorem VRel.eq {α : Type} {x y : V α} (h : VRel Eq x y) : x = y := by
  rcases h.cases with ⟨e, hx, hy⟩ | ⟨a, b, hx, hy, hab⟩
  · rw [hx, hy]
  · rw [hx, hy, hab]

theorem VRel.of_eq {α : Type} {x y : V α} (h : x = y) : VRel Eq x y := by
  subst h; cases x <;> rfl

theorem VRel.bind_eq {α γ δ : Type} {S : γ → δ → Prop} {x y : V α} {f : α → V γ} {g : α → V δ}
    (h : x = y) (hf : ∀ a, VRel S (f a) (g a)) : VRel S (x >>= f) (y >>= g) :=
  (VRel.of_eq h).bind fun a _ e => e ▸ hf a

def SameQty (r r' : Res) : Prop := ∀ k, r.get? k = r'.get? k

theorem SameQty.set {r r' : Res} (h : SameQty r r') (k : String) (v : Int) : SameQty (r.set k v) (r'.set k v) :=
  fun k' => by rw [get?_set, get?_set, h k']

theorem parseConfL_congr_acc (m : SMap) : ∀ acc acc' : Res, SameQty acc acc' →
    VRel SameQty (parseConfL m acc) (parseConfL m acc') := by
  induction m with
  | nil => exact fun _ _ h => h
  | cons x t ih =>
    intro acc acc' h
    unfold parseConfL
    cases parseQ x.2 (x.1 == "vcore") with
    | error e => rfl
    | ok v => exact ih _ _ (h.set _ v)

/-- by induction on the permutation; two neighbouring entries commute because their keys differ -/
theorem parseConfL_perm {m m' : SMap} (hp : m.Perm m') : (m.map Prod.fst).Nodup → ∀ acc acc', SameQty acc acc' →
    VRel SameQty (parseConfL m acc) (parseConfL m' acc') := by
  induction hp with
  | nil => exact fun _ _ _ h => h
  | cons x _ ih =>
    intro hn acc acc' h
    unfold parseConfL
    cases parseQ x.2 (x.1 == "vcore") with
    | error e => rfl
    | ok v => exact ih (List.nodup_cons.mp hn).2 _ _ (h.set _ v)
  | swap x y l =>
    intro hn acc acc' h
    have hxy : y.1 ≠ x.1 := fun e => (List.nodup_cons.mp hn).1 (e ▸ List.mem_cons_self)
    simp only [parseConfL]
    cases parseQ x.2 (x.1 == "vcore") <;> cases parseQ y.2 (y.1 == "vcore") <;> try rfl
    rename_i vx vy
    refine parseConfL_congr_acc l _ _ fun k => ?_
    simp only [get?_set, h k]
    by_cases h1 : k = x.1
    · rw [if_pos h1, if_neg (h1 ▸ hxy.symm), if_pos h1]
    · rw [if_neg h1, if_neg h1]
  | trans h1 _ ih1 ih2 =>
    intro hn acc acc' h
    exact (ih1 hn acc acc fun _ => rfl).trans (fun _ _ _ hab hbc k => (hab k).trans (hbc k))
      (ih2 ((h1.map Prod.fst).nodup_iff.mp hn) acc acc' h)

theorem fit_ext {p p' : ORes} {c c' : Res} (hc : wf c = true) (hc' : wf c' = true)
    (hp : ∀ k, oget p k = oget p' k) (hcc : ∀ k, c.get? k = c'.get? k) :
    fitInMaxUndef p (some c) = fitInMaxUndef p' (some c') := by
  have key : ∀ (p p' : ORes) (c c' : Res), wf c' = true → (∀ k, oget p k = oget p' k) → (∀ k, c.get? k = c'.get? k) →
      fitInMaxUndef p (some c) = true → fitInMaxUndef p' (some c') = true := by
    intro p p' c c' hw hp hcc h
    apply fit_of
    intro t x hm pv hpv
    exact fitInMaxUndef_le h (by rw [hcc t]; exact get?_of_mem hw hm) ((hp t).trans hpv)
  exact Bool.eq_iff_iff.mpr ⟨key p p' c c' hc' hp hcc, key p' p c' c hc (fun k => (hp k).symm) (fun k => (hcc k).symm)⟩

end Yk.Conf
