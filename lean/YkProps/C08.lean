/-
  C08 — Preemption respects guarantees and never kills without effect.
  Property theorems only. Model: YkModel/Preempt.lean; lemmas: YkProofs/Preempt*.lean; tie to the code: component
  `preempt` (correspondence against the real functions + the clauses `C08.*` evaluated on what the implementation did).
  `Snap.used s` = allocated − preempting of a queue snapshot (what the guarantee arithmetic calls usage);
  `SameShape ss' ss` = the same snapshots with other allocated amounts (a what-if state reached by Add/RemoveAllocation).
-/
import YkProofs.Preempt
import YkProofs.PreemptMark
import YkProofs.PreemptQuota
namespace Yk.C08
open Yk Yk.Res Yk.Pre

/-! ### the attempt needs a guarantee -/

/-- checkPreemptionQueueGuarantees refuses — TryPreemption does nothing — when no queue on the path of the ask queue
    has guaranteed resources. -/
theorem attempt_needs_guarantee (w : World) (nt : Bool)
    (h : ∀ q ∈ snapChain (findEligible w) (askInfo w).path, ∀ s, findSnap (findEligible w) q = some s → isEmpty s.guar = true) :
    checkGuarantees w (findEligible w) = false ∧ tryPreemptionNoPlugin w nt = none := by
  have hc := checkGuarantees_needs_guarantee w (findEligible w) h
  refine ⟨hc, ?_⟩
  unfold tryPreemptionNoPlugin
  simp [hc]

/-! ### victims only from queues above their guaranteed share -/

/-- What a negative entry of GetRemainingGuaranteedResource means (guards the sign and min/max arithmetic): if the
    remaining guaranteed of queue `p` is negative on type `k`, some queue on the path of `p` (itself or an ancestor in
    the snapshot tree) guarantees an amount of `k` that is below its usage of `k`. -/
theorem negative_remaining_means_over_guarantee (ai : AskInfo) (ss : List Snap) (p : String) (r : Res) (k : String) (v : Int)
    (h : remaining ai ss p = some r) (hk : (k, v) ∈ r) (hv : v < 0) :
    ∃ s ∈ ss, s.path ∈ snapChain ss p ∧ ∃ g gv, s.guar = some g ∧ (k, gv) ∈ g ∧ gv < s.used.getD k :=
  remaining_neg_witness h hk hv

/-- A leaf queue that is within its guarantee (remaining guaranteed defined, no negative entry) offers no victims. -/
theorem leaf_within_guarantee_offers_nothing (w : World) (l : Nat) (q : PQ) (hq : w.queues[l]? = some q)
    (hrem : (remaining (askInfo w) (allSnaps w) q.path).isSome = true)
    (hge : strictlyGreaterThanOrEquals (remaining (askInfo w) (allSnaps w) q.path) (some []) = true) :
    ∀ vs, (l, vs) ∉ eligLeaves w := by
  intro vs hmem
  obtain ⟨_, _, _, _, _, _, _, _, hf⟩ := eligLeaves_spec hmem
  obtain ⟨q', hq', _, _, hno⟩ := hf.q
  rw [hq] at hq'
  cases hq'
  exact hno ⟨hrem, hge⟩

/-- Conversely a leaf that offers victims has remaining guaranteed nil (no guarantee in force for it) or some queue
    of its path is above its guaranteed share. -/
theorem offering_leaf_over_guarantee (w : World) (l : Nat) (vs : List String) (h : (l, vs) ∈ eligLeaves w) :
    ∃ q, w.queues[l]? = some q ∧
      (remaining (askInfo w) (allSnaps w) q.path = none ∨
       ∃ k, ∃ s ∈ allSnaps w, s.path ∈ snapChain (allSnaps w) q.path ∧ ∃ g gv, s.guar = some g ∧ (k, gv) ∈ g ∧ gv < s.used.getD k) := by
  obtain ⟨_, _, _, _, _, _, _, _, hf⟩ := eligLeaves_spec h
  obtain ⟨q, hq, _, _, hno⟩ := hf.q
  refine ⟨q, hq, ?_⟩
  cases hr : remaining (askInfo w) (allSnaps w) q.path with
  | none => exact Or.inl rfl
  | some r =>
    rw [hr] at hno
    have hneg : ∃ p ∈ r, p.2 < 0 := Classical.byContradiction fun hcon =>
      hno ⟨rfl, sgte_zero_of_nonneg r fun p hp => Int.not_lt.mp fun hlt => hcon ⟨p, hp, hlt⟩⟩
    obtain ⟨p, hp, hlt⟩ := hneg
    exact Or.inr ⟨p.1, remaining_neg_witness hr hp hlt⟩

/-- AT THE MOMENT EACH VICTIM IS TAKEN: every victim TryPreemption collects (second pass of calculateVictimsByNode,
    calculateAdditionalVictims) — hence every victim it marks — was taken in a what-if state `ss'` of the snapshots in
    which its queue had remaining guaranteed nil or some queue of its path was above its guaranteed share on a type the
    ask needs. -/
theorem victim_queue_over_guarantee (w : World) (nt : Bool) (r : TryResult) (h : tryPreemptionNoPlugin w nt = some r) :
    ∀ v ∈ r.victims, ∃ qp ss', queueOfVictim (findEligible w) v.key = some qp ∧ SameShape ss' (findEligible w) ∧
      (remaining (askInfo w) ss' qp = none ∨
       ∃ k, (∃ a, (k, a) ∈ w.ask.res) ∧ ∃ s ∈ ss', s.path ∈ snapChain ss' qp ∧
          ∃ g gv, s.guar = some g ∧ (k, gv) ∈ g ∧ gv < s.used.getD k) := by
  obtain ⟨hcoll, hsub, _⟩ := tryPreemption_commits h
  intro v hv
  exact (hcoll v (hsub.subset hv)).2

/-- THE GUARANTEE RULE ON THE WORLD ITSELF, full strength (refuted before the repository fix 198ba47 by the path-prefix
    sibling `root.a` / `root.a1`; holds now): in every well-formed world — parents before children, the ask names a queue,
    queue paths identify queues, a queue whose path plus "." is a prefix of the ask queue's path is one of its ancestors
    (`wellFormedB`, evaluated by the driver on every generated world) — a leaf offers victims only if, whenever a queue
    of its path that is not shared with the ask queue sets a guarantee, some queue of its path is above its guaranteed
    share. -/
theorem offers_only_above_guarantee (w : World) (hw : wellFormedB w = true) : offersRespectGuarantee w = true := by
  have hW := wellFormed_of_check w hw
  unfold offersRespectGuarantee
  rw [List.all_eq_true]
  intro ⟨l, vs⟩ hlv
  unfold guaranteeRespected
  cases hpg : privateGuarantee w l with
  | false => rfl
  | true =>
    obtain ⟨q, hq, hrem⟩ := offering_leaf_over_guarantee w l vs hlv
    -- a private guarantee keeps the remaining guaranteed defined
    have hsome : ∃ r, remaining (askInfo w) (allSnaps w) q.path = some r ∧ r ≠ [] := by
      unfold privateGuarantee at hpg
      obtain ⟨j, hj, hjc⟩ := List.any_eq_true.mp hpg
      rw [Bool.and_eq_true, Bool.not_eq_true', List.contains_eq_mem, decide_eq_false_iff_not] at hjc
      cases hqj : w.queues[j]? with
      | none => simp [hqj] at hjc
      | some qj =>
        exact remaining_private_guarantee w hW l q hq (fun hc => hjc.1 (chain_trans hW.wf _ l hc j hj))
          ⟨j, hj, hjc.1, qj, hqj, by simpa [hqj] using hjc.2⟩
    rcases hrem with hnone | ⟨k, s, hs, hc, g, gv, e1, e2, e3⟩
    · obtain ⟨r, hr, _⟩ := hsome
      rw [hr] at hnone; cases hnone
    · -- map the witness snapshot back to a queue on the chain of the leaf
      obtain ⟨j, hj, qj, hqj, hjp⟩ := snapChainAux_chain w hW _ l q hq s.path hc
      obtain rfl := allSnaps_path_unique hW hqj hs hjp.symm
      simp only [Bool.not_true, Bool.false_or, overGuaranteeSomewhere, List.any_eq_true]
      refine ⟨j, hj, ?_⟩
      simp only [hqj, show qj.guar = some g from e1]
      exact List.any_eq_true.mpr ⟨(k, gv), e2, by rw [Bool.not_false, Bool.true_or, Bool.true_and]; exact decide_eq_true e3⟩

/-- what keeps the rule: a queue off the asker's path with a guarantee on the private part of its path always has a
    remaining guaranteed that is defined and not empty — its guarantee is never ignored -/
theorem private_guarantee_is_in_force (w : World) (hw : wellFormedB w = true) (i : Nat) (q : PQ)
    (hq : w.queues[i]? = some q) (hpriv : i ∉ chain w w.ask.q)
    (hex : ∃ j ∈ chain w i, j ∉ chain w w.ask.q ∧ ∃ qj, w.queues[j]? = some qj ∧ isEmpty qj.guar = false) :
    ∃ r, remaining (askInfo w) (allSnaps w) q.path = some r ∧ r ≠ [] :=
  remaining_private_guarantee w (wellFormed_of_check w hw) i q hq hpriv hex

def mkAlloc (k : String) (q node : Nat) (r : Res) (ct : Int) : PAlloc :=
  { key := k, app := "app-b", q := q, node := node, res := r, prio := 0, released := false, preempted := false, req := false,
    ph := false, self := true, orig := false, ct := ct }

def mkQueue (path : String) (parent : Option Nat) (leaf : Bool) (g : ORes) : PQ :=
  { path := path, parent := parent, leaf := leaf, max := none, effMax := some [("cpu", 12), ("mem", 10)], guar := g, ppol := 0,
    prFence := false, off := 0, delay := 30, managed := true }

def mkAsk (q : Nat) (r : Res) : PAsk :=
  { key := "ask-0", app := "app-a", q := q, res := r, prio := 0, other := true, self := true, req := none, age := 100, triggered := false }

/-- the former counterexample: root.a (guaranteed cpu 5, uses cpu 3) next to the ask queue root.a1 -/
def prefixWitness (victimQueue : String) : World :=
  { queues := [mkQueue "root" none false none, mkQueue "root.a1" (some 0) true (some [("cpu", 10)]),
               mkQueue victimQueue (some 0) true (some [("cpu", 5)])],
    nodes := [{ id := "n0", cap := [("cpu", 4), ("mem", 4)], avail := [("cpu", 1), ("mem", 3)], sched := true }],
    allocs := [mkAlloc "v1" 2 0 [("cpu", 3), ("mem", 1)] 2],
    ask := mkAsk 1 [("cpu", 3)] }

/-- non-vacuity / regression: the world is well-formed, and the queue within its guarantee is skipped whatever it is
    called (replayed on the code: corpus/C08/preempt-path-prefix-guarantee-ignored.jsonl and its control) -/
example : wellFormedB (prefixWitness "root.a") = true ∧ eligLeaves (prefixWitness "root.b") = [] ∧
    eligLeaves (prefixWitness "root.a") = [] ∧
    remaining (askInfo (prefixWitness "root.a")) (allSnaps (prefixWitness "root.a")) "root.a" = some [("cpu", 2)] ∧
    tryPreemptionNoPlugin (prefixWitness "root.a") true = none := by decide +kernel

/-! ### committed only if the victims cover the ask -/

/-- FULL STATEMENT (false for the unchanged code, see `commit_covers_ask_refuted`): whenever TryPreemption commits,
    the free space of the chosen node plus the victims it marks on that node cover the ask on every type. -/
def commit_covers_ask : Prop := ∀ (w : World) (nodesTried : Bool), commitCovers w nodesTried = true

/-- the witness of the known finding: node {cpu12,mem10} full with v1{cpu11,mem1} (newer) and v2{cpu1,mem9} of queue
    root.b (guaranteed {1,1}); ask {cpu10,mem10} from root.a (guaranteed {20,20}) -/
def witness : World :=
  { queues := [mkQueue "root" none false none, mkQueue "root.a" (some 0) true (some [("cpu", 20), ("mem", 20)]),
               mkQueue "root.b" (some 0) true (some [("cpu", 1), ("mem", 1)])],
    nodes := [{ id := "n0", cap := [("cpu", 12), ("mem", 10)], avail := [("cpu", 0), ("mem", 0)], sched := true }],
    allocs := [mkAlloc "v1" 2 0 [("cpu", 11), ("mem", 1)] 2, mkAlloc "v2" 2 0 [("cpu", 1), ("mem", 9)] 4],
    ask := mkAsk 1 [("cpu", 10), ("mem", 10)] }

/-- on the witness the model (like the code: corpus/C08/preempt-f19-commit-does-not-cover-ask.jsonl) collects v1 and v2
    for the node but commits with v1 only: free {0,0} + v1 {cpu11,mem1} does not cover mem 10 -/
example : (tryPreemptionNoPlugin witness false).map (fun r => (r.node, r.victims.map (·.key), r.collected.map (·.key))) =
    some ("n0", ["v1"], ["v1", "v2"]) := by decide +kernel

theorem commit_covers_ask_refuted : ¬ commit_covers_ask := fun h => absurd (h witness false) (by decide +kernel)

/-- PROVED PART, same predicate as the full statement: for every world whose ask has a single resource type `{k: A}`,
    `A > 0` (resource vectors being maps with non-negative values), a commit does cover the ask — the final victims
    alone free at least `A`. With more than one type this fails because the final filter stops as soon as ONE type of
    the running total exceeds the ask while the shortfall test that follows looks at the running total of everything
    collected and never at the node's free space. -/
theorem commit_covers_ask_partial (w : World) (nodesTried : Bool) (k : String) (A : Int)
    (hask : w.ask.res = [(k, A)]) (hA : 0 < A) (hn : NonNeg w) : commitCovers w nodesTried = true := by
  unfold commitCovers
  cases htry : tryPreemptionNoPlugin w nodesTried with
  | none => rfl
  | some r =>
    simp only
    obtain ⟨hcoll, hsub, n, hnode, honnode, hshort, hvict⟩ := tryPreemption_commits htry
    have hcollOk : ∀ v ∈ r.collected, wf v.res = true ∧ 0 ≤ v.res.getD k := by
      intro v hv
      have := hn.allocs v (potentialVictims_mem (hcoll v hv).1).1
      exact ⟨this.1, this.2 k⟩
    rw [hask] at hshort hvict
    have hsum := finalFilter_single k A hA _ r.ni r.collected hcollOk hshort
    rw [← hvict] at hsum
    have hvictOk : ∀ v ∈ r.victims, wf v.res = true ∧ 0 ≤ v.res.getD k := fun v hv => hcollOk v (hsub.subset hv)
    unfold freedOnNode coversAsk
    simp only [hnode, hask, List.all_cons, List.all_nil, Bool.and_true, decide_eq_true_eq]
    rw [addX_getD _ _ (sumRes_wf _)]
    have havail := hn.nodes r.ni n hnode k
    by_cases hfit : fitInStd (some n.avail) (some w.ask.res) = true
    · -- the free space alone covers the ask
      have hnn : 0 ≤ (sumRes ((r.victims.filter (fun a => a.node == r.ni)).map (·.res))).getD k := by
        apply sumRes_getD_nonneg
        intro x hx
        obtain ⟨v, hv, e⟩ := List.mem_map.mp hx
        subst e
        exact hvictOk v (List.mem_filter.mp hv).1
      have := fitInStd_le _ _ hfit (k, A) (by rw [hask]; exact List.mem_singleton.mpr rfl)
      simp only at this
      omega
    · -- every final victim is on the node
      have hf : fitInStd (some n.avail) (some w.ask.res) = false := by simpa using hfit
      have hall := honnode hf
      have : r.victims.filter (fun a => a.node == r.ni) = r.victims := by
        apply List.filter_eq_self.mpr
        intro a ha
        simpa using hall a ha
      rw [this]
      omega

/-- the same at the level of the final filter, for every collected list: when the shortfall test passes, the final
    victims alone free at least `A` -/
theorem final_filter_covers_single_type (k : String) (A : Int) (hA : 0 < A) (fitIn : Bool) (ni : Nat) (victims : List PAlloc)
    (hv : ∀ v ∈ victims, wf v.res = true ∧ 0 ≤ v.res.getD k)
    (hc : strictlyOnlyExisting (some [(k, A)]) (some (finalFilter [(k, A)] fitIn ni victims).2) false = false) :
    A ≤ (sumRes ((finalFilter [(k, A)] fitIn ni victims).1.map (·.res))).getD k :=
  finalFilter_single k A hA fitIn ni victims hv hc

/-! ### quota change preemption -/

/-- The amount setPreemptableResources plans for a queue never exceeds, on any type, the amount by which the queue's
    usage (allocated minus what is already being preempted) exceeds the lowered maximum; it only lists types that are
    over the maximum. -/
theorem quota_plan_le_excess (w : World) (i : Nat) (newMax : ORes) (pre : Res) (h : quotaPreemptable w i newMax = some pre) :
    ∀ k v, (k, v) ∈ pre → ∃ mx m, newMax = some mx ∧ (k, m) ∈ mx ∧ v ≤ (quotaUsed w i).getD k - m ∧ m < (quotaUsed w i).getD k := by
  revert h
  fun_cases quotaPreemptable w i newMax
  case case3 =>
    intro h k v hkv
    have hkv : (k, v) ∈ orZero (some pre) := hkv
    rw [← h] at hkv
    obtain ⟨v', hv', hle⟩ := mem_cwmOE hkv
    obtain ⟨mx, m, hmx, hm, hlt, e⟩ := mem_negPart (u := quotaUsed w i) hv'
    exact ⟨mx, m, hmx, hm, by omega, hlt⟩
  all_goals exact fun h => nomatch h

/-- QUOTA PREEMPTION, a victim released in the meantime. `sel` are the selected victims (`quotaSelect` of every leaf that
    takes part), `late` the allocations released (placeholder replaced / timed out: SetReleased(true)) after
    filterAllocations listed them and before preemptVictims marks its victims; `quotaPreemptLate` is the marking loop as
    written (MarkPreempted; a released victim is skipped). For every world with well-formed resource vectors, every
    `late`, every selection, every queue `i` and every resource type `k`:
    preempting(after) = preempting(before) + Σ sizes of the victims of the subtree of `i` marked by this operation
    (`newlyMarked`: named by `quotaMarked` and not marked before) - nothing is booked for a victim that is not marked. -/
theorem quota_preempting_equals_marked (w : World) (hres : ∀ a ∈ w.allocs, wf a.res = true) (late sel : List String)
    (i : Nat) (k : String) :
    (preemptingOf { w with allocs := quotaPreemptLate w late sel } i).getD k =
      (preemptingOf w i).getD k +
      (sumRes ((newlyMarked w (quotaMarked (releaseLate late w.allocs) sel) i).map (·.res))).getD k := by
  rw [quotaPreemptLate_eq]
  exact preemptingOf_markMap_getD w hres late _ i k

/-- ... and the victims the loop marks are exactly the selected victims that are not released at that moment: a victim
    released in the meantime is never marked, and nothing else changes (the allocations afterwards are those left by
    the late releases with the flag set on the marked victims). -/
theorem quota_released_victim_never_marked (w : World) (late sel : List String) :
    (∀ k ∈ quotaMarked (releaseLate late w.allocs) sel, k ∈ sel ∧ isReleased (releaseLate late w.allocs) k = false) ∧
    (∀ k ∈ sel, isReleased (releaseLate late w.allocs) k = false → k ∈ quotaMarked (releaseLate late w.allocs) sel) ∧
    quotaPreemptLate w late sel =
      markMap (quotaMarked (releaseLate late w.allocs) sel) true (releaseLate late w.allocs) := by
  refine ⟨fun k hk => quotaMarked_mem hk, fun k hk hr => ?_, quotaPreemptLate_eq w late sel⟩
  unfold quotaMarked
  exact List.mem_filter.mpr ⟨hk, by rw [hr]; rfl⟩

/-- Whatever order the candidates are tried in (the sort key is float valued), the resources claimed from a leaf never
    exceed the amount planned for the leaf on any type of the plan, every victim fits the plan on the types it defines,
    and the claimed total is the sum of the selected victims. -/
theorem quota_claim_bounded (plan : Res) (cands : List PAlloc) :
    (∀ p ∈ plan, ∀ v, (quotaSelect plan cands).2.get? p.1 = some v → v ≤ p.2) ∧
    (quotaSelect plan cands).2 = sumRes ((quotaSelect plan cands).1.map (·.res)) ∧
    (∀ v ∈ (quotaSelect plan cands).1, v ∈ cands ∧ fitInMaxUndef (some plan) (some v.res) = true) :=
  quotaSelect_spec plan cands

/-- The distribution of a parent's plan over its children (first pass of getChildQueuesPreemptableResource): with a
    guarantee set, every type of a child's preemptable usage — the only types its share can list — is a type the
    guarantee defines and the child's allocation exceeds, by exactly the listed amount; so a child at or below its
    guarantee on a type gets no share of that type (holds since the repository fix 5aef914; the float valued size of
    the share is taken from the implementation, the driver checks that its types are types of this vector). -/
theorem quota_child_share_respects_guarantee (w : World) (c : Nat) (q : PQ) (hq : w.queues[c]? = some q) (g u : Res)
    (hg : q.guar = some g) (hne : g ≠ []) (hu : childPreemptableUsage w c = some u) :
    (∀ k v, (k, v) ∈ u → ∃ gv, (k, gv) ∈ g ∧ gv < (allocatedOf w c).getD k ∧ v = (allocatedOf w c).getD k - gv) ∧
    (wf g = true → ∀ k gv, (k, gv) ∈ g → (allocatedOf w c).getD k ≤ gv → ∀ v, (k, v) ∉ u) := by
  have above : ∀ k v, (k, v) ∈ u → ∃ gv, (k, gv) ∈ g ∧ gv < (allocatedOf w c).getD k ∧ v = (allocatedOf w c).getD k - gv := by
    revert hu
    fun_cases childPreemptableUsage w c
    case case3 q' hq' _ _ hemp =>
      obtain rfl : q = q' := Option.some.inj (hq.symm.trans hq')
      rw [hg] at hemp
      exact absurd (List.isEmpty_iff.mp hemp) hne
    case case4 q' hq' _ _ _ =>
      obtain rfl : q = q' := Option.some.inj (hq.symm.trans hq')
      intro h k v hkv
      cases h
      obtain ⟨g', gv, hg', hgv, hlt, e⟩ := mem_negPart hkv
      obtain rfl : g = g' := Option.some.inj (hg.symm.trans hg')
      exact ⟨gv, hgv, hlt, e⟩
    all_goals exact fun h => nomatch h
  refine ⟨above, fun hgw k gv hk hle v hv => ?_⟩
  -- contrapositive: the guarantee is a map, so the amount `above` finds for `k` is `gv`
  obtain ⟨gv', hgv', hlt, _⟩ := above k v hv
  have h2 := get?_of_mem hgw hgv'
  rw [get?_of_mem hgw hk] at h2
  cases h2
  omega

/-! ### quota change preemption: when it is due -/

/-- FULL STATEMENT (false for the unchanged code, see the refutation): along every history of configuration updates
    (maximum, quota.preemption.delay), clock advances and attempts, a scheduled start is exactly (time at which the
    pending lowering was first scheduled) + (delay in force) — never earlier. -/
def quota_start_never_early : Prop :=
  ∀ (managed : Bool) (alloc : Res) (s0 : QuotaT) (steps : List QuotaStep), timingOK s0 = true →
    timingOK (runQuota managed alloc (s0, 0) steps).1 = true

/-- witness: usage {15,15}; maximum {20,20} lowered to {10,10} with delay 10m (due at 600 s), then changed to {9,11} —
    neither lower nor higher — with delay 30m: setPreemptionTime has no branch for it, the start stays at 600 s although
    the delay in force is 1800 s (replayed on the code: corpus/C08/preempt-quota-incomparable-change-keeps-early-start.jsonl) -/
theorem quota_start_never_early_refuted : ¬ quota_start_never_early := fun h =>
  absurd (h true [("cpu", 15), ("mem", 15)] { max := some [("cpu", 20), ("mem", 20)], delay := 0, start := none, base := none }
    [.conf (some [("cpu", 10), ("mem", 10)]) 600, .conf (some [("cpu", 9), ("mem", 11)]) 1800] rfl) (by decide +kernel)

/-- PROVED PART: it holds along every history in which no update changes the delay of a pending start across an
    incomparable change of the maximum (`goodHist`: lowerings, raises, equal maxima with any delay change are all fine;
    consecutive lowerings with a LARGER delay move the start LATER by the difference). -/
theorem quota_start_never_early_partial (managed : Bool) (alloc : Res) (s0 : QuotaT) (steps : List QuotaStep)
    (h0 : timingOK s0 = true) (hg : goodHist managed alloc (s0, 0) steps = true) :
    timingOK (runQuota managed alloc (s0, 0) steps).1 = true :=
  runQuota_keeps managed alloc steps (s0, 0) h0 hg

/-- ... and preemption never fires before it: tryAcquirePreemption succeeds only when (time the pending lowering was
    scheduled) + (delay in force) has passed. -/
theorem quota_fires_only_after_delay (managed : Bool) (alloc : Res) (s : QuotaT) (now : Int) (h : timingOK s = true)
    (hf : (tryAcquire managed alloc s now).2 = true) : ∃ b, s.base = some b ∧ b + s.delay ≤ now := by
  rw [timingOK_iff] at h
  revert hf
  fun_cases tryAcquire managed alloc s now
  case case5 t ht hlt =>
    intro _
    rcases h with ⟨h1, _⟩ | ⟨t', b, h1, h2, h3⟩
    · rw [h1] at ht; cases ht
    · rw [h1] at ht; cases ht
      exact ⟨b, h2, by omega⟩
  all_goals exact fun hf => nomatch hf

/-- consecutive lowerings with a larger delay: the start moves later by the difference (10m → 30m: 600 s → 1800 s) -/
example : (runQuota true [("cpu", 15)] ({ max := some [("cpu", 20)], delay := 0, start := none, base := none }, 0)
    [.conf (some [("cpu", 10)]) 600, .advance 300, .conf (some [("cpu", 9)]) 1800]).1.start = some 1800 := by decide +kernel

/-! ### non-vacuity -/

/-- the former Q2 witness: root.p.y (guaranteed {cpu8,mem4}, uses {cpu2,mem6}) only offers the 2 mem above its guarantee -/
example : childPreemptableUsage
    { queues := [mkQueue "root" none false none, mkQueue "root.p" (some 0) false none, mkQueue "root.p.x" (some 1) true none,
                 mkQueue "root.p.y" (some 1) true (some [("cpu", 8), ("mem", 4)])],
      nodes := [], allocs := [mkAlloc "v1" 2 0 [("cpu", 9)] 2, mkAlloc "v3" 3 0 [("cpu", 1), ("mem", 6)] 4, mkAlloc "v4" 3 0 [("cpu", 1)] 6],
      ask := mkAsk 2 [("cpu", 1)] } 3 = some [("mem", 2)] := by decide +kernel


example : (quotaSelect [("cpu", 5)] [mkAlloc "a" 1 0 [("cpu", 3)] 1, mkAlloc "b" 1 0 [("cpu", 3)] 2, mkAlloc "c" 1 0 [("cpu", 2)] 3]).1.map (·.key)
    = ["a", "c"] := by decide +kernel
/-- a single-type ask on the F19 node: the commit covers it -/
example : commitCovers { witness with ask := mkAsk 1 [("cpu", 10)] } false = true ∧
    (tryPreemptionNoPlugin { witness with ask := mkAsk 1 [("cpu", 10)] } false).isSome = true := by decide +kernel
/-- a negative remaining entry and its witness queue -/
example : remaining (askInfo witness) (allSnaps witness) "root.b" = some [("cpu", -11), ("mem", -9)] := by decide +kernel

/-- quota marking world: leaf root.b holds v1, v2 of cpu 4; planned cpu 8 selects both -/
def qmWorld : World :=
  { queues := [mkQueue "root" none false none, mkQueue "root.b" (some 0) true none],
    nodes := [{ id := "n0", cap := [("cpu", 12)], avail := [("cpu", 4)], sched := true }],
    allocs := [mkAlloc "v1" 1 0 [("cpu", 4)] 2, mkAlloc "v2" 1 0 [("cpu", 4)] 4],
    ask := mkAsk 1 [("cpu", 1)] }
example : (quotaSelect [("cpu", 8)] qmWorld.allocs).1.map (·.key) = ["v1", "v2"] := by decide +kernel
/-- undisturbed both are marked and booked: preempting of root.b and of root is cpu 8 -/
example : markedKeys (quotaPreemptLate qmWorld [] ["v1", "v2"]) = ["v1", "v2"] ∧
    preemptingOf { qmWorld with allocs := quotaPreemptLate qmWorld [] ["v1", "v2"] } 1 = [("cpu", 8)] ∧
    preemptingOf { qmWorld with allocs := quotaPreemptLate qmWorld [] ["v1", "v2"] } 0 = [("cpu", 8)] := by decide +kernel
/-- v2 released after the filtering: skipped - only v1 is marked, only v1 is booked -/
example : quotaMarked (releaseLate ["v2"] qmWorld.allocs) ["v1", "v2"] = ["v1"] ∧
    markedKeys (quotaPreemptLate qmWorld ["v2"] ["v1", "v2"]) = ["v1"] ∧
    preemptingOf { qmWorld with allocs := quotaPreemptLate qmWorld ["v2"] ["v1", "v2"] } 1 = [("cpu", 4)] ∧
    (newlyMarked qmWorld ["v1"] 0).map (·.key) = ["v1"] := by decide +kernel

end Yk.C08
