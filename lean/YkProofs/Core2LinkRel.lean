/-
  `Linked` (I8 of C03) is preserved by the release of a key (`releaseKeyT`), by the start of a placeholder swap
  (`swapStart`) and by its confirmation (`swapConfirm`).
-/
import YkProofs.Core2LinkOps
namespace Yk
open Res Core LinkA

theorem linked_relBoundT (s : Core) (tt : TermType) (app key : String) (a : CApp) (i : CItem) (hw : CoreWF s) (hl : Linked s)
    (hfind : s.findApp app = some a) (hitem : a.items.find? (·.key == key) = some i) :
    Linked (relBoundT s tt app key a i) := by
  cases hbd : i.bound with
  | false => rw [relBoundT_unbound _ _ _ _ _ _ hbd]; exact hl
  | true =>
    obtain ⟨him, hkey⟩ := find_key_some hitem
    refine (shape_relBoundT s tt app key a i hfind hbd).linked_release hw hl him hbd
      (fun m x hx hxk => nodeRm_keep key i.res m x hx (by rw [← hkey]; exact hxk)) (fun _ j hj hjb => ?_)
    rw [relAppT_items] at hj
    rw [hkey]
    exact Or.inl (bound_unbound hj hjb)

/-- RemoveAllocationAsk: items only lose `inReq` or disappear, nodes only lose a reservation -/
theorem linked_askRemoveT (s1 : Core) (app key : String) (chain : List String) (hw : CoreWF s1) (hl : Linked s1) :
    Linked (askRemoveT s1 app key chain) := by
  rcases shape_askRemoveT s1 app key chain hw with h | ⟨a1, x, _, sh⟩
  · rw [h]; exact hl
  · refine sh.linked_keep hw hl (fun n _ y hy => by rw [(askResvN_irrel key a1 n).2.1]; exact hy) (fun _ => ?_)
    rw [askAppT_items]
    exact (BoundSub.filter _ _).trans (BoundSub.updItem key (fun _ => ⟨rfl, rfl, rfl, rfl⟩))

theorem linked_releaseKeyT (s : Core) (tt : TermType) (app key : String) (hw : CoreWF s) (hl : Linked s) :
    Linked (s.releaseKeyT tt app key) := by
  rcases releaseKeyT_cases s tt app key with h | ⟨a, i, hfind, hitem, h⟩
  · rw [h]; exact hl
  · have h1 := linked_relBoundT s tt app key a i hw hl hfind hitem
    rw [h]
    split
    · exact h1
    · exact linked_askRemoveT _ app key _ (wf_relBoundT s tt app key a i hw hfind) h1

/-- tryPlaceholderAllocate decided a replacement: the bound allocations are the same (the real ask is allocated, gets its
    node, but is not bound), the node the real half is parked on gains an entry -/
theorem linked_swapStart (s s' : Core) (app realKey phKey node : String) (hw : CoreWF s) (hl : Linked s)
    (h : s.swapStart app realKey phKey node = some s') : Linked s' := by
  obtain ⟨a, r, p, hr, _, sh⟩ := shape_swapStart s s' app realKey phKey node hw h
  obtain ⟨ham, hal, _⟩ := sh.mem
  obtain ⟨hrm, hrk, _, hnal⟩ := find_outstanding hr
  have hwa := hw.app ham hal
  refine sh.linked_keep hw hl (fun m _ x hx => ?_) (fun _ => ?_)
  · split
    · exact mem_onNodeId hx (fun _ => List.mem_append_left _ hx)
    · exact hx
  intro j hj hjb
  rw [swapStartApp_items] at hj
  obtain ⟨x, hx, rfl⟩ := List.mem_map.mp hj
  dsimp only at hjb ⊢
  -- the item that changes its node is the real ask, which is not bound
  have hne : ¬ (x.key == realKey) = true := by
    intro he
    have hxr : x = r := itemKeys_eq hwa.itemKeys hx hrm ((by simpa using he : x.key = realKey).trans hrk.symm)
    rw [if_pos he] at hjb
    have hxb : x.bound = true := by
      split at hjb <;> exact hjb
    rw [hxr] at hxb
    rw [hwa.boundAllocated r hrm hxb] at hnal
    cases hnal
  rw [if_neg hne] at hjb ⊢
  by_cases h2 : (x.key == phKey) = true
  · rw [if_pos h2] at hjb ⊢
    exact ⟨x, hx, hjb, rfl, rfl, rfl⟩
  · rw [if_neg h2] at hjb ⊢
    exact ⟨x, hx, hjb, rfl, rfl, rfl⟩

/-- The side conditions of the confirmed swap when the state is `Linked`: those of `SwapOK` except `rel` (which follows
    from `Linked`), plus: in the cross-node case the real half is parked on its node (tryPlaceholderAllocate added it
    there when the swap started) — after the confirmation it is a bound allocation. -/
structure SwapLinkOK (s : Core) (app phKey : String) : Prop where
  repl : ∀ a p r, SwapCase s app phKey a p r → ReplOK a p r
  notLarger : ∀ a p r, SwapCase s app phKey a p r → ∀ k, r.res.getD k ≤ p.res.getD k
  fresh : ∀ a p r, SwapCase s app phKey a p r → r.node = p.node →
    ∀ n, s.findNode p.node = some n → ∀ x ∈ n.allocs, x.key ≠ r.key
  parked : ∀ a p r, SwapCase s app phKey a p r → r.node ≠ p.node → OnNode s app r

theorem SwapLinkOK.swapOK {s : Core} {app phKey : String} (hl : Linked s) (h : SwapLinkOK s app phKey) : SwapOK s app phKey :=
  ⟨hl.releaseOK app phKey, h.repl, h.notLarger, h.fresh⟩

/-- the placeholder's node drops its entry (and, same-node swap, gains the entry of the real allocation); in the
    cross-node case the real allocation is parked on its node already (`SwapLinkOK.parked`) -/
theorem linked_swapMain (s : Core) (app phKey : String) (a : CApp) (p r : CItem) (hw : CoreWF s) (hl : Linked s)
    (hok : SwapLinkOK s app phKey) (hc : SwapCase s app phKey a p r) : Linked (swapMain s app phKey a p r) := by
  have sh := shape_swapMain s app phKey a p r hc.app
  obtain ⟨ham, hal, hid⟩ := sh.mem
  obtain ⟨him, hkey⟩ := find_key_some hc.item
  have hbp := hc.isPh
  simp only [Bool.and_eq_true] at hbp
  refine sh.linked_release hw hl him hbp.1 ?_ (fun _ j hj hjb => ?_)
  · intro m x hx hxp
    split
    · show x ∈ m.allocs.filter (fun (y : CNodeAlloc) => y.key != p.key) ++ [_]
      exact List.mem_append_left _ (List.mem_filter.mpr ⟨hx, by simpa using hxp⟩)
    · exact nodeRm_keep phKey p.res m x hx (by rw [← hkey]; exact hxp)
  · rw [replApp_items] at hj
    rcases bound_replItems (hw.itemKeys a ham hal) (hok.repl a p r hc) hj hjb with h | rfl
    · exact Or.inl h
    · right
      by_cases hsame : r.node = p.node
      · -- `nodeSwap` lists the real allocation
        obtain ⟨n, hn, _⟩ := hl a ham hal p him hbp.1
        have hn' := findNode_onNodeId sh.nodes (fun m => by split <;> rfl) hn
        rw [if_pos (by simpa using hsame)] at hn'
        exact ⟨nodeSwap app p r n, hsame ▸ hn', { key := r.key, app := app, res := r.res, foreign := false, ph := false },
          List.mem_append_right _ (List.mem_singleton.mpr rfl), rfl, hid.symm, rfl, fun _ => rfl⟩
      · rw [hid]
        refine ((hok.parked a p r hc hsame).of_map sh.nodes sh.nid (fun m _ hm x hx _ => ?_)).congr rfl rfl rfl
        exact mem_onNodeId hx (fun h => absurd (hm.symm.trans h) hsame)

theorem linked_swapConfirm (s : Core) (app phKey : String) (hw : CoreWF s) (hl : Linked s)
    (hok : SwapLinkOK s app phKey) : Linked (s.swapConfirm app phKey) := by
  rcases swapConfirm_cases s app phKey with h | h | ⟨a, p, r, hc⟩
  · rw [h]; exact hl
  · rw [h]; exact linked_releaseKeyT s .replaced app phKey hw hl
  · rw [swapConfirm_main s app phKey a p r hc]
    exact linked_askRemoveT _ app phKey _ (wf_swapMain s app phKey a p r hw (hok.swapOK hl) hc)
      (linked_swapMain s app phKey a p r hw hl hok hc)

end Yk
