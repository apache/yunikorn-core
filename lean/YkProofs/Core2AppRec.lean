/-
  The application record after Application.RemoveAllAllocations (`relAllApp`), after removeAsksInternal("")
  (`dropAsksApp`) and after both as `releaseApp` combines them (`relAll2`): its fields and item lists, and that it
  stays balanced and well-formed.
-/
import YkProofs.Core2Base
namespace Yk
open Res Core

/-- the item list after Application.RemoveAllAllocations -/
def unboundAll (l : List CItem) : List CItem := (l.map (fun x => { x with bound := false })).filter (fun x => x.inReq)

theorem relAllApp_items (a : CApp) : (relAllApp a).items = unboundAll a.items := by unfold relAllApp unboundAll; simp
theorem relAllApp_queue (a : CApp) : (relAllApp a).queue = a.queue := by unfold relAllApp; simp
theorem relAllApp_id (a : CApp) : (relAllApp a).id = a.id := by unfold relAllApp; simp
theorem relAllApp_pending (a : CApp) : (relAllApp a).pending = a.pending := by unfold relAllApp; simp
theorem relAllApp_allocated (a : CApp) : (relAllApp a).allocated = [] := by unfold relAllApp; simp
theorem relAllApp_allocatedPh (a : CApp) : (relAllApp a).allocatedPh = [] := by unfold relAllApp; simp

theorem relAllApp_state (a : CApp) :
    (relAllApp a).state = if isZero (some a.pending) = true then fireState a.state .complete else a.state := by
  unfold relAllApp
  exact setState_state _ _

/-- an application that RemoveAllAllocations has completed or failed leaves the partition -/
theorem relAllApp_live (a : CApp) : (relAllApp a).live = !(terminated (relAllApp a).state) := by
  rw [relAllApp_state]; rfl

theorem mem_unboundAll {l : List CItem} {y : CItem} (hy : y ∈ unboundAll l) :
    y.bound = false ∧ ∃ x ∈ l, y.key = x.key ∧ y.res = x.res ∧ y.allocated = x.allocated ∧ y.inReq = x.inReq := by
  obtain ⟨hm, _⟩ := List.mem_filter.mp hy
  obtain ⟨x, hx, rfl⟩ := List.mem_map.mp hm
  exact ⟨rfl, x, hx, rfl, rfl, rfl, rfl⟩

theorem unboundAll_filter_bound (l : List CItem) : (unboundAll l).filter (fun x => x.bound) = [] := by
  rw [List.filter_eq_nil_iff]
  intro x hx
  rw [(mem_unboundAll hx).1]; simp

theorem itemSum_unboundAll (l : List CItem) (k : String) :
    itemSum (unboundAll l) (fun i => i.bound && !i.ph) k = 0 ∧
    itemSum (unboundAll l) (fun i => i.bound && i.ph) k = 0 ∧
    itemSum (unboundAll l) (fun i => i.inReq && !i.allocated) k = itemSum l (fun i => i.inReq && !i.allocated) k := by
  refine ⟨?_, ?_, ?_⟩
  · exact sumIf_none _ _ _ (fun x hx => by rw [(mem_unboundAll hx).1]; rfl)
  · exact sumIf_none _ _ _ (fun x hx => by rw [(mem_unboundAll hx).1]; rfl)
  · unfold unboundAll
    rw [itemSum_filter_irrel _ _ _ _ (fun x _ hd => by
      have hd' : x.inReq = false := hd
      simp [hd'])]
    apply itemSum_map_irrel
    intro x _; exact ⟨rfl, rfl⟩


/-- removeAsksInternal("") / moveTerminatedApp on the item list -/
def Timer.boundOnly (l : List CItem) : List CItem := (l.filter (·.bound)).map (fun x => { x with inReq := false })

theorem mem_boundOnly {l : List CItem} {y : CItem} (hy : y ∈ Timer.boundOnly l) :
    ∃ x ∈ l, x.bound = true ∧ y = { x with inReq := false } := by
  unfold Timer.boundOnly at hy
  obtain ⟨x, hx, rfl⟩ := List.mem_map.mp hy
  obtain ⟨hxm, hxb⟩ := List.mem_filter.mp hx
  exact ⟨x, hxm, hxb, rfl⟩

theorem itemSum_boundOnly (l : List CItem) (k : String) :
    itemSum (Timer.boundOnly l) (fun i => i.bound && !i.ph) k = itemSum l (fun i => i.bound && !i.ph) k ∧
    itemSum (Timer.boundOnly l) (fun i => i.bound && i.ph) k = itemSum l (fun i => i.bound && i.ph) k ∧
    itemSum (Timer.boundOnly l) (fun i => i.inReq && !i.allocated) k = 0 := by
  unfold Timer.boundOnly
  refine ⟨?_, ?_, ?_⟩
  · rw [itemSum_map_irrel, itemSum_filter_irrel _ _ _ _ (fun x _ hd => by simp [hd])]
    exact fun x _ => ⟨rfl, rfl⟩
  · rw [itemSum_map_irrel, itemSum_filter_irrel _ _ _ _ (fun x _ hd => by simp [hd])]
    exact fun x _ => ⟨rfl, rfl⟩
  · apply sumIf_none
    intro y hy
    obtain ⟨x, _, rfl⟩ := List.mem_map.mp hy
    rfl

theorem appWF_boundOnly {a b : CApp} (hi : b.items = Timer.boundOnly a.items)
    (h1 : wf b.pending = true) (h2 : b.allocated = a.allocated) (h3 : b.allocatedPh = a.allocatedPh) (h : AppWF a) : AppWF b :=
  .of_sublist (fun x => { x with inReq := false }) h (hi ▸ List.filter_sublist.map _)
    ⟨h1, by rw [h2]; exact h.appRes.2.1, by rw [h3]; exact h.appRes.2.2⟩ (fun _ => rfl)
    (fun x hx => ⟨h.itemRes x hx, h.boundAllocated x hx⟩)

theorem appBooks_boundOnly {a b : CApp} (hi : b.items = Timer.boundOnly a.items)
    (h1 : b.pending = []) (h2 : b.allocated = a.allocated) (h3 : b.allocatedPh = a.allocatedPh) (h : AppBooks a) : AppBooks b := by
  refine ⟨?_, ?_, ?_⟩ <;> intro k
  · rw [hi, h2, (itemSum_boundOnly a.items k).1]; exact h.allocated k
  · rw [hi, h3, (itemSum_boundOnly a.items k).2.1]; exact h.allocatedPh k
  · rw [hi, h1, (itemSum_boundOnly a.items k).2.2]; rfl


theorem dropAsksApp_queue (a : CApp) : (dropAsksApp a).queue = a.queue := by
  unfold dropAsksApp; split
  · rfl
  · exact setState_queue _ _
theorem dropAsksApp_id (a : CApp) : (dropAsksApp a).id = a.id := by
  unfold dropAsksApp; split
  · rfl
  · exact setState_id _ _
theorem dropAsksApp_live (a : CApp) : (dropAsksApp a).live = a.live := by
  unfold dropAsksApp; split
  · rfl
  · exact setState_live _ _
theorem dropAsksApp_allocated (a : CApp) : (dropAsksApp a).allocated = a.allocated := by
  unfold dropAsksApp; split
  · rfl
  · exact setState_allocated _ _
theorem dropAsksApp_allocatedPh (a : CApp) : (dropAsksApp a).allocatedPh = a.allocatedPh := by
  unfold dropAsksApp; split
  · rfl
  · exact setState_allocatedPh _ _
theorem dropAsksApp_pending (a : CApp) :
    (dropAsksApp a).pending = if a.items.any (fun x => x.inReq) = true then [] else a.pending := by
  unfold dropAsksApp
  cases h : a.items.any (fun x => x.inReq) <;> simp
theorem dropAsksApp_items (a : CApp) :
    (dropAsksApp a).items = if a.items.any (fun x => x.inReq) = true then Timer.boundOnly a.items else a.items := by
  unfold dropAsksApp Timer.boundOnly
  cases h : a.items.any (fun x => x.inReq) <;> simp


theorem dropAsksApp_noreq (b : CApp) (h : b.items.any (·.inReq) = false) : dropAsksApp b = b := by
  unfold dropAsksApp; simp only [h, Bool.not_false, if_true]

/-- the state check at the end of removeAsksInternal: an application left without asks, allocations or placeholders
    completes (unless it is Failing or Completing already) -/
theorem dropAsksApp_state (b : CApp) :
    (dropAsksApp b).state =
      if (b.items.any (·.inReq) && isZero (some b.allocated) && b.state != "Failing" && b.state != "Completing" &&
          !((Timer.boundOnly b.items).any (fun y => y.ph))) = true
      then fireState b.state .complete else b.state := by
  unfold dropAsksApp Timer.boundOnly
  cases hr : b.items.any (·.inReq) with
  | false => simp
  | true => simp only [Bool.not_true, Bool.false_eq_true, if_false, setState_state, Bool.true_and]

theorem app_dropAsksApp (b : CApp) (h : AppBooks b ∧ AppWF b) : AppBooks (dropAsksApp b) ∧ AppWF (dropAsksApp b) := by
  cases hr : b.items.any (·.inReq) with
  | false => rw [dropAsksApp_noreq b hr]; exact h
  | true =>
    have hi := (dropAsksApp_items b).trans (if_pos hr)
    have hp := (dropAsksApp_pending b).trans (if_pos hr)
    exact ⟨appBooks_boundOnly hi hp (dropAsksApp_allocated b) (dropAsksApp_allocatedPh b) h.1,
      appWF_boundOnly hi (by rw [hp]; rfl) (dropAsksApp_allocated b) (dropAsksApp_allocatedPh b) h.2⟩


theorem app_relAllApp (a : CApp) (h : AppBooks a ∧ AppWF a) : AppBooks (relAllApp a) ∧ AppWF (relAllApp a) := by
  obtain ⟨hba, hwa⟩ := h
  constructor
  · refine ⟨?_, ?_, ?_⟩ <;> intro k
    · rw [relAllApp_allocated, relAllApp_items]; exact (itemSum_unboundAll a.items k).1.symm
    · rw [relAllApp_allocatedPh, relAllApp_items]; exact (itemSum_unboundAll a.items k).2.1.symm
    · rw [relAllApp_pending, relAllApp_items, (itemSum_unboundAll a.items k).2.2]; exact hba.pending k
  · refine .of_sublist (fun x => { x with bound := false }) hwa (by rw [relAllApp_items]; exact List.filter_sublist) ?_
      (fun _ => rfl) (fun x hx => ⟨hwa.itemRes x hx, fun hb => nomatch hb⟩)
    rw [relAllApp_pending, relAllApp_allocated, relAllApp_allocatedPh]
    exact ⟨hwa.appRes.1, rfl, rfl⟩

/-- the asks are dropped as well: not a TIMEOUT confirmation, the application is still there and has requests -/
def relAsks (tt : TermType) (a : CApp) : Bool :=
  tt != .timeout && (relAllApp a).live && (relAllApp a).items.any (·.inReq)

/-- the application after `releaseApp` -/
def relAll2 (tt : TermType) (a : CApp) : CApp :=
  let a2 := if relAsks tt a then dropAsksApp (relAllApp a) else relAllApp a
  { a2 with live := (relAllApp a).live && !(terminated a2.state) }

theorem relAsks_any {tt : TermType} {a : CApp} (h : relAsks tt a = true) :
    (relAllApp a).items.any (fun x => x.inReq) = true := by
  unfold relAsks at h
  simp only [Bool.and_eq_true] at h
  exact h.2

theorem relAll2_queue (tt : TermType) (a : CApp) : (relAll2 tt a).queue = a.queue := by
  unfold relAll2; dsimp only; split
  · rw [dropAsksApp_queue, relAllApp_queue]
  · rw [relAllApp_queue]
theorem relAll2_id (tt : TermType) (a : CApp) : (relAll2 tt a).id = a.id := by
  unfold relAll2; dsimp only; split
  · rw [dropAsksApp_id, relAllApp_id]
  · rw [relAllApp_id]
theorem relAll2_allocated (tt : TermType) (a : CApp) : (relAll2 tt a).allocated = [] := by
  unfold relAll2; dsimp only; split
  · rw [dropAsksApp_allocated, relAllApp_allocated]
  · rw [relAllApp_allocated]
theorem relAll2_allocatedPh (tt : TermType) (a : CApp) : (relAll2 tt a).allocatedPh = [] := by
  unfold relAll2; dsimp only; split
  · rw [dropAsksApp_allocatedPh, relAllApp_allocatedPh]
  · rw [relAllApp_allocatedPh]
theorem relAll2_pending (tt : TermType) (a : CApp) :
    (relAll2 tt a).pending = if relAsks tt a = true then [] else a.pending := by
  unfold relAll2; dsimp only; split
  · rename_i h; rw [dropAsksApp_pending, relAsks_any h]; rfl
  · rw [relAllApp_pending]
theorem relAll2_items (tt : TermType) (a : CApp) :
    (relAll2 tt a).items = if relAsks tt a = true then [] else unboundAll a.items := by
  unfold relAll2; dsimp only; split
  · rename_i h
    rw [dropAsksApp_items, relAsks_any h, relAllApp_items, if_pos rfl, Timer.boundOnly, unboundAll_filter_bound]; rfl
  · rw [relAllApp_items]

theorem app_relAll2 (tt : TermType) (a : CApp) (h : AppBooks a ∧ AppWF a) : AppBooks (relAll2 tt a) ∧ AppWF (relAll2 tt a) := by
  have h1 := app_relAllApp a h
  unfold relAll2
  dsimp only
  split
  · exact ⟨(app_dropAsksApp _ h1).1.setLive _, (app_dropAsksApp _ h1).2.setLive _⟩
  · exact ⟨h1.1.setLive _, h1.2.setLive _⟩

end Yk
