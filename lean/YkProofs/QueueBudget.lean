/- The running-application counters of the queue tree (C11): the max-applications gate, the clamp of the running count,
   and the admission budget behind YkProps/C11 `budget`. -/
import YkProofs.Queue
namespace Yk
open Res QTree

def Budget (t : QTree) : Prop := ∀ q ∈ t, q.maxApps ≠ 0 → q.running + q.allocating.length ≤ q.maxApps

def RunningLeMax (t : QTree) : Prop := ∀ q ∈ t, q.maxApps ≠ 0 → q.running ≤ q.maxApps

namespace QTree

theorem canRun_gate (t : QTree) (i : Nat) (app : String) (h : canRunApp t i app = true) :
    ∀ j ∈ chain t i, ∀ q, t[j]? = some q → q.maxApps ≠ 0 →
      app ∈ q.allocating ∨ q.running + q.allocating.length + 1 ≤ q.maxApps := by
  intro j hj q hq hm
  unfold canRunApp at h
  have := List.all_eq_true.mp h j hj
  rw [hq] at this
  simp only [Bool.or_eq_true, beq_iff_eq, decide_eq_true_eq, List.contains_iff_mem] at this
  rcases this with (h1 | h1) | h1
  · exact absurd h1 hm
  · exact Or.inl h1
  · exact Or.inr (by omega)

/-- the cap `incRunningApps` puts on the new counter value `r` (`m` = `maxApps`, 0 = unlimited) -/
theorem runningCap_le (m r : Nat) :
    (if (decide (m > 0) && decide (r > m)) = true then m else r) ≤ r ∧
      (m ≠ 0 → (if (decide (m > 0) && decide (r > m)) = true then m else r) ≤ m) := by
  split <;> simp_all <;> omega

theorem running_le_max_step (t : QTree) (op : CounterOp) (h : RunningLeMax t) : RunningLeMax (cstep t op) := by
  cases op with
  | incRun i app => exact applyChain_forall _ _ (fun q _ hm => (runningCap_le q.maxApps (q.running + 1)).2 hm) _ t h
  | decRun i => exact applyChain_forall _ _ (fun q hq hm => Nat.le_trans (Nat.sub_le _ _) (hq hm)) _ t h
  | setAllocating i app =>
    refine applyChain_forall _ _ (fun q hq => ?_) _ t h
    split
    · exact hq
    · exact hq

/-- a counter operation as the scheduler issues it: an application is marked allocating, or counted as running,
    only after the gate said yes in that very state -/
def gated (t : QTree) : CounterOp → Bool
  | .incRun i app => canRunApp t i app
  | .decRun _ => true
  | .setAllocating i app => canRunApp t i app

def gatedRun : QTree → List CounterOp → Bool
  | _, [] => true
  | t, op :: ops => gated t op && gatedRun (cstep t op) ops

theorem treeWfAux_modify (f : Q → Q) (hf : ∀ i q, qWf i q = true → qWf i (f q) = true) :
    ∀ (t : List Q) (n i : Nat), treeWfAux n t = true → treeWfAux n (t.modify i f) = true := by
  intro t
  induction t with
  | nil => intro n i h; rw [List.modify_nil]; exact h
  | cons a t ih =>
    intro n i h
    simp only [treeWfAux, Bool.and_eq_true] at h
    cases i with
    | zero =>
      rw [List.modify_zero_cons]
      simp only [treeWfAux, Bool.and_eq_true]
      exact ⟨hf _ _ h.1, h.2⟩
    | succ j =>
      rw [List.modify_succ_cons]
      simp only [treeWfAux, Bool.and_eq_true]
      exact ⟨h.1, ih _ _ h.2⟩

theorem applyChain_wf (f : Q → Q) (hf : ∀ i q, qWf i q = true → qWf i (f q) = true) :
    ∀ (c : List Nat) (t : QTree), TreeWF t → TreeWF (applyChain t c f) := by
  intro c
  induction c with
  | nil => intro t h; exact h
  | cons a c ih =>
    intro t h
    rw [applyChain_cons]
    exact ih _ (treeWfAux_modify f hf t 0 a h)

theorem cstep_wf (t : QTree) (op : CounterOp) (hw : TreeWF t) : TreeWF (cstep t op) := by
  cases op with
  | incRun i app => exact applyChain_wf _ (fun _ _ h => by exact h) _ t hw
  | decRun i => exact applyChain_wf _ (fun _ _ h => by exact h) _ t hw
  | setAllocating i app =>
    refine applyChain_wf _ (fun j q h => ?_) _ t hw
    split
    · exact h
    · exact h

theorem applyChain_forall_chain (f : Q → Q) (P : Q → Prop) (c : List Nat) (t : QTree) (hn : c.Nodup)
    (h : ∀ q ∈ t, P q) (hf : ∀ j ∈ c, ∀ q, t[j]? = some q → P (f q)) : ∀ q ∈ applyChain t c f, P q := by
  intro q' hq'
  obtain ⟨j, hj⟩ := List.mem_iff_getElem?.mp hq'
  rw [applyChain_getElem? f c t hn j] at hj
  by_cases hm : j ∈ c
  · rw [if_pos hm] at hj
    cases hq : t[j]? with
    | none => rw [hq] at hj; cases hj
    | some q =>
      rw [hq] at hj
      simp only [Option.map_some, Option.some.injEq] at hj
      subst hj
      exact hf j hm q hq
  · rw [if_neg hm] at hj
    exact h q' (List.mem_iff_getElem?.mpr ⟨j, hj⟩)

theorem budget_step (t : QTree) (op : CounterOp) (hw : TreeWF t) (hb : Budget t) (hg : gated t op = true) :
    Budget (cstep t op) := by
  cases op with
  | incRun i app =>
    refine applyChain_forall_chain _ _ _ t (chain_nodup hw i) hb fun j hj q hq hm => ?_
    have hbq := hb q (List.mem_iff_getElem?.mpr ⟨j, hq⟩) hm
    have hle : (q.allocating.filter (· != app)).length ≤ q.allocating.length := List.length_filter_le _ _
    have hcl := (runningCap_le q.maxApps (q.running + 1)).1
    rcases canRun_gate t i app hg j hj q hq hm with hgate | hgate
    · have hlt : (q.allocating.filter (· != app)).length < q.allocating.length :=
        List.length_filter_lt_length_iff_exists.mpr ⟨app, hgate, by simp⟩
      dsimp only; omega
    · dsimp only; omega
  | decRun i =>
    refine applyChain_forall _ _ (fun q hq hm => ?_) _ t hb
    have := hq hm
    dsimp only; omega
  | setAllocating i app =>
    refine applyChain_forall_chain _ _ _ t (chain_nodup hw i) hb fun j hj q hq => ?_
    split
    · exact hb q (List.mem_iff_getElem?.mpr ⟨j, hq⟩)
    · rename_i hc
      intro hm
      rcases canRun_gate t i app hg j hj q hq hm with hgate | hgate
      · exact absurd (List.contains_iff_mem.mpr hgate) hc
      · simp only [List.length_append, List.length_cons, List.length_nil]; omega

end QTree
end Yk
