/-
  I8 of C03 as an invariant of the stepped model: every allocation an application lists as bound is listed by its
  (registered) node, for that application, non-foreign, with the size the application books (`Linked`).
  With it the node-side conditions of the release operations (`ReleaseOK`, `AppOnNodes`, `SwapOK.rel`) need not be
  assumed step by step: they follow from the invariant.  Every preservation proof rests on the transport of `Linked`
  along a piece of an operation described by a `Shape` (`Shape.linked`; `linked_keep`, `linked_release` for the two
  common cases).
-/
import YkProofs.Core2Ops
import YkProofs.Core2Swap
import YkProofs.Core2Timer
import YkProofs.Core2App
import YkProofs.Core2Node
namespace Yk
open Res Core

def OnNode (s : Core) (app : String) (i : CItem) : Prop :=
  ∃ n, s.findNode i.node = some n ∧ ∃ x ∈ n.allocs, x.key = i.key ∧ x.app = app ∧ x.foreign = false ∧
    ∀ k, x.res.getD k = i.res.getD k

/-- I8: every allocation a live application lists is on its node.  Stronger than the executable `Core.I8`
    (YkModel/CoreState.lean), which asks for a registered node and a non-foreign entry with the key: the entry also names
    the application and has the size the application books (`OnNode`; the executable side has these two in `Core.I7`,
    read from the node).  `linkedb` (YkProofs/Core2LinkCheck.lean) is a sufficient executable check of it: `linked_of_b`. -/
def Linked (s : Core) : Prop :=
  ∀ a ∈ s.apps, a.live = true → ∀ i ∈ a.items, i.bound = true → OnNode s a.id i

theorem Linked.releaseOK {s : Core} (h : Linked s) (app key : String) : ReleaseOK s app key := by
  constructor
  intro a i hfind hitem hbd
  obtain ⟨ham, hl, hid⟩ := findApp_some hfind
  obtain ⟨him, hkey⟩ := find_key_some hitem
  obtain ⟨n, hn, x, hx, hxk, _, hxf, hxr⟩ := h a ham hl i him hbd
  exact ⟨n, hn, x, hx, hxk.trans hkey, hxf, hxr⟩

theorem Linked.appOnNodes {s : Core} (h : Linked s) (app : String) : AppOnNodes s app := by
  constructor
  intro a hfind i him hbd
  obtain ⟨ham, hl, _⟩ := findApp_some hfind
  obtain ⟨n, hn, x, hx, hxk, _, hxf, hxr⟩ := h a ham hl i him hbd
  exact ⟨n, hn, x, hx, hxk, hxf, hxr⟩

theorem OnNode.congr {s : Core} {app : String} {i j : CItem} (hk : j.key = i.key) (hn : j.node = i.node) (hr : j.res = i.res)
    (h : OnNode s app i) : OnNode s app j := by
  unfold OnNode at h ⊢
  rw [hk, hn, hr]; exact h

theorem OnNode.of_nodes {s t : Core} {app : String} {i : CItem} (hn : t.nodes = s.nodes) (h : OnNode s app i) : OnNode t app i := by
  unfold OnNode findNode at h ⊢
  rw [hn]; exact h

theorem Linked.of_lists {s t : Core} (ha : t.apps = s.apps) (hn : t.nodes = s.nodes) (h : Linked s) : Linked t := by
  intro a ham hl i him hbd
  rw [ha] at ham
  exact (h a ham hl i him hbd).of_nodes hn

theorem findNode_of_map {s t : Core} (g : CNode → CNode) (hg : ∀ n, (g n).id = n.id) (hn : t.nodes = s.nodes.map g)
    (id : String) : t.findNode id = (s.findNode id).map g := by
  unfold findNode
  rw [hn, find?_map_id _ g hg]

theorem OnNode.of_map {s t : Core} {app : String} {j : CItem} {g : CNode → CNode} (hn : t.nodes = s.nodes.map g)
    (hg : ∀ n, (g n).id = n.id) (h : OnNode s app j)
    (hkeep : ∀ n ∈ s.nodes, n.id = j.node → ∀ x ∈ n.allocs, x.key = j.key → x ∈ (g n).allocs) : OnNode t app j := by
  obtain ⟨n, hfn, x, hx, hxk, rest⟩ := h
  obtain ⟨hnm, hnid⟩ := findNode_some hfn
  exact ⟨g n, by rw [findNode_of_map g hg hn, hfn]; rfl, x, hkeep n hnm hnid x hx hxk, hxk, rest⟩

theorem mem_onNodeId {id : String} {h : CNode → CNode} {m : CNode} {x : CNodeAlloc} (hx : x ∈ m.allocs)
    (hk : m.id = id → x ∈ (h m).allocs) : x ∈ (onNodeId id h m).allocs :=
  onNodeId_keeps (P := fun m' => x ∈ m'.allocs) hk hx

theorem findNode_onNodeId {s t : Core} {id : String} {f : CNode → CNode} (hn : t.nodes = s.nodes.map (onNodeId id f))
    (hf : ∀ n, (f n).id = n.id) {n : CNode} (h : s.findNode id = some n) : t.findNode id = some (f n) := by
  rw [findNode_of_map _ (onNodeId_id hf) hn, h]
  show some (onNodeId id f n) = _
  rw [onNodeId, if_pos (by simpa using (findNode_some h).2)]

theorem nodeRm_keep (key : String) (r : Res) (n : CNode) (x : CNodeAlloc) (hx : x ∈ n.allocs) (hk : x.key ≠ key) :
    x ∈ (nodeRm key r n).allocs := by
  have : (x.key != key) = true := by simpa using hk
  exact List.mem_filter.mpr ⟨hx, this⟩

theorem findNode_updApp (s : Core) (id id' : String) (f : CApp → CApp) : (updApp s id f).findNode id' = s.findNode id' := rfl
theorem findNode_updQueues (s : Core) (ps : List String) (f : CQueue → CQueue) (id' : String) :
    (updQueues s ps f).findNode id' = s.findNode id' := rfl

/-- every bound item of `l'` is a bound item of `l`, up to the fields `OnNode` does not read -/
def BoundSub (l' l : List CItem) : Prop :=
  ∀ j ∈ l', j.bound = true → ∃ i ∈ l, i.bound = true ∧ i.key = j.key ∧ i.node = j.node ∧ i.res = j.res

theorem BoundSub.of_mem {l' l : List CItem} (h : ∀ j ∈ l', j.bound = true → j ∈ l) : BoundSub l' l :=
  fun j hj hjb => ⟨j, h j hj hjb, hjb, rfl, rfl, rfl⟩

theorem BoundSub.refl (l : List CItem) : BoundSub l l := BoundSub.of_mem fun _ hj _ => hj

theorem BoundSub.trans {l1 l2 l3 : List CItem} (h1 : BoundSub l1 l2) (h2 : BoundSub l2 l3) : BoundSub l1 l3 := by
  intro j hj hjb
  obtain ⟨i, hi, hib, k1, k2, k3⟩ := h1 j hj hjb
  obtain ⟨i', hi', hib', k1', k2', k3'⟩ := h2 i hi hib
  exact ⟨i', hi', hib', k1'.trans k1, k2'.trans k2, k3'.trans k3⟩

/-- an item rewrite that keeps what `Linked` reads: key, node, size and `bound` (it sets flags) -/
def KeepsSig (g : CItem → CItem) : Prop :=
  ∀ x, (g x).key = x.key ∧ (g x).node = x.node ∧ (g x).res = x.res ∧ (g x).bound = x.bound

theorem KeepsSig.ite (c : CItem → Bool) {g : CItem → CItem} (hg : KeepsSig g) :
    KeepsSig (fun x => if c x = true then g x else x) := by
  intro x
  dsimp only
  split
  · exact hg x
  · exact ⟨rfl, rfl, rfl, rfl⟩

theorem BoundSub.map {l : List CItem} {g : CItem → CItem} (hg : KeepsSig g) : BoundSub (l.map g) l := by
  intro j hj hjb
  obtain ⟨x, hx, rfl⟩ := List.mem_map.mp hj
  obtain ⟨h1, h2, h3, h4⟩ := hg x
  exact ⟨x, hx, h4.symm.trans hjb, h1.symm, h2.symm, h3.symm⟩

theorem BoundSub.updItem {l : List CItem} {g : CItem → CItem} (key : String) (hg : KeepsSig g) : BoundSub (updItem key g l) l :=
  BoundSub.map (KeepsSig.ite (fun x => x.key == key) hg)

theorem BoundSub.filter (l : List CItem) (p : CItem → Bool) : BoundSub (l.filter p) l :=
  BoundSub.of_mem fun _ hj _ => (List.mem_filter.mp hj).1

theorem Linked.of_boundSub {s : Core} (hl : Linked s) {a : CApp} (ha : a ∈ s.apps) (hal : a.live = true) {l : List CItem}
    (h : BoundSub l a.items) {j : CItem} (hj : j ∈ l) (hjb : j.bound = true) : OnNode s a.id j := by
  obtain ⟨i, hi, hib, k1, k2, k3⟩ := h j hj hjb
  exact (hl a ha hal i hi hib).congr k1.symm k2.symm k3.symm

theorem bound_unbound {key : String} {l : List CItem} {y : CItem} (hy : y ∈ unbound key l) (hb : y.bound = true) :
    y ∈ l ∧ y.key ≠ key := by
  obtain ⟨x, hx, _, _, _, _, _, h | h⟩ := mem_unbound hy
  · rw [h.2] at hb; cases hb
  · rw [h.2]; exact ⟨hx, h.1⟩

theorem Linked.of_updApps {s t : Core} (hl : Linked s) {app : String} {f : CApp → CApp} (hta : t.apps = updApps s.apps app f)
    (hother : ∀ b ∈ s.apps, b.live = true → b.id ≠ app → ∀ j ∈ b.items, j.bound = true → OnNode s b.id j → OnNode t b.id j)
    (hself : ∀ a ∈ s.apps, a.live = true → a.id = app → (f a).live = true →
      (f a).id = a.id ∧ ∀ j ∈ (f a).items, j.bound = true → OnNode t a.id j) : Linked t := by
  intro b hb hbl j hj hjb
  rw [hta] at hb
  obtain ⟨a, ha, rfl⟩ := List.mem_map.mp hb
  by_cases hd : (a.live && a.id == app) = true
  · rw [if_pos hd] at hbl hj ⊢
    simp only [Bool.and_eq_true, beq_iff_eq] at hd
    obtain ⟨hid, hitems⟩ := hself a ha hd.1 hd.2 hbl
    rw [hid]; exact hitems j hj hjb
  · rw [if_neg hd] at hbl hj ⊢
    exact hother a ha hbl (fun h => hd (by simp [hbl, h])) j hj hjb (hl a ha hbl j hj hjb)

/-- another live application does not list, bound, the key of `i` on the node of `i`: node.allocations is a map keyed by
    the allocation key (`CoreWF.allocKeys`), and its entry for that key names one application -/
theorem Linked.other_key {s : Core} (hw : CoreWF s) (hl : Linked s) {a b : CApp} (ha : a ∈ s.apps) (hal : a.live = true)
    {i : CItem} (hi : i ∈ a.items) (hib : i.bound = true) (hne : b.id ≠ a.id) {j : CItem} (hj : OnNode s b.id j)
    (hnode : j.node = i.node) : j.key ≠ i.key := by
  intro hkey
  obtain ⟨n, hn, x, hx, hxk, hxa, _⟩ := hj
  obtain ⟨m, hm, y, hy, hyk, hya, _⟩ := hl a ha hal i hi hib
  rw [hnode, hm] at hn
  obtain rfl : m = n := Option.some.inj hn
  have : x = y := allocKeys_eq (hw.allocKeys m (findNode_some hm).1) hx hy (by rw [hxk, hyk, hkey])
  exact hne (by rw [← hxa, ← hya, this])

/-! ### `Linked` after a piece of an operation (`Shape`) -/

namespace Shape
variable {s t : Core} {app : String} {a a' : CApp} {fq : CQueue → CQueue} {fn : CNode → CNode}

/-- The transport of `Linked` along a piece.  `D` marks the bound items of `a` whose node entry the piece may drop: the
    node map drops an entry only if it is the entry of such an item — `Linked.other_key` then protects the entries of the
    other applications, the uniqueness of keys those of the other items of `a`.  A bound item of `a'` is a bound item of
    `a` outside `D` (up to the fields `OnNode` does not read), or is shown to be listed. -/
theorem linked (sh : Shape s t app a a' fq fn) (hw : CoreWF s) (hl : Linked s) (D : CItem → Prop)
    (hfn : ∀ n ∈ s.nodes, ∀ x ∈ n.allocs, x ∈ (fn n).allocs ∨
      ∃ i ∈ a.items, i.bound = true ∧ D i ∧ i.node = n.id ∧ i.key = x.key)
    (hself : a'.live = true → ∀ j ∈ a'.items, j.bound = true →
      (∃ i ∈ a.items, i.bound = true ∧ ¬ D i ∧ i.key = j.key ∧ i.node = j.node ∧ i.res = j.res) ∨ OnNode t a.id j) :
    Linked t := by
  obtain ⟨ham, hal, hid⟩ := sh.mem
  have keep : ∀ (id : String) (j : CItem), OnNode s id j →
      (∀ i ∈ a.items, i.bound = true → D i → i.node = j.node → i.key ≠ j.key) → OnNode t id j := by
    intro id j hon hne
    refine hon.of_map sh.nodes sh.nid (fun n hnm hnid x hx hxk => ?_)
    rcases hfn n hnm x hx with h | ⟨i, hi, hib, hD, hin, hik⟩
    · exact h
    · exact absurd (hik.trans hxk) (hne i hi hib hD (hin.trans hnid))
  refine hl.of_updApps sh.apps ?_ (fun b _ _ hb hlive => ⟨sh.id.trans (hid.trans hb.symm), fun j hj hjb => ?_⟩)
  · intro b _ _ hne j _ _ hon
    exact keep b.id j hon (fun i hi hib _ hnode hkey =>
      hl.other_key hw ham hal hi hib (by rw [hid]; exact hne) hon hnode.symm hkey.symm)
  · rw [hb, ← hid]
    rcases hself hlive j hj hjb with ⟨i', hi', hib', hnD, k1, k2, k3⟩ | hon
    · refine (keep a.id i' (hl a ham hal i' hi' hib') (fun i hi _ hD _ hkey => ?_)).congr k1.symm k2.symm k3.symm
      rw [itemKeys_eq (hw.itemKeys a ham hal) hi hi' hkey] at hD
      exact hnD hD
    · exact hon

/-- no node entry is dropped, no item becomes bound -/
theorem linked_keep (sh : Shape s t app a a' fq fn) (hw : CoreWF s) (hl : Linked s)
    (hfn : ∀ n ∈ s.nodes, ∀ x ∈ n.allocs, x ∈ (fn n).allocs) (hself : a'.live = true → BoundSub a'.items a.items) :
    Linked t :=
  sh.linked hw hl (fun _ => False) (fun n hn x hx => Or.inl (hfn n hn x hx)) (fun hlive j hj hjb =>
    let ⟨i, hi, hib, k⟩ := hself hlive j hj hjb
    Or.inl ⟨i, hi, hib, fun h => h, k⟩)

/-- the application gives up its bound allocation `i`, whose node is rewritten by a `g` that keeps every entry with
    another key -/
theorem linked_release {g : CNode → CNode} {i : CItem} (sh : Shape s t app a a' fq (onNodeId i.node g)) (hw : CoreWF s)
    (hl : Linked s) (him : i ∈ a.items) (hib : i.bound = true)
    (hg : ∀ n, ∀ x ∈ n.allocs, x.key ≠ i.key → x ∈ (g n).allocs)
    (hself : a'.live = true → ∀ j ∈ a'.items, j.bound = true → (j ∈ a.items ∧ j.key ≠ i.key) ∨ OnNode t a.id j) :
    Linked t := by
  refine sh.linked hw hl (· = i) (fun m _ x hx => ?_) (fun hlive j hj hjb => ?_)
  · by_cases hk : x.key = i.key
    · by_cases hd : m.id = i.node
      · exact Or.inr ⟨i, him, hib, rfl, hd.symm, hk.symm⟩
      · exact Or.inl (mem_onNodeId hx (fun h => absurd h hd))
    · exact Or.inl (mem_onNodeId hx (fun _ => hg m x hx hk))
  · rcases hself hlive j hj hjb with ⟨hjm, hjk⟩ | hon
    · exact Or.inl ⟨j, hjm, hjb, fun e => hjk (e ▸ rfl), rfl, rfl, rfl⟩
    · exact Or.inr hon

end Shape

end Yk
