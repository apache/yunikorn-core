/- internalProcessConfig: what it does to the manager and which maps it parses a configuration into (the last entry
   naming a user, the wildcard or a group wins); what the parsed maps inherit from the entries of the configuration
   (`PM`), in particular from a configuration that passed the validator (`ProperAt`); the parsed maps do not depend on the
   manager the configuration is parsed into (`processConfig_snd`). -/
import YkProofs.Ugm
namespace Yk.Ugm
open Yk Yk.Res

/-! ### what procUser and procGroup do, and the lifting of an invariant through the four folds of internalProcessConfig -/

theorem procGroup_shape (p : Path) (lc : Limit) (s : Mgr × NewCfg) (g : String) :
    (g = "" ∧ procGroup p lc s g = s) ∨ ∃ n', procGroup p lc s g = (setGroupLimits s.1 g lc p, n') ∧ n'.userLimits = s.2.userLimits ∧
      n'.userWild = s.2.userWild ∧ n'.groupLimits = aset2 s.2.groupLimits p g lc ∧
      n'.groupWild = (if g == "*" then aset s.2.groupWild p lc else s.2.groupWild) ∧
      n'.confGroups = (if g == "*" then s.2.confGroups else aset s.2.confGroups p ((aget s.2.confGroups p).getD [] ++ [g])) := by
  unfold procGroup
  by_cases h1 : (g == "") = true
  · exact Or.inl ⟨beq_iff_eq.mp h1, if_pos h1⟩
  · rw [if_neg h1]
    refine Or.inr ⟨_, rfl, ?_⟩
    cases g == "*" <;> exact ⟨rfl, rfl, rfl, rfl, rfl⟩

theorem procUser_cases (p : Path) (lc : Limit) (s : Mgr × NewCfg) (u : String) :
    procUser p lc s u = s ∨ procUser p lc s u = (s.1, { s.2 with userWild := aset s.2.userWild p lc }) ∨
    procUser p lc s u = (setUserLimits s.1 u lc p, { s.2 with userLimits := aset2 s.2.userLimits p u lc }) := by
  unfold procUser
  by_cases h1 : (u == "") = true
  · exact Or.inl (if_pos h1)
  · rw [if_neg h1]
    by_cases h2 : (u == "*") = true
    · exact Or.inr (Or.inl (if_pos h2))
    · exact Or.inr (Or.inr (if_neg h2))

theorem procGroup_userSide (p : Path) (lc : Limit) (s : Mgr × NewCfg) (g : String) :
    (procGroup p lc s g).2.userLimits = s.2.userLimits ∧ (procGroup p lc s g).2.userWild = s.2.userWild := by
  rcases procGroup_shape p lc s g with ⟨_, e⟩ | ⟨n', e, e1, e2, _⟩ <;> rw [e]
  · exact ⟨rfl, rfl⟩
  · exact ⟨e1, e2⟩

theorem procUser_groupSide (p : Path) (lc : Limit) (s : Mgr × NewCfg) (u : String) :
    (procUser p lc s u).2.groupLimits = s.2.groupLimits := by
  unfold procUser
  split
  · rfl
  · split <;> rfl

theorem foldl_preserves {σ α : Type} (f : σ → α → σ) (P : σ → Prop) (l : List α) (hf : ∀ s a, a ∈ l → P s → P (f s a)) :
    ∀ s, P s → P (l.foldl f s) :=
  fun _ h => List.foldlRecOn l f h (fun s hs a ha => hf s a ha hs)

def lcOf (l : LimitEntry) : Limit := { maxRes := l.maxRes, maxApps := l.maxApps }

theorem processConfig_lift (P : Mgr × NewCfg → Prop) (C : Path → LimitEntry → Prop)
    (hU : ∀ s p l u, C p l → P s → P (procUser p (lcOf l) s u)) (hG : ∀ s p l g, C p l → P s → P (procGroup p (lcOf l) s g))
    (m : Mgr) (c : Cfg) (hc : ∀ q ∈ c, ∀ l ∈ q.2, C q.1 l) (h0 : P (m, {})) : P (processConfig m c) := by
  unfold processConfig
  apply foldl_preserves _ P c _ _ h0
  intro s q hq hs
  apply foldl_preserves _ P _ _ _ hs
  intro s l hl hs
  unfold procEntry
  apply foldl_preserves _ P _ (fun s g _ hs => hG s _ l g (hc q hq l hl) hs)
  exact foldl_preserves _ P _ (fun s u _ hs => hU s _ l u (hc q hq l hl) hs) _ hs

theorem processConfig_preserves (P : Mgr × NewCfg → Prop)
    (hU : ∀ s p lc u, P s → P (procUser p lc s u)) (hG : ∀ s p lc g, P s → P (procGroup p lc s g))
    (m : Mgr) (c : Cfg) (h0 : P (m, {})) : P (processConfig m c) :=
  processConfig_lift P (fun _ _ => True) (fun s p l u _ => hU s p (lcOf l) u) (fun s p l g _ => hG s p (lcOf l) g) m c
    (fun _ _ _ _ => trivial) h0

/-! ### the parsed maps hold the last entry of the configuration -/

def lastOr (init : Option Limit) (ls : List LimitEntry) : Option Limit :=
  match ls.getLast? with | some l => some (lcOf l) | none => init

theorem lastOr_nil (init : Option Limit) : lastOr init [] = init := rfl

theorem lastOr_cons (init : Option Limit) (l : LimitEntry) (ls : List LimitEntry) :
    lastOr init (l :: ls) = lastOr (some (lcOf l)) ls := by
  unfold lastOr
  cases ls with
  | nil => rfl
  | cons a ls =>
    rw [List.getLast?_cons_cons]
    cases h : (a :: ls).getLast? with
    | none => rw [List.getLast?_eq_none_iff] at h; cases h
    | some x => rfl

theorem lastOr_append (init : Option Limit) (a b : List LimitEntry) : lastOr init (a ++ b) = lastOr (lastOr init a) b := by
  induction a generalizing init with
  | nil => rfl
  | cons x a ih => rw [List.cons_append, lastOr_cons, lastOr_cons, ih]

/-- a parsed map read at one key (`userLimits` at a user, `userWild`, `groupLimits` at a group) is such a projection, so
    "the last entry wins" is proved once, in `maps_of_proj` -/
structure Proj (π : NewCfg → Option Limit) (p : Path) (hu hg : String → Bool) : Prop where
  user : ∀ p' lc (s : Mgr × NewCfg) x, π (procUser p' lc s x).2 = if p' = p ∧ hu x = true then some lc else π s.2
  group : ∀ p' lc (s : Mgr × NewCfg) x, π (procGroup p' lc s x).2 = if p' = p ∧ hg x = true then some lc else π s.2

theorem proj_fold {π : NewCfg → Option Limit} {step : Mgr × NewCfg → String → Mgr × NewCfg} {c : Prop} [Decidable c]
    {hit : String → Bool} {lc : Limit} (h : ∀ s x, π (step s x).2 = if c ∧ hit x = true then some lc else π s.2) :
    ∀ (xs : List String) (s : Mgr × NewCfg), π (xs.foldl step s).2 = if c ∧ xs.any hit = true then some lc else π s.2 := by
  intro xs
  induction xs with
  | nil => intro s; simp
  | cons x xs ih =>
    intro s
    rw [List.foldl_cons, ih, h, List.any_cons]
    by_cases hc : c <;> cases hit x <;> cases xs.any hit <;> simp [hc]

def entryHits (hu hg : String → Bool) (l : LimitEntry) : Bool := l.users.any hu || l.groups.any hg

theorem proj_entry {π : NewCfg → Option Limit} {p : Path} {hu hg : String → Bool} (h : Proj π p hu hg) (p' : Path)
    (s : Mgr × NewCfg) (l : LimitEntry) :
    π (procEntry p' s l).2 = if p' = p ∧ entryHits hu hg l = true then some (lcOf l) else π s.2 := by
  unfold procEntry entryHits
  simp only
  rw [proj_fold (h.group p' _), proj_fold (h.user p' _)]
  by_cases hp : p' = p <;> cases l.users.any hu <;> cases l.groups.any hg <;> simp [hp, lcOf]

theorem proj_queue {π : NewCfg → Option Limit} {p : Path} {hu hg : String → Bool} (h : Proj π p hu hg) (p' : Path) :
    ∀ (ls : List LimitEntry) (s : Mgr × NewCfg),
      π (ls.foldl (procEntry p') s).2 = if p' = p then lastOr (π s.2) (ls.filter (entryHits hu hg)) else π s.2 := by
  intro ls
  induction ls with
  | nil => intro s; split <;> rfl
  | cons l ls ih =>
    intro s
    rw [List.foldl_cons, ih, proj_entry h, List.filter_cons]
    by_cases hp : p' = p
    · simp only [hp, true_and, if_true]
      by_cases hh : entryHits hu hg l = true
      · rw [if_pos hh, if_pos hh, lastOr_cons]
      · rw [if_neg hh, if_neg hh]
    · simp only [hp, false_and, if_false]

theorem proj_config {π : NewCfg → Option Limit} {p : Path} {hu hg : String → Bool} (h : Proj π p hu hg) :
    ∀ (c : Cfg) (s : Mgr × NewCfg),
      π (c.foldl (fun s q => q.2.foldl (procEntry q.1) s) s).2
        = lastOr (π s.2) (((c.filter (fun q => q.1 == p)).flatMap (·.2)).filter (entryHits hu hg)) := by
  intro c
  induction c with
  | nil => intro s; rfl
  | cons q c ih =>
    intro s
    rw [List.foldl_cons, ih, proj_queue h, List.filter_cons]
    by_cases e : q.1 = p
    · rw [if_pos e, if_pos (beq_iff_eq.mpr e), List.flatMap_cons, List.filter_append, lastOr_append]
    · rw [if_neg e, if_neg (by rwa [beq_iff_eq])]

theorem maps_of_proj {π : NewCfg → Option Limit} {p : Path} {hu hg : String → Bool} (h : Proj π p hu hg) (hπ : π {} = none)
    (m : Mgr) (c : Cfg) (f : LimitEntry → Bool) (hf : ∀ l, entryHits hu hg l = f l) :
    π (processConfig m c).2 = ((((c.filter (fun q => q.1 == p)).flatMap (·.2)).filter f).getLast?).map lcOf := by
  unfold processConfig
  rw [proj_config h c (m, {}), hπ, funext hf]
  unfold lastOr
  cases (List.filter f (List.flatMap (fun x => x.2) (List.filter (fun q => q.1 == p) c))).getLast? <;> rfl

theorem proj_userLimits (p : Path) (u : String) (h1 : u ≠ "") (h2 : u ≠ "*") :
    Proj (fun n => aget2 n.userLimits p u) p (u == ·) (fun _ => false) := by
  constructor
  · intro p' lc s x
    unfold procUser
    split
    next e => rw [beq_iff_eq] at e; subst e; simp [h1]
    · split
      next e => rw [beq_iff_eq] at e; subst e; simp [h2]
      · show aget2 (aset2 s.2.userLimits p' x lc) p u = _
        rw [aget2_aset2]
        simp only [beq_iff_eq, eq_comm (a := u)]
  · intro p' lc s x
    simp [(procGroup_userSide p' lc s x).1]

theorem proj_userWild (p : Path) : Proj (fun n => aget n.userWild p) p ("*" == ·) (fun _ => false) := by
  constructor
  · intro p' lc s x
    unfold procUser
    split
    next e => rw [beq_iff_eq] at e; subst e; simp
    · split
      next e => rw [beq_iff_eq] at e; subst e; simp [aget_aset]
      next e => rw [beq_iff_eq] at e; simp [Ne.symm e]
  · intro p' lc s x
    simp [(procGroup_userSide p' lc s x).2]

theorem proj_groupLimits (p : Path) (g : String) (h1 : g ≠ "") :
    Proj (fun n => aget2 n.groupLimits p g) p (fun _ => false) (g == ·) := by
  constructor
  · intro p' lc s x
    simp [procUser_groupSide p' lc s x]
  · intro p' lc s x
    rcases procGroup_shape p' lc s x with ⟨e1, e⟩ | ⟨n', e, _, _, e3, _, _⟩ <;> rw [e]
    · subst e1; simp [h1]
    · show aget2 n'.groupLimits p g = _
      rw [e3, aget2_aset2]
      simp only [beq_iff_eq, eq_comm (a := g)]

theorem any_false (l : List String) : l.any (fun _ => false) = false := by
  induction l with
  | nil => rfl
  | cons a l ih => rw [List.any_cons, ih]; rfl

theorem contains_eq_any (l : List String) (u : String) : l.any (fun x => u == x) = l.contains u := by
  induction l with
  | nil => rfl
  | cons a l ih => rw [List.any_cons, List.contains_cons, ih]

theorem hits_user (k : String) (l : LimitEntry) : entryHits (k == ·) (fun _ => false) l = l.users.contains k := by
  unfold entryHits; rw [any_false, Bool.or_false, contains_eq_any]

theorem hits_group (k : String) (l : LimitEntry) : entryHits (fun _ => false) (k == ·) l = l.groups.contains k := by
  unfold entryHits; rw [any_false, Bool.false_or, contains_eq_any]

theorem maps_userLimits_any (m : Mgr) (c : Cfg) (p : Path) (u : String) (h1 : u ≠ "") (h2 : u ≠ "*") :
    aget2 (processConfig m c).2.userLimits p u = (lastUserEntry c p u).map lcOf :=
  maps_of_proj (proj_userLimits p u h1 h2) rfl m c _ (hits_user u)

theorem maps_userWild_any (m : Mgr) (c : Cfg) (p : Path) :
    aget (processConfig m c).2.userWild p = (lastUserEntry c p "*").map lcOf :=
  maps_of_proj (proj_userWild p) rfl m c _ (hits_user "*")

theorem maps_groupLimits_any (m : Mgr) (c : Cfg) (p : Path) (g : String) (h1 : g ≠ "") :
    aget2 (processConfig m c).2.groupLimits p g = (lastGroupEntry c p g).map lcOf :=
  maps_of_proj (proj_groupLimits p g h1) rfl m c _ (hits_group g)

/-! ### what the parsed maps inherit from the entries of the configuration -/

def MemGet (L : List (Path × List (String × Limit))) : Prop :=
  ∀ p us x l, (p, us) ∈ L → (x, l) ∈ us → (aget2 L p x).isSome = true

theorem MemGet_aset2 {L : List (Path × List (String × Limit))} (h : MemGet L) (p : Path) (x : String) (v : Limit) : MemGet (aset2 L p x v) := by
  have hmono : ∀ p' x', (aget2 L p' x').isSome = true → (aget2 (aset2 L p x v) p' x').isSome = true := by
    intro p' x' hs; rw [aget2_aset2]; split
    · rfl
    · exact hs
  intro p' us' x' l' hm hx
  unfold aset2 at hm
  rcases mem_aset hm with hm | hm
  · exact hmono p' x' (h p' us' x' l' hm hx)
  · obtain ⟨e1, e2⟩ := Prod.mk.inj hm
    subst e1; subst e2
    rcases mem_aset hx with hx | hx
    · apply hmono
      cases hg : aget L p' with
      | none => rw [hg] at hx; simp at hx
      | some us0 => rw [hg] at hx; exact h p' us0 x' l' (aget_mem hg) hx
    · obtain ⟨e1, e2⟩ := Prod.mk.inj hx
      subst e1; subst e2
      rw [aget2_aset2]; simp

theorem forall_aget2_aset2 {L : List (Path × List (String × Limit))} {P : Path → Limit → Prop}
    (h : ∀ p x lc, aget2 L p x = some lc → P p lc) (q : Path) (y : String) {v : Limit} (hv : P q v) :
    ∀ p x lc, aget2 (aset2 L q y v) p x = some lc → P p lc := by
  intro p x lc hl
  rw [aget2_aset2] at hl
  split at hl
  · rename_i hc; cases hl; rw [← hc.1]; exact hv
  · exact h p x lc hl

/-- the one invariant of the parsed maps, for a configuration whose entries satisfy `C` on their queues; `cc1`, `cc2`: a
    configured group (or the group wildcard) of a queue has a limit there -/
structure PM (C : Path → Limit → Prop) (n : NewCfg) : Prop where
  ul : ∀ p x lc, aget2 n.userLimits p x = some lc → C p lc
  gl : ∀ p x lc, aget2 n.groupLimits p x = some lc → C p lc
  uw : ∀ p lc, aget n.userWild p = some lc → C p lc
  wk : (akeys n.userWild).Nodup
  mu : MemGet n.userLimits
  mg : MemGet n.groupLimits
  cc1 : ∀ p gs, aget n.confGroups p = some gs → ∀ g ∈ gs, (aget2 n.groupLimits p g).isSome = true
  cc2 : ∀ p, ahas n.groupWild p = true → (aget2 n.groupLimits p "*").isSome = true

section
variable {C : Path → Limit → Prop} {s : Mgr × NewCfg} {q : Path} {lc : Limit}

theorem PM.wild_mem {n : NewCfg} (h : PM C n) : ∀ e ∈ n.userWild, C e.1 e.2 :=
  fun e he => h.uw e.1 e.2 (aget_of_mem_akeys_nodup h.wk he)

theorem PM_procUser (h : PM C s.2) (hq : C q lc) (u : String) : PM C (procUser q lc s u).2 := by
  rcases procUser_cases q lc s u with e | e | e <;> rw [e]
  · exact h
  · refine { h with uw := ?_, wk := akeys_aset_nodup h.wk q lc }
    intro p lc' hl'
    simp only [aget_aset] at hl'
    split at hl'
    · rename_i hc; cases hl'; rw [← hc]; exact hq
    · exact h.uw p lc' hl'
  · exact { h with ul := forall_aget2_aset2 h.ul q u hq, mu := MemGet_aset2 h.mu q u lc }

theorem PM_procGroup (h : PM C s.2) (hq : C q lc) (g : String) : PM C (procGroup q lc s g).2 := by
  rcases procGroup_shape q lc s g with ⟨_, e⟩ | ⟨n', e, f1, f2, f3, f4, f5⟩ <;> rw [e]
  · exact h
  · show PM C n'
    have hmono : ∀ p' g', (aget2 s.2.groupLimits p' g').isSome = true → (aget2 n'.groupLimits p' g').isSome = true := by
      intro p' g' hs
      rw [f3, aget2_aset2]; split
      · rfl
      · exact hs
    have hnew : (aget2 n'.groupLimits q g).isSome = true := by rw [f3, aget2_aset2]; simp
    refine ⟨by rw [f1]; exact h.ul, by rw [f3]; exact forall_aget2_aset2 h.gl q g hq, by rw [f2]; exact h.uw,
      by rw [f2]; exact h.wk, by rw [f1]; exact h.mu, by rw [f3]; exact MemGet_aset2 h.mg q g lc, ?_, ?_⟩
    · intro p' gs hgs g' hg'
      rw [f5] at hgs
      by_cases hw : (g == "*") = true
      · rw [if_pos hw] at hgs
        exact hmono p' g' (h.cc1 p' gs hgs g' hg')
      · rw [if_neg hw, aget_aset] at hgs
        by_cases e : q = p'
        · subst e
          simp only [if_true, Option.some.injEq] at hgs
          subst hgs
          rcases List.mem_append.mp hg' with hm | hm
          · cases hc : aget s.2.confGroups q with
            | none => rw [hc] at hm; simp at hm
            | some gs0 => rw [hc] at hm; exact hmono q g' (h.cc1 q gs0 hc g' hm)
          · simp at hm; subst hm; exact hnew
        · simp only [e, if_false] at hgs
          exact hmono p' g' (h.cc1 p' gs hgs g' hg')
    · intro p' hp'
      rw [f4] at hp'
      by_cases hw : (g == "*") = true
      · rw [if_pos hw, ahas_eq, aget_aset] at hp'
        have hg : g = "*" := by simpa using hw
        by_cases e : q = p'
        · subst e; subst hg; exact hnew
        · simp only [e, if_false] at hp'
          exact hmono p' "*" (h.cc2 p' (by rw [ahas_eq]; exact hp'))
      · rw [if_neg hw] at hp'
        exact hmono p' "*" (h.cc2 p' hp')

end

theorem PM_processConfig {C : Path → Limit → Prop} (m : Mgr) (c : Cfg) (hc : ∀ q ∈ c, ∀ l ∈ q.2, C q.1 (lcOf l)) :
    PM C (processConfig m c).2 :=
  processConfig_lift (fun s => PM C s.2) (fun p l => C p (lcOf l)) (fun _ _ _ u hp hs => PM_procUser hs hp u)
    (fun _ _ _ g hp hs => PM_procGroup hs hp g) m c hc
    ⟨fun _ _ _ h => (by cases h), fun _ _ _ h => (by cases h), fun _ _ h => (by cases h), List.nodup_nil,
     fun _ _ _ _ h => (by cases h), fun _ _ _ _ h => (by cases h), fun _ _ h => (by cases h), fun _ h => (by cases h)⟩

/-! ### configurations that passed the validator -/

/-- what configs.Validate lets through: a limit that limits something, on a queue below the root -/
def ProperAt (p : Path) (lc : Limit) : Prop := p.take 1 = rootPath ∧ (lc.maxApps == 0 && isZero lc.maxRes) = false

theorem properCfgB_ne {c : Cfg} (hc : properCfgB c = true) : ∀ q ∈ c, q.1 ≠ [] := by
  intro q hq e
  have := List.all_eq_true.mp hc q hq
  rw [e] at this; simp [rootPath] at this

theorem PM_processConfig_proper (m : Mgr) (c : Cfg) (hc : properCfgB c = true) : PM ProperAt (processConfig m c).2 := by
  refine PM_processConfig m c (fun q hq l hl => ?_)
  have := List.all_eq_true.mp hc q hq
  simp only [Bool.and_eq_true, beq_iff_eq, List.all_eq_true, Bool.not_eq_true'] at this
  exact ⟨this.1, this.2 l hl⟩

/-! ### the parsed maps do not depend on the trackers -/

theorem foldl_snd_indep {σ τ α : Type} (f : σ × τ → α → σ × τ) (hf : ∀ s s' a, s.2 = s'.2 → (f s a).2 = (f s' a).2) :
    ∀ (l : List α) (s s' : σ × τ), s.2 = s'.2 → (l.foldl f s).2 = (l.foldl f s').2 := by
  intro l
  induction l with
  | nil => intro s s' h; exact h
  | cons a l ih => intro s s' h; rw [List.foldl_cons, List.foldl_cons]; exact ih _ _ (hf s s' a h)

theorem procUser_snd (p : Path) (lc : Limit) (s s' : Mgr × NewCfg) (u : String) (h : s.2 = s'.2) :
    (procUser p lc s u).2 = (procUser p lc s' u).2 := by
  unfold procUser
  simp only [apply_ite Prod.snd, h]

theorem procGroup_snd (p : Path) (lc : Limit) (s s' : Mgr × NewCfg) (g : String) (h : s.2 = s'.2) :
    (procGroup p lc s g).2 = (procGroup p lc s' g).2 := by
  unfold procGroup
  simp only [apply_ite Prod.snd, h]

theorem processConfig_snd (m : Mgr) (c : Cfg) : (processConfig m c).2 = parseCfg c := by
  unfold parseCfg processConfig
  refine foldl_snd_indep (fun (s : Mgr × NewCfg) (q : Path × List LimitEntry) => q.2.foldl (procEntry q.1) s) ?_ c
    (m, ({} : NewCfg)) (({} : Mgr), ({} : NewCfg)) rfl
  intro s s' q h
  refine foldl_snd_indep (procEntry q.1) ?_ q.2 s s' h
  intro s s' l h
  unfold procEntry
  refine foldl_snd_indep _ (fun s s' g h => procGroup_snd _ _ s s' g h) _ _ _ ?_
  exact foldl_snd_indep _ (fun s s' u h => procUser_snd _ _ s s' u h) _ _ _ h

end Yk.Ugm
