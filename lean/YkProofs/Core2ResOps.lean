/-
  The reservation invariant `ResInv` (Core2Res.lean): the operations `nodeCreate`, `nodeUpdate`, `nodeSchedulable`,
  `foreignAdd`, `foreignRemove`, `cleanup`, `markReleased`, `ask`, `schedAlloc`, `appAdd` as instances of `ResS.ResStep`
  (Core2ResStep.lean), and the two operations that make / cancel a reservation: `reserve` (`ResA.res_add`, the one step
  in which a reservation enters the views) and `unreserve` (`ResA.res_drop`).
-/
import YkProofs.Core2ResStep
namespace Yk
open Res Core
open ResS
open ResC (nsig qsig quietSt)

/-! ### node requests, foreign allocations -/

theorem ResA.qsig_setRootMax (s : Core) (t : Res) : (setRootMax s t).queues.map qsig = s.queues.map qsig := by
  show (s.queues.map _).map qsig = _
  rw [List.map_map]
  exact List.map_congr_left fun q _ => by simp only [Function.comp]; split <;> rfl

theorem res_nodeCreate (s : Core) (id : String) (cap : Res) (b : Bool) (h : ResInv s) : ResInv (s.nodeCreate id cap b) := by
  unfold nodeCreate
  split
  · exact h
  · refine res_apps_eq h rfl (NodesStep.of_same ?_ ?_) (QueuesStep.keep (ResA.qsig_setRootMax _ _)) (Nat.le_refl _)
    · intro id' n hn _
      unfold findNode at hn ⊢
      exact LinkA.find_append_new _ _ _ hn
    · intro m hm
      have hm' : m ∈ s.nodes ++ [_] := hm
      rcases List.mem_append.mp hm' with hm1 | hm1
      · exact Or.inl hm1
      · rw [List.mem_singleton] at hm1; subst hm1; exact Or.inr rfl

theorem res_nodeUpdate (s : Core) (id : String) (cap : Res) (h : ResInv s) : ResInv (s.nodeUpdate id cap) := by
  unfold nodeUpdate
  split
  · exact h
  · split
    · exact h
    · exact res_apps_eq h rfl (NodesStep.keep (nsig_updNs _ id _ (fun _ => rfl))) (QueuesStep.keep (ResA.qsig_setRootMax _ _))
        (Nat.le_refl _)

theorem res_nodeSchedulable (s : Core) (id : String) (b : Bool) (h : ResInv s) : ResInv (s.nodeSchedulable id b) :=
  res_apps_eq h rfl (NodesStep.keep (nsig_updNs _ id _ (fun _ => rfl))) (QueuesStep.keep rfl) (Nat.le_refl _)

theorem res_foreignAdd (s : Core) (key node : String) (res : Res) (h : ResInv s) : ResInv (s.foreignAdd key node res) := by
  unfold foreignAdd
  split
  · exact h
  · split
    · exact h
    · exact res_apps_eq h rfl (NodesStep.keep (nsig_updNs _ node _ (fun _ => rfl))) (QueuesStep.keep rfl) (Nat.le_refl _)

theorem res_foreignRemove (s : Core) (key : String) (h : ResInv s) : ResInv (s.foreignRemove key) := by
  unfold foreignRemove
  split
  · exact h
  · split
    · exact res_apps_eq h rfl (NodesStep.keep rfl) (QueuesStep.keep rfl) (Nat.le_refl _)
    · split
      · exact res_apps_eq h rfl (NodesStep.keep rfl) (QueuesStep.keep rfl) (Nat.le_refl _)
      · exact res_apps_eq h rfl (NodesStep.keep (nsig_updNs _ _ _ (fun _ => rfl))) (QueuesStep.keep rfl) (Nat.le_refl _)

/-! ### `cleanup`, `markReleased` -/

theorem res_cleanup (s : Core) (h : ResInv s) : ResInv s.cleanup := by
  have hlive : s.cleanup.liveApps = s.liveApps := by
    unfold cleanup liveApps
    rw [List.filter_filter]
    apply List.filter_congr
    intro x _
    cases x.live <;> simp
  refine ResStep.res (app := "") (s := s) ⟨AppsStep.of_same ?_ ?_, NodesStep.keep rfl, QueuesStep.keep rfl, ?_⟩ h
  · intro a ha hl _
    exact List.mem_filter.mpr ⟨ha, by simp [hl]⟩
  · intro b hb _
    exact Or.inl (List.mem_filter.mp hb).1
  · unfold resvTotal; rw [hlive]; exact h.counter

theorem res_markReleased (c : Core) (app key : String) (preempted : Bool) (hw : CoreWF c) (h : ResInv c) :
    ResInv (c.markReleased app key preempted) := by
  rcases shape_markReleased c app key preempted hw with e | ⟨a, i, _, _, sh⟩
  · rw [e]; exact h
  · obtain ⟨ham, hl, _⟩ := sh.mem
    refine sh.res hw.appIds h (qsig_onChain _ (qsig_of (markQ_path_reserved preempted i))) (fun _ => rfl) ?_ (Or.inl hl)
    refine AppStep.of_outstanding h ham hl (hw.app ham hl) rfl rfl (stay_none _).symm ((KeepsAsks.refl _).map fun z => ?_) Or.inl
    split
    · split <;> exact ⟨rfl, rfl, id⟩
    · exact ⟨rfl, rfl, id⟩

/-! ### a new ask -/

theorem ResA.run_quiet {st : String} (h : quietSt (fireState st .run)) : quietSt st :=
  (quiet_of_moves (.run st) h).resolve_right (Life.run_ne_completing st)

theorem ResA.askState_quiet {st : String} (h : quietSt (LifeA.askState st)) : quietSt st := by
  unfold LifeA.askState at h
  split at h
  · exact run_quiet h
  · exact h

theorem res_ask (s : Core) (app key : String) (res : Res) (ph : Bool) (tg reqNode : String) (hw : CoreWF s)
    (h : ResInv s) : ResInv (s.ask app key res ph tg reqNode).1 := by
  rcases shape_ask s app key res ph tg reqNode hw with he | ⟨a, t, he, sh⟩
  · rw [he]; exact h
  · rw [he]
    obtain ⟨ham, hl, _⟩ := sh.mem
    exact sh.res hw.appIds h (qsig_onChain _ (fun _ => rfl)) (fun _ => rfl)
      (AppStep.of_outstanding h ham hl (hw.app ham hl) rfl rfl (stay_none _).symm ((KeepsAsks.refl _).append _)
        (fun hq => Or.inl (ResA.askState_quiet (st := a.state) hq))) (Or.inl hl)

/-! ### the scheduler binds an ask -/

theorem ResA.bindApp_reservations (key node : String) (i : CItem) (a : CApp) :
    (bindApp key node i a).reservations = a.reservations := by
  unfold bindApp; cases i.ph <;> rfl

theorem ResA.bindApp_appStep {s : Core} (h : ResInv s) {a : CApp} (ham : a ∈ s.apps) (hl : a.live = true) (hwa : AppWF a)
    {key node : String} {i : CItem} (hnr : ∀ r ∈ a.reservations, r.1 ≠ key) :
    ResS.AppStep nogone a (bindApp key node i a) := by
  have hres := ResA.bindApp_reservations key node i a
  refine AppStep.of_outstanding h ham hl hwa (bindApp_id ..) (bindApp_queue ..) (hres.trans (stay_none _).symm) ?_
    (fun hq => Or.inl ?_)
  · rw [bindApp_items, hres]; exact (KeepsAsks.refl _).updItem_ne hnr _
  · rcases LifeA.bindApp_state key node i a with ⟨e, _⟩ | e
    · rw [← e]; exact hq
    · rw [e] at hq; exact ResA.run_quiet hq

/-- Side condition `NotReserved`: the ask that is allocated holds no reservation (partition.allocate unreserves first). -/
theorem res_schedAlloc (s s' : Core) (app key node : String) (hw : CoreWF s) (h : ResInv s)
    (hnr : NotReserved s app key) (hs : s.schedAlloc app key node = some s') : ResInv s' := by
  obtain ⟨a, n, i, hfind, _, _, _, rfl⟩ := schedAlloc_some hs
  have sh := shape_bindAsk s app key node a i hw hfind
  exact sh.res hw.appIds h (qsig_onChain _ (fun _ => rfl)) (nsig_onNodeId _ (fun _ => rfl)) (ResA.bindApp_appStep h sh.mem.1 sh.mem.2.1 (hw.app sh.mem.1 sh.mem.2.1) (hnr a hfind))
    (Or.inl ((bindApp_live ..).trans sh.mem.2.1))

/-! ### `appAdd` -/

theorem ResA.queuesAdd_queues (s : Core) (nq : List CQueue) (hq : ∀ q ∈ nq, q.reserved = []) {t : Core}
    (ht : t.queues = (s.queuesAdd nq).queues) : QueuesStep "" nogone s t := by
  unfold queuesAdd at ht
  dsimp only at ht
  refine ⟨fun q hq0 => ⟨q, by rw [ht]; exact List.mem_append_left _ hq0, rfl⟩, ?_⟩
  intro q' hq'
  rw [ht] at hq'
  rcases List.mem_append.mp hq' with h1 | h1
  · exact Or.inl ⟨q', h1, rfl, QStep.same _ (fun _ _ _ _ _ => stay_none _)⟩
  · obtain ⟨q, hqm, rfl⟩ := List.mem_map.mp h1
    obtain ⟨hqn, hqf⟩ := List.mem_filter.mp hqm
    refine Or.inr ⟨hq q hqn, findQueue_none ?_⟩
    cases hf : s.findQueue q.path with
    | none => rfl
    | some _ => rw [hf] at hqf; cases hqf

/-- Side condition (`Op.okRes`): the new application and the new dynamic queues come without reservations. -/
theorem res_appAdd (s : Core) (a : Option CApp) (nq : List CQueue) (h : ResInv s)
    (hok : (∀ x, a = some x → x.reservations = []) ∧ (∀ q ∈ nq, q.reserved = [])) : ResInv (s.appAdd a nq) := by
  have h1 : ResInv (s.queuesAdd nq) :=
    res_apps_eq h rfl (NodesStep.keep rfl) (ResA.queuesAdd_queues s nq hok.2 rfl) (Nat.le_refl _)
  unfold appAdd
  dsimp only
  split
  · exact h1
  · rename_i x
    split
    · exact h1
    · rename_i hnew
      have hnone : s.findApp x.id = none := by
        cases hf : s.findApp x.id with
        | none => rfl
        | some _ => rw [hf] at hnew; simp at hnew
      refine ResStep.res (s := s) ⟨AppsStep.of_same ?_ ?_, NodesStep.keep rfl, ResA.queuesAdd_queues s nq hok.2 rfl,
        Nat.le_trans ?_ h.counter⟩ h
      · intro b hb _ _
        exact List.mem_append_left _ hb
      · intro b hb _
        have hb' : b ∈ s.apps ++ [_] := hb
        rcases List.mem_append.mp hb' with hb1 | hb1
        · exact Or.inl hb1
        · rw [List.mem_singleton] at hb1; subst hb1
          exact Or.inr ⟨hok.1 x rfl, hnone⟩
      · unfold resvTotal liveApps
        show (((s.apps ++ [_]).filter (fun a : CApp => a.live)).map (fun a : CApp => a.reservations.length)).sum ≤ _
        rw [List.filter_append, List.map_append, List.sum_append]
        simp [hok.1 x rfl]

/-! ### list lemmas for the queue view (`reserved`: application id ↦ count) -/

namespace ResA

/-- queue.UnReserve: the count of `app` goes down, the entry is dropped at zero -/
def decEntry (app : String) (e : String × Nat) : Option (String × Nat) :=
  if e.1 == app then (if e.2 ≤ 1 then none else some (e.1, e.2 - 1)) else some e

/-- queue.Reserve: the count of `app` goes up, a new entry starts at one -/
def bump (app : String) (l : List (String × Nat)) : List (String × Nat) :=
  if l.any (·.1 == app) then l.map (fun e => if e.1 == app then (e.1, e.2 + 1) else e) else l ++ [(app, 1)]

theorem decEntry_some {app : String} {e r : String × Nat} (h : decEntry app e = some r) :
    r.1 = e.1 ∧ (e.2 = 0 → r.2 = 0) := by
  unfold decEntry at h
  split at h
  · split at h
    · cases h
    · rename_i h2
      simp only [Option.some.injEq] at h; subst h
      exact ⟨rfl, fun h0 => absurd h0 (by omega)⟩
  · simp only [Option.some.injEq] at h; subst h
    exact ⟨rfl, fun h => h⟩

theorem keys_dec_sublist (app : String) (l : List (String × Nat)) :
    ((l.filterMap (decEntry app)).map (·.1)).Sublist (l.map (·.1)) := by
  induction l with
  | nil => exact List.Sublist.refl _
  | cons e t ih =>
    rw [List.filterMap_cons]
    cases hd : decEntry app e with
    | none => exact List.Sublist.cons _ ih
    | some r =>
      simp only [List.map_cons]
      rw [(decEntry_some hd).1]
      exact List.Sublist.cons_cons _ ih

theorem lookup_dec_other (app k : String) (l : List (String × Nat)) (hk : k ≠ app) :
    (l.filterMap (decEntry app)).lookup k = l.lookup k := by
  induction l with
  | nil => rfl
  | cons e t ih =>
    obtain ⟨e1, e2⟩ := e
    rw [List.filterMap_cons]
    by_cases he : (e1 == app) = true
    · have he' : e1 = app := by simpa using he
      have hke : (k == e1) = false := by rw [he']; simpa using hk
      by_cases h2 : e2 ≤ 1
      · have : decEntry app (e1, e2) = none := by unfold decEntry; rw [if_pos he, if_pos h2]
        rw [this, List.lookup_cons, hke]; exact ih
      · have : decEntry app (e1, e2) = some (e1, e2 - 1) := by unfold decEntry; rw [if_pos he, if_neg h2]
        rw [this]; dsimp only
        rw [List.lookup_cons, List.lookup_cons, hke]; exact ih
    · have : decEntry app (e1, e2) = some (e1, e2) := by unfold decEntry; rw [if_neg he]
      rw [this]
      dsimp only
      rw [List.lookup_cons, List.lookup_cons, ih]

theorem lookup_dec_self (app : String) (l : List (String × Nat)) (hn : (l.map (·.1)).Nodup) :
    (l.filterMap (decEntry app)).lookup app = (l.lookup app).bind (fun c => if c ≤ 1 then none else some (c - 1)) := by
  induction l with
  | nil => rfl
  | cons e t ih =>
    obtain ⟨a, w⟩ := e
    rw [List.map_cons, List.nodup_cons] at hn
    rw [List.filterMap_cons]
    by_cases ha : a = app
    · subst ha
      have hnot : a ∉ (t.filterMap (decEntry a)).map (·.1) := fun hm => hn.1 ((keys_dec_sublist a t).subset hm)
      rw [List.lookup_cons_self, Option.bind_some]
      by_cases hw : w ≤ 1
      · have : decEntry a (a, w) = none := by simp [decEntry, hw]
        rw [this, if_pos hw]
        exact lookup_none_of_not_mem _ _ hnot
      · have : decEntry a (a, w) = some (a, w - 1) := by simp [decEntry, hw]
        rw [this, if_neg hw]
        exact List.lookup_cons_self
    · have : decEntry app (a, w) = some (a, w) := by simp [decEntry, ha]
      have hia : (app == a) = false := by simpa using (Ne.symm ha)
      rw [this]
      dsimp only
      rw [List.lookup_cons, List.lookup_cons, hia]
      exact ih hn.2

theorem getD_lookup_dec_self (app : String) (l : List (String × Nat)) (hn : (l.map (·.1)).Nodup) :
    ((l.filterMap (decEntry app)).lookup app).getD 0 = (l.lookup app).getD 0 - 1 := by
  rw [lookup_dec_self app l hn]
  cases l.lookup app with
  | none => rfl
  | some c =>
    show (if c ≤ 1 then none else some (c - 1) : Option Nat).getD 0 = c - 1
    split
    · show 0 = c - 1; omega
    · rfl

theorem keys_bump (app : String) (l : List (String × Nat)) (hn : (l.map (·.1)).Nodup) : ((bump app l).map (·.1)).Nodup := by
  unfold bump
  split
  · have : (l.map (fun e : String × Nat => if e.1 == app then (e.1, e.2 + 1) else e)).map (·.1) = l.map (·.1) := by
      rw [List.map_map]
      apply List.map_congr_left
      intro e _
      dsimp only [Function.comp]
      split <;> rfl
    rw [this]; exact hn
  · rename_i hany
    rw [List.map_append, List.nodup_append]
    refine ⟨hn, by simp, ?_⟩
    intro x hx y hy
    simp only [List.map_cons, List.map_nil, List.mem_singleton] at hy
    subst hy
    intro hxy; subst hxy
    apply hany
    obtain ⟨e, he, rfl⟩ := List.mem_map.mp hx
    exact List.any_eq_true.mpr ⟨e, he, by simp⟩

theorem getD_lookup_inc (app k : String) (l : List (String × Nat)) (h : k = app → l.any (·.1 == app) = true) :
    ((l.map (fun e : String × Nat => if e.1 == app then (e.1, e.2 + 1) else e)).lookup k).getD 0 =
      (l.lookup k).getD 0 + (if k = app then 1 else 0) := by
  induction l with
  | nil =>
    by_cases hk : k = app
    · exact absurd (h hk) (by simp)
    · rw [if_neg hk]; rfl
  | cons e t ih =>
    obtain ⟨e1, e2⟩ := e
    rw [List.map_cons]
    by_cases he : e1 = app
    · subst he
      rw [if_pos (beq_self_eq_true _)]
      by_cases hk : k = e1
      · subst hk
        rw [List.lookup_cons_self, List.lookup_cons_self, if_pos rfl]; rfl
      · rw [lookup_cons_ne hk, lookup_cons_ne hk]
        exact ih (fun e => absurd e hk)
    · rw [if_neg (by simpa using he)]
      by_cases hk : k = e1
      · subst hk
        rw [List.lookup_cons_self, List.lookup_cons_self, if_neg he]; rfl
      · rw [lookup_cons_ne hk, lookup_cons_ne hk]
        refine ih (fun e => ?_)
        have := h e
        rw [List.any_cons, show ((e1, e2).1 == app) = false by simpa using he, Bool.false_or] at this
        exact this

theorem getD_lookup_bump (app k : String) (l : List (String × Nat)) :
    ((bump app l).lookup k).getD 0 = (l.lookup k).getD 0 + (if k = app then 1 else 0) := by
  unfold bump
  split
  · rename_i hany
    exact getD_lookup_inc app k l (fun _ => hany)
  · rename_i hany
    rw [List.lookup_append]
    by_cases hk : k = app
    · subst hk
      have hnot : k ∉ l.map (·.1) := by
        intro hm
        obtain ⟨e, he, rfl⟩ := List.mem_map.mp hm
        exact hany (List.any_eq_true.mpr ⟨e, he, beq_self_eq_true _⟩)
      rw [lookup_none_of_not_mem _ _ hnot, if_pos rfl, List.lookup_cons_self]; rfl
    · rw [lookup_cons_ne hk, if_neg hk]
      cases l.lookup k <;> rfl

/-! ### one reservation leaves the three views: `unreserve`, `unreserveOn`, a removed ask -/

theorem nsig_dropResvN (key node : String) (n : CNode) :
    nsig (dropResvN key node n) = (n.id, stayN (· == (key, node)) n.id n.reservations) := by
  show nsig (if (n.id == node) = true then _ else n) = (n.id, n.reservations.filter (fun k => !((k, n.id) == (key, node))))
  by_cases hd : (n.id == node) = true
  · rw [if_pos hd]
    exact congrArg (Prod.mk n.id) (List.filter_congr fun k _ => by rw [beq_iff_eq.mp hd, bne, Bool.eq_iff_iff]; simp)
  · rw [if_neg hd]
    exact congrArg (Prod.mk n.id) (List.filter_eq_self.mpr fun k _ => by simpa using fun _ => by simpa using hd).symm

/-- queue.UnReserve once, in the queue of the application: the counts -/
def decG (app queue path : String) (l : List (String × Nat)) : List (String × Nat) :=
  if (path == queue) = true then l.filterMap (decEntry app) else l

theorem qsig_decResvQ (app queue : String) (q : CQueue) :
    qsig (decResvQ app queue q) = (q.path, decG app queue q.path q.reserved) := by
  unfold decResvQ decG
  split <;> rfl

theorem qstep_decG {s : Core} {app : String} {a : CApp} {gone : String × String → Bool} (h : ResInv s)
    (hu : s.apps.Pairwise (fun a b => a.live = true → b.live = true → a.id ≠ b.id))
    (ham : a ∈ s.apps) (hl : a.live = true) (hid : a.id = app)
    (hlen : (stay gone a.reservations).length + 1 = a.reservations.length) {q : CQueue} (hq : q ∈ s.queues) :
    QStep s app gone q.path q.reserved (decG app a.queue q.path q.reserved) := by
  have hself : ∀ a' ∈ s.apps, a'.live = true → a'.id = app → a' = a := fun a' ha' hl' hid' =>
    (appIds_atMostOne app hu).eq ha' ham (by simp [hl', hid']) (by simp [hl, hid])
  unfold decG
  split
  · exact ⟨fun hn => List.Nodup.sublist (keys_dec_sublist app _) hn, fun k hk => lookup_dec_other app k _ hk,
      fun a' ha' hl' hid' _ e => by
        rw [hself a' ha' hl' hid'] at e ⊢
        rw [getD_lookup_dec_self app _ (h.queueKeys q hq), e]; omega,
      fun r hr => let ⟨e, he, hde⟩ := List.mem_filterMap.mp hr; ⟨e, he, decEntry_some hde⟩⟩
  · rename_i hp
    exact QStep.same _ (fun a' ha' hl' hid' hq' => absurd (by rw [hq', hself a' ha' hl' hid']; simp) hp)

theorem res_drop {s t : Core} {app key node : String} {a : CApp}
    (hu : s.apps.Pairwise (fun a b => a.live = true → b.live = true → a.id ≠ b.id)) (h : ResInv s)
    (ham : a ∈ s.apps) (hl : a.live = true) (hid : a.id = app) (hres : (key, node) ∈ a.reservations)
    (hta : t.apps = updApps s.apps app (fun x => { x with reservations := x.reservations.filter (· != (key, node)) }))
    (htn : t.nodes = s.nodes.map (dropResvN key node)) (htq : t.queues = s.queues.map (decResvQ app a.queue))
    (htr : s.reservations ≤ t.reservations + 1) : ResInv t := by
  have hlen := filter_ne_length' (nodup_of_map _ (h.onePerAsk a ham hl)) hres
  exact ResStep.res (gone := (· == (key, node)))
    ⟨AppsStep.of_upd hu h ham hl hid (fun r hr => by rw [beq_iff_eq.mp hr]; exact hres) hta
        ⟨rfl, rfl, rfl, fun _ _ i hi _ => ⟨i, hi, rfl, rfl, fun h => h⟩, fun hq => Or.inl hq⟩ (Or.inl hl),
      NodesStep.of_map htn (nsig_dropResvN key node),
      QueuesStep.of_map (decG app a.queue) htq (qsig_decResvQ app a.queue) (fun q hq => qstep_decG h hu ham hl hid hlen hq),
      counter_upd hu h ham hl hid hta 1 (Nat.le_of_eq hlen) htr⟩ h

end ResA

theorem res_unreserve (s : Core) (app key node : String) (hw : CoreWF s) (h : ResInv s) :
    ResInv (s.unreserve app key node) := by
  cases hfind : s.findApp app with
  | none => simp only [unreserve, hfind]; exact h
  | some a =>
    cases hc : a.reservations.contains (key, node) with
    | false => simp only [unreserve, hfind, hc, Bool.not_false, if_true]; exact h
    | true =>
      obtain ⟨ham, hl, hid⟩ := findApp_some hfind
      simp only [unreserve, hfind, hc, Bool.not_true, Bool.false_eq_true, if_false]
      exact ResA.res_drop hw.appIds h ham hl hid (by simpa using hc) rfl rfl rfl (by show s.reservations ≤ s.reservations - 1 + 1; omega)

/-! ### a reservation enters the three views: `reserve` -/

namespace ResA

def addA (app key node : String) (x : CApp) : List (String × String) :=
  if (x.live && x.id == app) = true then x.reservations ++ [(key, node)] else x.reservations

def addN (key node : String) (n : CNode) : List String :=
  if (n.id == node) = true then n.reservations ++ [key] else n.reservations

def addQ (app queue : String) (q : CQueue) : List (String × Nat) :=
  if (q.path == queue) = true then bump app q.reserved else q.reserved

theorem mem_addA {app key node : String} {x : CApp} {r : String × String} :
    r ∈ addA app key node x ↔ r ∈ x.reservations ∨ ((x.live && x.id == app) = true ∧ r = (key, node)) := by
  unfold addA
  split
  · rename_i hc; simp [hc]
  · rename_i hc; simp [hc]

theorem mem_addN {key node : String} {n : CNode} {k : String} :
    k ∈ addN key node n ↔ k ∈ n.reservations ∨ (n.id = node ∧ k = key) := by
  unfold addN
  split
  · rename_i hc
    have : n.id = node := by simpa using hc
    simp [this]
  · rename_i hc
    have : n.id ≠ node := by simpa using hc
    simp [this]

theorem mem_bump {app : String} {l : List (String × Nat)} {r : String × Nat} (h : r ∈ bump app l) : r.1 = app ∨ r ∈ l := by
  unfold bump at h
  split at h
  · obtain ⟨e, he, rfl⟩ := List.mem_map.mp h
    by_cases hc : (e.1 == app) = true
    · rw [if_pos hc]; left; simpa using hc
    · rw [if_neg hc]; exact Or.inr he
  · rcases List.mem_append.mp h with h1 | h1
    · exact Or.inr h1
    · rw [List.mem_singleton] at h1; subst h1; exact Or.inl rfl

/-- `ResStep` only lets reservations leave, so this step goes through the clauses of `ResInv` on its own. -/
theorem res_add {s t : Core} {app key node : String} {a : CApp} (hw : CoreWF s) (hlife : LifeInv s) (h : ResInv s)
    (hfind : s.findApp app = some a) (hok : ReserveOK s app key node) (hnot : ∀ r ∈ a.reservations, r.1 ≠ key)
    (hta : t.apps = updApps s.apps app (fun x => { x with reservations := x.reservations ++ [(key, node)] }))
    (htn : t.nodes = updNs s.nodes node (fun n => { n with reservations := n.reservations ++ [key] }))
    (htq : t.queues = s.queues.map (fun q =>
      if (q.path == a.queue) = true then { q with reserved := bump app q.reserved } else q))
    (htr : t.reservations = s.reservations + 1) : ResInv t := by
  obtain ⟨ham, hl, hid⟩ := findApp_some hfind
  obtain ⟨hnf, hnc, hitem0, hqs⟩ := hok.appState a hfind
  obtain ⟨n, hn, hkn, hfree⟩ := hok.nodeFree a hfind
  obtain ⟨hnm, hnid⟩ := findNode_some hn
  -- every record keeps all its fields but the reservation list
  have hta' : t.apps = s.apps.map (fun x => { x with reservations := addA app key node x }) :=
    hta.trans (List.map_congr_left fun x _ => by unfold addA; split <;> rfl)
  have htn' : t.nodes = s.nodes.map (fun n => { n with reservations := addN key node n }) :=
    htn.trans (List.map_congr_left fun n _ => by unfold addN; split <;> rfl)
  have htq' : t.queues = s.queues.map (fun q => { q with reserved := addQ app a.queue q }) :=
    htq.trans (List.map_congr_left fun q _ => by unfold addQ; split <;> rfl)
  have hfn := findNode_of_map (s := s) (t := t) (fun n => { n with reservations := addN key node n }) (fun _ => rfl) htn'
  have himg : ∀ x ∈ s.apps, ({ x with reservations := addA app key node x } : CApp) ∈ t.apps := by
    intro x hx; rw [hta']; exact List.mem_map.mpr ⟨x, hx, rfl⟩
  have hca : (a.live && a.id == app) = true := by rw [hl, hid, beq_self_eq_true]; rfl
  have hself : ∀ x ∈ s.apps, (x.live && x.id == app) = true → x = a := fun x hx hc =>
    (appIds_atMostOne app hw.appIds).eq hx ham hc hca
  have hnew : (key, node) ∈ addA app key node a := mem_addA.mpr (Or.inr ⟨hca, rfl⟩)
  have hnode : ∀ m ∈ s.nodes, m.id = node → m = n := fun m hm hmid => findNode_eq hw hn hm hmid
  have hfresh : ∀ x ∈ s.apps, x.live = true → (key, node) ∉ x.reservations := by
    intro x hx hxl hm
    obtain ⟨n', hn', hk'⟩ := h.appNode x hx hxl _ hm
    rw [hn] at hn'
    exact hkn (Option.some.inj hn' ▸ hk')
  refine { appNode := ?_, outstanding := ?_, onePerAsk := ?_, nodeApp := ?_, nodeKeys := ?_, owner := ?_,
           queueCount := ?_, queueKeys := ?_, queueApp := ?_, counter := ?_, nodeExcl := ?_, quiet := ?_ }
  · intro b hb hbl r hr
    rw [hta'] at hb
    obtain ⟨x, hx, rfl⟩ := List.mem_map.mp hb
    rcases mem_addA.mp hr with h1 | ⟨_, rfl⟩
    · obtain ⟨n0, hn0, hrn⟩ := h.appNode x hx hbl r h1
      exact ⟨_, by rw [hfn, hn0]; rfl, mem_addN.mpr (Or.inl hrn)⟩
    · exact ⟨_, by rw [hfn, hn]; rfl, mem_addN.mpr (Or.inr ⟨hnid, rfl⟩)⟩
  · intro b hb hbl r hr
    rw [hta'] at hb
    obtain ⟨x, hx, rfl⟩ := List.mem_map.mp hb
    rcases mem_addA.mp hr with h1 | ⟨hc, rfl⟩
    · exact h.outstanding x hx hbl r h1
    · obtain rfl := hself x hx hc
      exact hitem0
  · intro b hb hbl
    rw [hta'] at hb
    obtain ⟨x, hx, rfl⟩ := List.mem_map.mp hb
    show ((addA app key node x).map (·.1)).Nodup
    unfold addA
    split
    · rename_i hc
      obtain rfl := hself x hx hc
      rw [List.map_append]
      refine pairwise_snoc id _ _ (h.onePerAsk x hx hbl) (fun k hm => ?_)
      obtain ⟨r, hr, hrk⟩ := List.mem_map.mp hm
      exact hrk ▸ hnot r hr
    · exact h.onePerAsk x hx hbl
  · intro m hm k hk
    rw [htn'] at hm
    obtain ⟨n0, hn0, rfl⟩ := List.mem_map.mp hm
    rcases mem_addN.mp hk with h1 | ⟨h1, rfl⟩
    · obtain ⟨a0, ha0, hal0, har0⟩ := h.nodeApp n0 hn0 k h1
      exact ⟨_, himg a0 ha0, hal0, mem_addA.mpr (Or.inl har0)⟩
    · refine ⟨_, himg a ham, hl, ?_⟩
      show (k, n0.id) ∈ addA app k node a
      rw [h1]; exact hnew
  · intro m hm
    rw [htn'] at hm
    obtain ⟨n0, hn0, rfl⟩ := List.mem_map.mp hm
    show (addN key node n0).Nodup
    unfold addN
    split
    · rename_i hc
      obtain rfl := hnode n0 hn0 (by simpa using hc)
      exact pairwise_snoc id _ _ (h.nodeKeys n0 hn0) (fun k hk (e : k = key) => hkn (e ▸ hk))
    · exact h.nodeKeys n0 hn0
  · intro b1 hb1 b2 hb2 hl1 hl2 r hr1 hr2
    rw [hta'] at hb1 hb2
    obtain ⟨x1, hx1, rfl⟩ := List.mem_map.mp hb1
    obtain ⟨x2, hx2, rfl⟩ := List.mem_map.mp hb2
    show x1.id = x2.id
    rcases mem_addA.mp hr1 with h1 | ⟨hc1, h1⟩
    · rcases mem_addA.mp hr2 with h2 | ⟨_, h2⟩
      · exact h.owner x1 hx1 x2 hx2 hl1 hl2 r h1 h2
      · exact absurd (h2 ▸ h1) (hfresh x1 hx1 hl1)
    · rcases mem_addA.mp hr2 with h2 | ⟨hc2, _⟩
      · exact absurd (h1 ▸ h2) (hfresh x2 hx2 hl2)
      · rw [hself x1 hx1 hc1, hself x2 hx2 hc2]
  · intro b hb hbl
    rw [hta'] at hb
    obtain ⟨x, hx, rfl⟩ := List.mem_map.mp hb
    refine (queueCount_iff t _).mpr ⟨?_, ?_⟩
    · intro hno
      have hsn : ∀ q ∈ s.queues, q.path ≠ x.queue := fun q hq =>
        hno { q with reserved := addQ app a.queue q } (htq' ▸ List.mem_map.mpr ⟨q, hq, rfl⟩)
      show addA app key node x = []
      unfold addA
      split
      · rename_i hc
        rw [hself x hx hc] at hsn
        obtain ⟨q0, hq0⟩ := Option.isSome_iff_exists.mp hqs
        exact absurd (findQueue_some_mem hq0).2 (hsn q0 (findQueue_some_mem hq0).1)
      · exact qc_none h hx hbl hsn
    · intro q' hq' hp
      rw [htq'] at hq'
      obtain ⟨q0, hq0, rfl⟩ := List.mem_map.mp hq'
      have hold := qc_some h hx hbl hq0 hp
      show ((addQ app a.queue q0).lookup x.id).getD 0 = (addA app key node x).length
      by_cases hc : (x.live && x.id == app) = true
      · obtain rfl := hself x hx hc
        have e1 : addQ app x.queue q0 = bump app q0.reserved := if_pos (by simpa using hp)
        have e2 : addA app key node x = x.reservations ++ [(key, node)] := if_pos hc
        rw [e1, e2, hid, getD_lookup_bump app app, if_pos rfl, ← hid, hold, List.length_append]; rfl
      · have e2 : addA app key node x = x.reservations := if_neg hc
        have hne : x.id ≠ app := fun e => hc (by rw [show x.live = true from hbl, e, beq_self_eq_true]; rfl)
        rw [e2, ← hold]
        unfold addQ
        split
        · rw [getD_lookup_bump app x.id, if_neg hne]; rfl
        · rfl
  · intro q' hq'
    rw [htq'] at hq'
    obtain ⟨q0, hq0, rfl⟩ := List.mem_map.mp hq'
    show ((addQ app a.queue q0).map (·.1)).Nodup
    unfold addQ
    split
    · exact keys_bump app q0.reserved (h.queueKeys q0 hq0)
    · exact h.queueKeys q0 hq0
  · intro q' hq' r hr
    rw [htq'] at hq'
    obtain ⟨q0, hq0, rfl⟩ := List.mem_map.mp hq'
    have hfrom : r ∈ q0.reserved → r.2 = 0 ∨ ∃ b ∈ t.apps, b.live = true ∧ b.id = r.1 ∧ b.queue = q0.path := by
      intro he
      rcases h.queueApp q0 hq0 r he with h0 | ⟨a0, ha0, hal0, hid0, hq0'⟩
      · exact Or.inl h0
      · exact Or.inr ⟨_, himg a0 ha0, hal0, hid0, hq0'⟩
    have hr' : r ∈ addQ app a.queue q0 := hr
    unfold addQ at hr'
    split at hr'
    · rename_i hq
      rcases mem_bump hr' with h1 | h1
      · exact Or.inr ⟨_, himg a ham, hl, hid.trans h1.symm, by simpa using Eq.symm (by simpa using hq)⟩
      · exact hfrom h1
    · exact hfrom hr'
  · have hc := resvTotal_upd hw.appIds _ ham hl hid hta
    have h1 : rcount a = a.reservations.length := if_pos hl
    have h2 : rcount { a with reservations := a.reservations ++ [(key, node)] } =
        (a.reservations ++ [(key, node)]).length := if_pos hl
    rw [List.length_append] at h2
    have h3 : [(key, node)].length = 1 := rfl
    have := h.counter
    omega
  · intro m hm
    rw [htn'] at hm
    obtain ⟨n0, hn0, rfl⟩ := List.mem_map.mp hm
    -- what the old reservations of a shared node say carries over
    have hold : (∀ k ∈ n0.reservations, ∃ a ∈ s.apps, a.live = true ∧ (k, n0.id) ∈ a.reservations ∧
          ∃ i ∈ a.items, i.key = k ∧ i.reqNode = n0.id) →
        ∀ k ∈ n0.reservations, ∃ b ∈ t.apps, b.live = true ∧ (k, n0.id) ∈ b.reservations ∧
          ∃ i ∈ b.items, i.key = k ∧ i.reqNode = n0.id := by
      intro h2 k hk
      obtain ⟨a0, ha0, hal0, har0, hitem⟩ := h2 k hk
      exact ⟨_, himg a0 ha0, hal0, mem_addA.mpr (Or.inl har0), hitem⟩
    show (addN key node n0).length ≤ 1 ∨ ∀ k ∈ addN key node n0, ∃ b ∈ t.apps, b.live = true ∧
      (k, n0.id) ∈ b.reservations ∧ ∃ i ∈ b.items, i.key = k ∧ i.reqNode = n0.id
    unfold addN
    split
    · rename_i hc
      obtain rfl := hnode n0 hn0 (by simpa using hc)
      rcases hfree with h1 | ⟨⟨i, hi, hik, hin⟩, hall⟩
      · left; rw [h1]; exact Nat.le_refl _
      · right
        intro k hk
        rcases List.mem_append.mp hk with h1 | h1
        · exact hold hall k h1
        · rw [List.mem_singleton] at h1; subst h1
          exact ⟨_, himg a ham, hl, hnid ▸ hnew, i, hi, hik, hin.trans hnid.symm⟩
    · rcases h.nodeExcl n0 hn0 with h1 | h2
      · exact Or.inl h1
      · exact Or.inr (hold h2)
  · intro b hb hbl hst
    rw [hta'] at hb
    obtain ⟨x, hx, rfl⟩ := List.mem_map.mp hb
    show addA app key node x = []
    unfold addA
    split
    · rename_i hc
      obtain rfl := hself x hx hc
      rcases hst with h1 | h1 | h1
      · exact absurd h1 hnf
      · exact absurd h1 hnc
      · rw [hlife.termGone x ham hl] at h1; cases h1
    · exact h.quiet x hx hbl hst

end ResA

/-- Side condition `ReserveOK` (Core2Res.lean): the ask is outstanding, its application is neither Failing nor Completing
    and has its queue, the node is registered, does not list the ask yet, and is free or shared by required-node asks. -/
theorem res_reserve (s : Core) (app key node : String) (hw : CoreWF s) (hlife : LifeInv s) (h : ResInv s)
    (hok : ReserveOK s app key node) : ResInv (s.reserve app key node) := by
  cases hfind : s.findApp app with
  | none => simp only [reserve, hfind]; exact h
  | some a =>
    cases hc : a.reservations.any (·.1 == key) with
    | true => simp only [reserve, hfind, hc, if_true]; exact h
    | false =>
      simp only [reserve, hfind, hc, Bool.false_eq_true, if_false]
      refine ResA.res_add hw hlife h hfind hok ?_ rfl rfl rfl rfl
      intro r hr he
      have := List.any_eq_false.mp hc r hr
      exact this (by simpa using he)

end Yk
