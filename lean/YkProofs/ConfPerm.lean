/-
  C15, map order (whole validator): `validate` gives the same verdict and the same error class for two configurations
  that differ only in the order of the entries of their map-typed fields (resource maps of queues, limits and child
  templates, properties, resource weights).  First: resources that give the same quantity to every type are
  interchangeable in every operation the validator applies to them; then the validator itself.
-/
import YkProofs.ConfOrder
namespace Yk.Conf
open Yk Yk.Res

/-! ### resources that are the same map are interchangeable in every operation of the validator -/

/-- two resources that are the same map: well-formed (unique keys) and the same quantity for every type -/
structure REq (r r' : Res) : Prop where
  wl : wf r = true
  wr : wf r' = true
  eq : ∀ k, r.get? k = r'.get? k

theorem REq.refl {r : Res} (h : wf r = true) : REq r r := ⟨h, h, fun _ => rfl⟩

def OREq (p p' : ORes) : Prop :=
  match p, p' with
  | none, none => True
  | some r, some r' => REq r r'
  | _, _ => False

theorem OREq.oget {p p' : ORes} (h : OREq p p') (k : String) : oget p k = oget p' k := by
  cases p <;> cases p' <;> simp only [OREq] at h
  · rfl
  · exact h.eq k

theorem OREq.wf {p p' : ORes} (h : OREq p p') : wf (orZero p) = true ∧ wf (orZero p') = true := by
  cases p <;> cases p' <;> simp only [OREq] at h
  · exact ⟨rfl, rfl⟩
  · exact ⟨h.wl, h.wr⟩

theorem OREq.of_oget {p p' : ORes} (hs : p.isSome = p'.isSome) (w : Res.wf (orZero p) = true) (w' : Res.wf (orZero p') = true)
    (e : ∀ k, Conf.oget p k = Conf.oget p' k) : OREq p p' := by
  cases p <;> cases p' <;> simp at hs
  · trivial
  · exact ⟨w, w', e⟩

theorem OREq.orZero {p p' : ORes} (h : OREq p p') : REq (orZero p) (orZero p') := by
  cases p <;> cases p' <;> simp only [OREq] at h
  · exact REq.refl rfl
  · exact h

theorem fit_congr {p p' : ORes} {c c' : Res} (hp : OREq p p') (hc : REq c c') :
    fitInMaxUndef p (some c) = fitInMaxUndef p' (some c') :=
  fit_ext hc.wl hc.wr hp.oget hc.eq

theorem cwMin_congr {l l' : Res} {p p' : ORes} (hl : REq l l') (hp : OREq p p') :
    OREq (componentWiseMin (some l) p) (componentWiseMin (some l') p') := by
  cases p <;> cases p' <;> simp only [OREq] at hp
  · exact hl
  · rename_i r r'
    refine OREq.of_oget rfl (cwm_wf_orZero (l := some l) (r := some r) hl.wl hp.wl)
      (cwm_wf_orZero (l := some l') (r := some r') hl.wr hp.wr) fun k => ?_
    unfold oget
    rw [cwm_get? l r hl.wl hp.wl, cwm_get? l' r' hl.wr hp.wr, hl.eq, hp.eq]

theorem getD_of_REq {r r' : Res} (h : REq r r') (k : String) : r.getD k = r'.getD k := by
  rw [getD_eq_get?, getD_eq_get?, h.eq k]
theorem has_of_REq {r r' : Res} (h : REq r r') (k : String) : r.has k = r'.has k := by
  rw [has_eq_get?, has_eq_get?, h.eq k]

theorem get?_eq_has_getD (r : Res) (k : String) : r.get? k = if r.has k then some (r.getD k) else none := by
  rw [has_eq_get?, getD_eq_get?]; cases r.get? k <;> rfl

theorem add_congr {a a' c c' : Res} (ha : REq a a') (hc : REq c c') :
    REq (add (some a) (some c)) (add (some a') (some c')) := by
  refine ⟨add_wf ha.wl, add_wf ha.wr, ?_⟩
  intro k
  rw [get?_eq_has_getD, get?_eq_has_getD, add_has, add_has, add_getD a c hc.wl, add_getD a' c' hc.wr,
    has_of_REq ha, has_of_REq hc, getD_of_REq ha, getD_of_REq hc]

theorem all_vals_iff {r : Res} (hw : wf r = true) (P : Int → Bool) :
    r.all (fun p => P p.2) = true ↔ ∀ k v, r.get? k = some v → P v = true := by
  simp only [List.all_eq_true]
  constructor
  · intro h k v hg; exact h (k, v) (mem_of_get? hg)
  · intro h p hp; exact h p.1 p.2 (get?_of_mem hw hp)

theorem all_vals_congr {r r' : Res} (h : REq r r') (P : Int → Bool) :
    r.all (fun p => P p.2) = r'.all (fun p => P p.2) := by
  rw [Bool.eq_iff_iff, all_vals_iff h.wl, all_vals_iff h.wr]
  simp only [h.eq]

theorem any_vals_congr {r r' : Res} (h : REq r r') (P : Int → Bool) :
    r.any (fun p => P p.2) = r'.any (fun p => P p.2) := by
  simp only [List.any_eq_not_all_not]
  rw [all_vals_congr h (fun v => !P v)]

theorem isZero_congr {g g' : Res} (h : REq g g') : isZero (some g) = isZero (some g') :=
  all_vals_congr h (fun v => v == 0)

theorem sgtz_congr {r r' : Res} (h : REq r r') :
    strictlyGreaterThanZero (some r) = strictlyGreaterThanZero (some r') := by
  simp only [strictlyGreaterThanZero, any_vals_congr h (fun v => decide (v < 0)), any_vals_congr h (fun v => decide (v > 0))]

/-! ### configurations that differ in the order of map entries -/

def SRel (a b : Option SMap) : Prop := a.isSome = b.isSome ∧ (a.getD []).Perm (b.getD [])

/-- the entries of the map have pairwise different keys (it is a Go map) -/
def KeysOK (a : Option SMap) : Prop := ((a.getD []).map Prod.fst).Nodup

theorem SRel.refl (a : Option SMap) : SRel a a := ⟨rfl, List.Perm.refl _⟩

theorem KeysOK.of_rel {a b : Option SMap} (h : SRel a b) (k : KeysOK a) : KeysOK b :=
  ((h.2.map Prod.fst).nodup_iff).mp k

theorem parse_congr {a b : Option SMap} (h : SRel a b) (k : KeysOK a) : VRel REq (parseConf a) (parseConf b) := by
  unfold parseConf
  rcases (parseConfL_perm h.2 k [] [] fun _ => rfl).cases with ⟨e, h1, h2⟩ | ⟨r, r', h1, h2, hr⟩ <;> rw [h1, h2]
  · rfl
  · exact ⟨parseConf_wf (m := a) h1, parseConf_wf (m := b) h2, hr⟩

theorem mapLen_congr {a b : Option SMap} (h : SRel a b) : mapLen a = mapLen b := h.2.length_eq

structure LRel (l l' : Limit) : Prop where
  label : l.label = l'.label
  users : l.users = l'.users
  groups : l.groups = l'.groups
  maxApps : l.maxApps = l'.maxApps
  res : SRel l.maxRes l'.maxRes

def LsRel : List Limit → List Limit → Prop
  | [], [] => True
  | a :: t, b :: u => LRel a b ∧ LsRel t u
  | _, _ => False

def LsKeys (ls : List Limit) : Prop := ∀ l ∈ ls, KeysOK l.maxRes

structure DRel (d d' : QD) : Prop where
  name : d.name = d'.name
  parent : d.parent = d'.parent
  maxApps : d.maxApps = d'.maxApps
  adminACL : d.adminACL = d'.adminACL
  submitACL : d.submitACL = d'.submitACL
  g : SRel d.g d'.g
  m : SRel d.m d'.m
  props : SRel d.props d'.props
  tmplApps : d.tmpl.maxApps = d'.tmpl.maxApps
  tmplProps : SRel d.tmpl.props d'.tmpl.props
  tmplG : SRel d.tmpl.g d'.tmpl.g
  tmplM : SRel d.tmpl.m d'.tmpl.m
  limits : LsRel d.limits d'.limits

structure DKeys (d : QD) : Prop where
  g : KeysOK d.g
  m : KeysOK d.m
  limits : LsKeys d.limits

theorem limitResOf_congr {l l' : Limit} (h : LRel l l') (k : KeysOK l.maxRes) : VRel REq (limitResOf l) (limitResOf l') := by
  unfold limitResOf
  rw [← mapLen_congr h.res]
  simp only [throw_bind]
  split
  · refine (parse_congr h.res k).bind fun r r' hr => ?_
    rw [sgtz_congr hr]
    exact VRel.ite_error hr
  · exact REq.refl rfl

theorem checkLimit_congr {l l' : Limit} {q q' : QD} (su sg : List String) (hl : LRel l l') (kl : KeysOK l.maxRes)
    (hn : q.name = q'.name) (ha : q.maxApps = q'.maxApps) (hm : SRel q.m q'.m) (km : KeysOK q.m) :
    checkLimit l su sg q = checkLimit l' su sg q' := by
  apply VRel.eq
  rw [checkLimit_eq, checkLimit_eq, ← hl.users, ← hl.groups, ← hl.maxApps, ← hn, ← ha, ← mapLen_congr hl.res]
  refine VRel.ite_error (VRel.bind_eq rfl fun su => VRel.bind_eq rfl fun sg => VRel.ite_error ?_)
  refine (limitResOf_congr hl kl).bind fun r r' hr => VRel.ite_error (VRel.ite_error ?_)
  cases q.name != "root"
  · exact VRel.of_eq rfl
  · rcases (parse_congr hm km).cases with ⟨e, h2, h2'⟩ | ⟨m, m', h2, h2', hm'⟩ <;> simp only [h2, h2', if_true]
    · exact VRel.error _
    · rw [fit_congr (p := some m) (p' := some m') hm' hr]
      exact VRel.of_eq rfl

theorem LsRel.nil_inv {ls' : List Limit} (h : LsRel [] ls') : ls' = [] := by
  cases ls' with
  | nil => rfl
  | cons _ _ => exact absurd h id

theorem LsRel.cons_inv {l : Limit} {t ls' : List Limit} (h : LsRel (l :: t) ls') :
    ∃ l' t', ls' = l' :: t' ∧ LRel l l' ∧ LsRel t t' := by
  cases ls' with
  | nil => exact absurd h id
  | cons l' t' => exact ⟨l', t', rfl, h⟩

theorem LsKeys.tail {l : Limit} {t : List Limit} (k : LsKeys (l :: t)) : LsKeys t :=
  fun x hx => k x (List.mem_cons_of_mem _ hx)

theorem checkLimitsL_congr {q q' : QD} (hn : q.name = q'.name) (ha : q.maxApps = q'.maxApps) (hm : SRel q.m q'.m)
    (km : KeysOK q.m) (ls : List Limit) : ∀ {ls' : List Limit} (su sg : List String), LsRel ls ls' → LsKeys ls →
    checkLimitsL ls su sg q = checkLimitsL ls' su sg q' := by
  induction ls with
  | nil => intro _ _ _ h _; rw [h.nil_inv]; rfl
  | cons l t ih =>
    intro _ su sg h k
    obtain ⟨l', t', rfl, hl, ht⟩ := h.cons_inv
    unfold checkLimitsL
    rw [checkLimit_congr su sg hl (k l List.mem_cons_self) hn ha hm km]
    exact bind_congr fun r => ih r.1 r.2 ht k.tail

mutual
def QRel : QC → QC → Prop
  | .mk d qs, .mk d' qs' => DRel d d' ∧ QLRel qs qs'
def QLRel : List QC → List QC → Prop
  | [], [] => True
  | q :: t, q' :: t' => QRel q q' ∧ QLRel t t'
  | [], _ :: _ => False
  | _ :: _, [] => False
end

mutual
def QKeys : QC → Prop
  | .mk d qs => DKeys d ∧ QLKeys qs
def QLKeys : List QC → Prop
  | [] => True
  | q :: t => QKeys q ∧ QLKeys t
end

theorem QRel.d {q q' : QC} (h : QRel q q') : DRel q.d q'.d := by
  cases q; cases q'; unfold QRel at h; exact h.1
theorem QRel.qs {q q' : QC} (h : QRel q q') : QLRel q.qs q'.qs := by
  cases q; cases q'; unfold QRel at h; exact h.2
theorem QKeys.d {q : QC} (h : QKeys q) : DKeys q.d := by
  cases q; unfold QKeys at h; exact h.1
theorem QKeys.qs {q : QC} (h : QKeys q) : QLKeys q.qs := by
  cases q; unfold QKeys at h; exact h.2

theorem QLRel.nil_inv {qs' : List QC} (h : QLRel [] qs') : qs' = [] := by
  cases qs' with
  | nil => rfl
  | cons _ _ => unfold QLRel at h; exact absurd h id

theorem QLRel.cons_inv {q : QC} {t qs' : List QC} (h : QLRel (q :: t) qs') :
    ∃ q' t', qs' = q' :: t' ∧ QRel q q' ∧ QLRel t t' := by
  cases qs' with
  | nil => unfold QLRel at h; exact absurd h id
  | cons q' t' => unfold QLRel at h; exact ⟨q', t', rfl, h⟩

theorem checkNames_congr : ∀ (qs qs' : List QC) (seen : List String), QLRel qs qs' → checkNames qs seen = checkNames qs' seen
  | [], _, _, h => by rw [h.nil_inv]
  | c :: t, _, seen, h => by
    obtain ⟨c', t', rfl, hc, ht⟩ := h.cons_inv
    unfold checkNames
    rw [← hc.d.name, checkNames_congr t t' _ ht]

mutual
theorem checkQueues_congr : ∀ (q q' : QC), QRel q q' → QKeys q → checkQueues q = checkQueues q'
  | .mk d qs, .mk d' qs', h, k => by
    unfold QRel at h; unfold QKeys at k
    unfold checkQueues checkLimits
    rw [← h.1.adminACL, ← h.1.submitACL,
      checkLimitsL_congr h.1.name h.1.maxApps h.1.m k.1.m d.limits [] [] h.1.limits k.1.limits,
      checkNames_congr qs qs' [] h.2, checkQueuesL_congr qs qs' h.2 k.2]
theorem checkQueuesL_congr : ∀ (qs qs' : List QC), QLRel qs qs' → QLKeys qs → checkQueuesL qs = checkQueuesL qs'
  | [], _, h, _ => by rw [h.nil_inv]
  | q :: t, _, h, k => by
    obtain ⟨q', t', rfl, hq, ht⟩ := h.cons_inv
    unfold QLKeys at k
    unfold checkQueuesL
    rw [checkQueues_congr q q' hq k.1, checkQueuesL_congr t t' ht k.2]
end

theorem crc_congr {d d' : QD} (h : DRel d d') (k : DKeys d) :
    VRel (fun (a b : Res × Res) => REq a.1 b.1 ∧ REq a.2 b.2) (checkResourceConfig d) (checkResourceConfig d') := by
  unfold checkResourceConfig
  simp only [throw_bind]
  refine (parse_congr h.g k.g).bind fun g g' hg => (parse_congr h.m k.m).bind fun m m' hm => ?_
  rw [fit_congr (p := some m) (p' := some m') hm hg]
  exact VRel.ite_error ⟨hg, hm⟩

mutual
theorem cqr_congr : ∀ (q q' : QC) (pm pm' : ORes), QRel q q' → QKeys q → OREq pm pm' →
    VRel REq (checkQueueResource q pm) (checkQueueResource q' pm')
  | .mk d qs, .mk d' qs', pm, pm', h, k, hp => by
    unfold QRel at h; unfold QKeys at k
    unfold checkQueueResource
    simp only [throw_bind]
    refine (crc_congr h.1 k.1).bind fun ⟨g, m⟩ ⟨g', m'⟩ ⟨hg, hm⟩ => ?_
    simp only at hg hm ⊢
    have hc := cwMin_congr hm hp
    rw [fit_congr hp hm]
    refine VRel.ite_error ((cqrL_congr qs qs' _ _ [] [] h.2 k.2 hc (REq.refl rfl)).bind fun s s' hs => ?_)
    rw [fit_congr (p := some g) (p' := some g') hg hs, fit_congr hc hs, isZero_congr hg]
    refine VRel.ite_error (VRel.ite_error ?_)
    cases isZero (some g')
    · exact hg
    · exact hs
theorem cqrL_congr : ∀ (qs qs' : List QC) (pm pm' : ORes) (acc acc' : Res), QLRel qs qs' → QLKeys qs → OREq pm pm' → REq acc acc' →
    VRel REq (checkQueueResourceL qs pm acc) (checkQueueResourceL qs' pm' acc')
  | [], _, _, _, _, _, h, _, _, ha => by rw [h.nil_inv]; exact ha
  | q :: t, _, pm, pm', acc, acc', h, k, hp, ha => by
    obtain ⟨q', t', rfl, hq, ht⟩ := h.cons_inv
    unfold QLKeys at k
    unfold checkQueueResourceL
    exact (cqr_congr q q' pm pm' hq k.1 hp).bind fun c c' hc => cqrL_congr t t' pm pm' _ _ ht k.2 hp (add_congr ha hc)
end

/-! ### placement rules and max applications only look at names, flags and shapes -/

theorem QLRel.isEmpty : ∀ {l l' : List QC}, QLRel l l' → l.isEmpty = l'.isEmpty
  | [], _, h => by rw [h.nil_inv]
  | _ :: _, _, h => by obtain ⟨_, _, rfl, _⟩ := h.cons_inv; rfl

theorem find_congr (n : String) (l : List QC) : ∀ {l' : List QC}, QLRel l l' →
    (l.find? (fun q => q.d.name == n) = none ∧ l'.find? (fun q => q.d.name == n) = none) ∨
    ∃ c c', l.find? (fun q => q.d.name == n) = some c ∧ l'.find? (fun q => q.d.name == n) = some c' ∧ QRel c c' := by
  induction l with
  | nil => intro _ h; rw [h.nil_inv]; exact .inl ⟨rfl, rfl⟩
  | cons q t ih =>
    intro _ h
    obtain ⟨q', t', rfl, hq, ht⟩ := h.cons_inv
    simp only [List.find?_cons, ← hq.d.name]
    cases q.d.name == n with
    | true => exact .inr ⟨q, q', rfl, rfl, hq⟩
    | false => exact ih ht

theorem hierarchy_congr (create dyn : Bool) (path : List String) : ∀ {conf conf' : List QC} {pd pd' : Option QD},
    QLRel conf conf' → pd.map (·.parent) = pd'.map (·.parent) →
    hierarchy path create dyn conf pd = hierarchy path create dyn conf' pd' := by
  induction path with
  | nil => intros; rfl
  | cons n rest ih =>
    intro conf conf' pd pd' h hp
    unfold hierarchy
    rw [← h.isEmpty]
    congr 1
    · cases pd <;> cases pd' <;> simp at hp
      · rfl
      · simp [hp]
    · rcases find_congr n conf h with ⟨e1, e2⟩ | ⟨c, c', e1, e2, hc⟩ <;> rw [e1, e2]
      simp only [hc.d.parent]
      congr 1
      exact ih hc.qs (congrArg some hc.d.parent)

theorem checkStaticPaths_congr : ∀ (paths : List StaticPath) (qs qs' : List QC), QLRel qs qs' →
    checkStaticPaths paths qs = checkStaticPaths paths qs'
  | [], _, _, _ => rfl
  | sp :: t, qs, qs', h => by
    unfold checkStaticPaths
    rw [hierarchy_congr sp.create sp.dynamic _ h rfl, checkStaticPaths_congr t qs qs' h]

theorem checkPlacementRules_congr (rules : List Rule) (qs qs' : List QC) (h : QLRel qs qs') :
    checkPlacementRules rules qs = checkPlacementRules rules qs' := by
  unfold checkPlacementRules
  split
  · rfl
  · exact bind_congr fun _ => bind_congr fun paths => checkStaticPaths_congr paths qs qs' h

mutual
theorem cqma_congr : ∀ (q q' : QC), QRel q q' → checkQueueMaxApps q = checkQueueMaxApps q'
  | .mk d qs, .mk d' qs', h => by
    unfold QRel at h
    unfold checkQueueMaxApps
    rw [← h.1.maxApps]; exact cqmaL_congr qs qs' d.maxApps h.2
theorem cqmaL_congr : ∀ (qs qs' : List QC) (cur : Nat), QLRel qs qs' → checkQueueMaxAppsL qs cur = checkQueueMaxAppsL qs' cur
  | [], _, _, h => by rw [h.nil_inv]
  | c :: t, _, cur, h => by
    obtain ⟨c', t', rfl, hc, ht⟩ := h.cons_inv
    unfold checkQueueMaxAppsL
    rw [← hc.d.maxApps, cqma_congr c c' hc, cqmaL_congr t t' cur ht]
end

/-! ### the limit loops, for any value domain whose operations respect a relation on the values -/

structure DomCongr {α : Type} (D : LimDom α) where
  VR : α → α → Prop
  val : ∀ l l', LRel l l' → KeysOK l.maxRes → VRel VR (D.val l) (D.val l')
  check : ∀ ex ex' lim lim', VR ex ex' → VR lim lim' → D.check ex lim = D.check ex' lim'
  comb : ∀ lim lim' ex ex', VR lim lim' → VR ex ex' → VR (D.comb lim ex) (D.comb lim' ex')

section limcongr
variable {α : Type} (D : LimDom α) (C : DomCongr D)

def MRel (m m' : LMap α) : Prop :=
  ∀ n, match m.lookup n, m'.lookup n with
    | none, none => True
    | some a, some b => C.VR a b
    | _, _ => False

theorem MRel.aset {m m' : LMap α} (h : MRel D C m m') (k : String) {v v' : α} (hv : C.VR v v') :
    MRel D C (aset m k v) (aset m' k v') := by
  intro n
  rw [lookup_aset, lookup_aset]
  by_cases hn : n = k
  · simp only [hn, if_true]; exact hv
  · simp only [hn, if_false]; exact h n

theorem MRel.cases {m m' : LMap α} (h : MRel D C m m') (n : String) :
    (m.lookup n = none ∧ m'.lookup n = none) ∨ ∃ a b, m.lookup n = some a ∧ m'.lookup n = some b ∧ C.VR a b := by
  have := h n
  cases h1 : m.lookup n <;> cases h2 : m'.lookup n <;> rw [h1, h2] at this
  · exact .inl ⟨rfl, rfl⟩
  · exact this.elim
  · exact this.elim
  · exact .inr ⟨_, _, rfl, rfl, this⟩

theorem limNames_congr (g : Bool) (names : List String) {lim lim' : α} {par par' : LMap α} (hl : C.VR lim lim')
    (hp : MRel D C par par') : ∀ {cur cur' : LMap α}, MRel D C cur cur' →
    VRel (MRel D C) (limNames D g names lim par cur) (limNames D g names lim' par' cur') := by
  induction names with
  | nil => exact fun hc => hc
  | cons name t ih =>
    intro cur cur' hc
    have rest := ih (hc.aset D C name hl)
    unfold limNames
    rcases hp.cases D C name with ⟨e1, e1'⟩ | ⟨ex, ex', e1, e1', h1⟩ <;> simp only [e1, e1']
    · cases name != "*"
      · exact rest
      rcases hp.cases D C "*" with ⟨e2, e2'⟩ | ⟨ex, ex', e2, e2', h2⟩ <;> simp only [e2, e2', if_true]
      · exact rest
      · rw [C.check ex ex' lim lim' h2 hl]
        exact VRel.ite_error rest
    · rw [C.check ex ex' lim lim' h1 hl]
      exact VRel.ite_error (ih (hc.aset D C name (C.comb _ _ _ _ hl h1)))

theorem limLimits_congr {pu pu' pg pg' : LMap α} (hpu : MRel D C pu pu') (hpg : MRel D C pg pg') (ls : List Limit) :
    ∀ {ls' : List Limit} {cu cu' cg cg' : LMap α}, LsRel ls ls' → LsKeys ls → MRel D C cu cu' → MRel D C cg cg' →
    VRel (fun a b => MRel D C a.1 b.1 ∧ MRel D C a.2 b.2) (limLimits D ls pu pg cu cg) (limLimits D ls' pu' pg' cu' cg') := by
  induction ls with
  | nil => intro _ _ _ _ _ h _ hcu hcg; rw [h.nil_inv]; exact ⟨hcu, hcg⟩
  | cons l t ih =>
    intro _ cu cu' cg cg' h k hcu hcg
    obtain ⟨l', t', rfl, hl, ht⟩ := h.cons_inv
    unfold limLimits
    refine (C.val l l' hl (k l List.mem_cons_self)).bind fun lim lim' hlim => ?_
    rw [← hl.users, ← hl.groups]
    refine (limNames_congr D C false _ hlim hpu hcu).bind fun cu1 cu1' hcu1 => ?_
    refine (limNames_congr D C true _ hlim hpg hcg).bind fun cg1 cg1' hcg1 => ?_
    exact ih ht k.tail hcu1 hcg1

mutual
theorem checkLim_congr : ∀ (q q' : QC) (pu pu' pg pg' : LMap α), QRel q q' → QKeys q → MRel D C pu pu' → MRel D C pg pg' →
    checkLim D q pu pg = checkLim D q' pu' pg'
  | .mk d qs, .mk d' qs', pu, pu', pg, pg', h, k, hu, hg => by
    unfold QRel at h; unfold QKeys at k
    unfold checkLim
    apply VRel.eq
    refine VRel.bind (limLimits_congr D C hu hg d.limits h.1.limits k.1.limits hu hg) ?_
    intro ⟨cu, cg⟩ ⟨cu', cg'⟩ ⟨hcu, hcg⟩
    exact VRel.of_eq (checkLimL_congr qs qs' cu cu' cg cg' h.2 k.2 hcu hcg)
theorem checkLimL_congr : ∀ (qs qs' : List QC) (cu cu' cg cg' : LMap α), QLRel qs qs' → QLKeys qs → MRel D C cu cu' → MRel D C cg cg' →
    checkLimL D qs cu cg = checkLimL D qs' cu' cg'
  | [], _, _, _, _, _, h, _, _, _ => by rw [h.nil_inv]; rfl
  | c :: t, _, cu, cu', cg, cg', h, k, hu, hg => by
    obtain ⟨c', t', rfl, hc, ht⟩ := h.cons_inv
    unfold QLKeys at k
    unfold checkLimL
    rw [checkLim_congr c c' cu cu' cg cg' hc k.1 hu hg, checkLimL_congr t t' cu cu' cg cg' ht k.2 hu hg]
end

theorem MRel.nil : MRel D C [] [] := by intro n; simp

end limcongr

def resCongr : DomCongr resDom where
  VR := REq
  val := fun _ _ h k => parse_congr h.res k
  check := fun ex ex' _ _ he hl => fit_congr (p := some ex) (p' := some ex') he hl
  comb := fun _ _ _ _ hl he => (cwMin_congr (p := some _) (p' := some _) hl he).orZero

def appsCongr : DomCongr appsDom where
  VR := Eq
  val := fun l l' h _ => by simp only [appsDom, h.maxApps, VRel]
  check := fun _ _ _ _ he hl => by rw [he, hl]
  comb := fun _ _ _ _ hl _ => by simp only [appsDom]; exact hl

/-! ### the structure checks, one partition, the whole configuration -/

theorem smapEq_congr {a a' b b' : Option SMap} (ha : SRel a a') (hb : SRel b b') (kb : KeysOK b) :
    smapEq a b = smapEq a' b' := by
  obtain ⟨ia, pa⟩ := ha
  obtain ⟨ib, pb⟩ := hb
  cases a <;> cases a' <;> simp at ia <;> cases b <;> cases b' <;> simp at ib <;> simp only [smapEq]
  rename_i x x' y y'
  simp only [Option.getD_some] at pa pb
  unfold KeysOK at kb; simp only [Option.getD_some] at kb
  rw [pa.length_eq, pb.length_eq]
  congr 1
  have : (fun (p : String × String) => y.lookup p.1 == some p.2) = (fun p => y'.lookup p.1 == some p.2) := by
    funext p; rw [lookup_perm pb kb]
  rw [this]
  exact pa.all_eq

theorem limitEq_congr {a a' b b' : Limit} (ha : LRel a a') (hb : LRel b b') (kb : KeysOK b.maxRes) :
    limitEq a b = limitEq a' b' := by
  unfold limitEq
  rw [ha.label, ha.users, ha.groups, ha.maxApps, hb.label, hb.users, hb.groups, hb.maxApps, smapEq_congr ha.res hb.res kb]

theorem limitsEq_congr (a : List Limit) : ∀ {a' : List Limit} (b : List Limit) {b' : List Limit},
    LsRel a a' → LsRel b b' → LsKeys b → limitsEq a b = limitsEq a' b' := by
  induction a with
  | nil =>
    intro _ b _ ha hb _
    rw [ha.nil_inv]
    cases b with
    | nil => rw [hb.nil_inv]
    | cons _ _ => obtain ⟨_, _, rfl, _⟩ := hb.cons_inv; rfl
  | cons x t ih =>
    intro _ b _ ha hb kb
    obtain ⟨x', t', rfl, hx, ht⟩ := ha.cons_inv
    cases b with
    | nil => rw [hb.nil_inv]; rfl
    | cons y u =>
      obtain ⟨y', u', rfl, hy, hu⟩ := hb.cons_inv
      unfold limitsEq
      rw [limitEq_congr hx hy (kb y List.mem_cons_self), ih u ht hu kb.tail]

theorem LsRel.isEmpty : ∀ {a a' : List Limit}, LsRel a a' → a.isEmpty = a'.isEmpty
  | [], _, h => by rw [h.nil_inv]
  | _ :: _, _, h => by obtain ⟨_, _, rfl, _⟩ := h.cons_inv; rfl

theorem LsRel.refl : ∀ (a : List Limit), LsRel a a
  | [] => trivial
  | _ :: t => ⟨⟨rfl, rfl, rfl, rfl, SRel.refl _⟩, LsRel.refl t⟩

theorem DRel.refl (d : QD) : DRel d d :=
  ⟨rfl, rfl, rfl, rfl, rfl, SRel.refl _, SRel.refl _, SRel.refl _, rfl, SRel.refl _, SRel.refl _, SRel.refl _, LsRel.refl _⟩

/-- a related pair of trees whose walked maps have unique keys: what the structure checks hand on to the walks -/
structure QRK (q q' : QC) : Prop where
  rel : QRel q q'
  keys : QKeys q

theorem insertedRoot_rk {qs qs' : List QC} (h : QLRel qs qs') (k : QLKeys qs) : QRK (insertedRoot qs) (insertedRoot qs') := by
  unfold insertedRoot
  refine ⟨?_, ?_⟩
  · unfold QRel; exact ⟨DRel.refl _, h⟩
  · unfold QKeys; exact ⟨⟨List.nodup_nil, List.nodup_nil, fun _ hl => nomatch hl⟩, k⟩

theorem topRoot_single (d : QD) (cs : List QC) : topRoot [.mk d cs] =
    if toLower d.name == "root" then .mk { d with parent := true } cs else insertedRoot [.mk d cs] := rfl

theorem topRoot_cons_cons (a b : QC) (t : List QC) : topRoot (a :: b :: t) = insertedRoot (a :: b :: t) := by
  cases a; rfl

theorem topRoot_rk {qs qs' : List QC} (h : QLRel qs qs') (k : QLKeys qs) : QRK (topRoot qs) (topRoot qs') := by
  cases qs with
  | nil => cases h.nil_inv; exact insertedRoot_rk h k
  | cons a t =>
    obtain ⟨a', t', rfl, ha, ht⟩ := h.cons_inv
    cases t with
    | cons b t =>
      obtain ⟨b', t'', rfl, _⟩ := ht.cons_inv
      rw [topRoot_cons_cons, topRoot_cons_cons]
      exact insertedRoot_rk h k
    | nil =>
      cases ht.nil_inv
      obtain ⟨d, cs⟩ := a
      obtain ⟨d', cs'⟩ := a'
      unfold QRel at ha
      rw [topRoot_single, topRoot_single, ← show toLower d.name = toLower d'.name from congrArg toLower ha.1.name]
      cases toLower d.name == "root" with
      | true =>
        unfold QLKeys QKeys at k
        refine ⟨?_, ?_⟩
        · unfold QRel; exact ⟨{ ha.1 with parent := rfl }, ha.2⟩
        · unfold QKeys; exact ⟨⟨k.1.1.g, k.1.1.m, k.1.1.limits⟩, k.1.2⟩
      | false => exact insertedRoot_rk h k

def OQLRel : Option (List QC) → Option (List QC) → Prop
  | none, none => True
  | some a, some b => QLRel a b
  | _, _ => False

theorem checkQueuesStructure_congr {qs qs' : Option (List QC)} (h : OQLRel qs qs') (k : ∀ l, qs = some l → QLKeys l) :
    VRel QRK (checkQueuesStructure qs) (checkQueuesStructure qs') := by
  cases qs <;> cases qs' <;> simp only [OQLRel] at h
  · exact VRel.error _
  · rename_i l l'
    have hr := topRoot_rk h (k l rfl)
    unfold checkQueuesStructure
    simp only
    rw [hr.rel.d.g.1, hr.rel.d.m.1]
    split
    · exact VRel.error _
    · exact hr

theorem checkLimitsStructure_congr {pl pl' : List Limit} {r r' : QC} (hl : LsRel pl pl') (kl : LsKeys pl) (h : QRK r r') :
    VRel QRK (checkLimitsStructure pl r) (checkLimitsStructure pl' r') := by
  unfold checkLimitsStructure
  rw [← h.rel.d.name, ← hl.isEmpty, ← h.rel.d.limits.isEmpty, ← limitsEq_congr pl _ hl h.rel.d.limits h.keys.d.limits]
  -- `cases` on the conditions: `split` would look into the comparison with the literal "root"
  cases toLower r.d.name != "root"
  case true => exact VRel.error _
  cases !pl.isEmpty && !r.d.limits.isEmpty && !limitsEq pl r.d.limits
  case true => exact VRel.error _
  cases !pl.isEmpty && r.d.limits.isEmpty
  case false => exact h
  refine show QRK (.mk _ _) (.mk _ _) from ⟨?_, ?_⟩
  · unfold QRel; exact ⟨{ h.rel.d with limits := hl }, h.rel.qs⟩
  · unfold QKeys; exact ⟨⟨h.keys.d.g, h.keys.d.m, kl⟩, h.keys.qs⟩

/-- two partitions that differ in the order of map entries only (queues, limits and rules keep their order) -/
structure PRel (p p' : Part) : Prop where
  name : p.name = p'.name
  queues : OQLRel p.queues p'.queues
  rules : p.rules = p'.rules
  limits : LsRel p.limits p'.limits
  nsp : p.nsp = p'.nsp
  weights : p.weights.Perm p'.weights

structure PKeys (p : Part) : Prop where
  queues : ∀ qs, p.queues = some qs → QLKeys qs
  limits : LsKeys p.limits

-- sealed: elaborating an application whose type mentions it would evaluate its comparison with the literal "root"
seal checkLimitsStructure in
theorem validatePart_congr {p p' : Part} (h : PRel p p') (k : PKeys p) : VRel PRel (validatePart p) (validatePart p') := by
  unfold validatePart
  refine (checkQueuesStructure_congr h.queues k.queues).bind fun r0 r0' hr0 => ?_
  refine (checkLimitsStructure_congr h.limits k.limits hr0).bind fun r r' ⟨hr, kr⟩ => ?_
  have hl : QLRel [r] [r'] := by unfold QLRel; exact ⟨hr, by unfold QLRel; trivial⟩
  have hw : checkNodeSortingPolicy p.nsp p.weights = checkNodeSortingPolicy p'.nsp p'.weights := by
    unfold checkNodeSortingPolicy; rw [← h.nsp, h.weights.any_eq]
  refine VRel.bind_eq (checkQueues_congr r r' hr kr) fun _ => ?_
  refine (cqr_congr r r' none none hr kr trivial).bind fun _ _ _ => ?_
  rw [← h.rules]
  refine VRel.bind_eq (checkPlacementRules_congr p.rules [r] [r'] hl) fun _ => ?_
  refine VRel.bind_eq hw fun _ => ?_
  refine VRel.bind_eq (cqma_congr r r' hr) fun _ => ?_
  refine VRel.bind_eq (checkLim_congr resDom resCongr r r' [] [] [] [] hr kr (MRel.nil _ _) (MRel.nil _ _)) fun _ => ?_
  refine VRel.bind_eq (checkLim_congr appsDom appsCongr r r' [] [] [] [] hr kr (MRel.nil _ _) (MRel.nil _ _)) fun _ => ?_
  exact ⟨h.name, hl, h.rules ▸ rfl, h.limits, h.nsp, h.weights⟩

def PsRel : List Part → List Part → Prop
  | [], [] => True
  | p :: t, p' :: t' => PRel p p' ∧ PsRel t t'
  | _, _ => False

def PsKeys (ps : List Part) : Prop := ∀ p ∈ ps, PKeys p

theorem validateL_congr : ∀ (ps ps' : List Part) (seen : List String), PsRel ps ps' → PsKeys ps →
    VRel PsRel (validateL ps seen) (validateL ps' seen)
  | [], [], _, _, _ => trivial
  | [], _ :: _, _, h, _ => absurd h id
  | _ :: _, [], _, h, _ => absurd h id
  | p :: t, p' :: t', seen, h, k => by
    unfold validateL
    rw [show partName p' = partName p by unfold partName; rw [h.1.name]]
    have kp : PKeys { p with name := partName p } := ⟨(k p List.mem_cons_self).queues, (k p List.mem_cons_self).limits⟩
    have hp : PRel { p with name := partName p } { p' with name := partName p } := { h.1 with name := rfl }
    refine VRel.ite_error ((validatePart_congr hp kp).bind fun a b hab => ?_)
    exact (validateL_congr t t' _ h.2 (fun x hx => k x (List.mem_cons_of_mem _ hx))).bind fun r r' hr => ⟨hab, hr⟩

/-- `validate` does not depend on the order of the entries of the maps of the configuration -/
theorem validate_congr {ps ps' : List Part} (h : PsRel ps ps') (k : PsKeys ps) : VRel PsRel (validate ps) (validate ps') :=
  validateL_congr ps ps' [] h k

/-! ### every family of permutations gives a related configuration -/

def mapLimit (σ : SMap → SMap) (l : Limit) : Limit := { l with maxRes := l.maxRes.map σ }
def mapTmpl (σ : SMap → SMap) (t : Tmpl) : Tmpl := { t with props := t.props.map σ, g := t.g.map σ, m := t.m.map σ }
def mapQD (σ : SMap → SMap) (d : QD) : QD :=
  { d with g := d.g.map σ, m := d.m.map σ, props := d.props.map σ, tmpl := mapTmpl σ d.tmpl, limits := d.limits.map (mapLimit σ) }

mutual
def mapQC (σ : SMap → SMap) : QC → QC
  | .mk d qs => .mk (mapQD σ d) (mapQCL σ qs)
def mapQCL (σ : SMap → SMap) : List QC → List QC
  | [] => []
  | q :: t => mapQC σ q :: mapQCL σ t
end

/-- re-order the entries of every map-typed field of a partition: `σ` for the string maps (it may treat every map
    differently), `τ` for the resource weights; queues, limits and rules keep their order -/
def mapPart (σ : SMap → SMap) (τ : List (String × Bool) → List (String × Bool)) (p : Part) : Part :=
  { p with queues := p.queues.map (mapQCL σ), limits := p.limits.map (mapLimit σ), weights := τ p.weights }

theorem SRel.map {σ : SMap → SMap} (hσ : ∀ m, (σ m).Perm m) (a : Option SMap) : SRel a (a.map σ) := by
  cases a with
  | none => exact ⟨rfl, List.Perm.refl _⟩
  | some m => exact ⟨rfl, (hσ m).symm⟩

theorem LsRel.map {σ : SMap → SMap} (hσ : ∀ m, (σ m).Perm m) : ∀ (ls : List Limit), LsRel ls (ls.map (mapLimit σ))
  | [] => trivial
  | _ :: t => ⟨⟨rfl, rfl, rfl, rfl, SRel.map hσ _⟩, LsRel.map hσ t⟩

mutual
theorem QRel.map {σ : SMap → SMap} (hσ : ∀ m, (σ m).Perm m) : ∀ (q : QC), QRel q (mapQC σ q)
  | .mk d qs => by
    unfold mapQC QRel
    exact ⟨⟨rfl, rfl, rfl, rfl, rfl, SRel.map hσ _, SRel.map hσ _, SRel.map hσ _, rfl, SRel.map hσ _, SRel.map hσ _,
      SRel.map hσ _, LsRel.map hσ _⟩, QLRel.map hσ qs⟩
theorem QLRel.map {σ : SMap → SMap} (hσ : ∀ m, (σ m).Perm m) : ∀ (qs : List QC), QLRel qs (mapQCL σ qs)
  | [] => by unfold mapQCL QLRel; trivial
  | q :: t => by unfold mapQCL QLRel; exact ⟨QRel.map hσ q, QLRel.map hσ t⟩
end

theorem PsRel.map {σ : SMap → SMap} {τ : List (String × Bool) → List (String × Bool)} (hσ : ∀ m, (σ m).Perm m) (hτ : ∀ w, (τ w).Perm w) :
    ∀ (ps : List Part), PsRel ps (ps.map (mapPart σ τ))
  | [] => trivial
  | p :: t => by
    refine ⟨⟨rfl, ?_, rfl, LsRel.map hσ _, rfl, (hτ _).symm⟩, PsRel.map hσ hτ t⟩
    simp only [mapPart]
    cases p.queues with
    | none => trivial
    | some qs => exact QLRel.map hσ qs

/-! ### below the error class: the message of NewResourceFromConf is that of the first offending entry of the walk -/

def firstParseErr : SMap → Option PErr
  | [] => none
  | (k, s) :: t =>
    match parseQ s (k == "vcore") with
    | .error e => some e
    | .ok _ => firstParseErr t

def errOf (p : String × String) : Option PErr :=
  match parseQ p.2 (p.1 == "vcore") with
  | .error e => some e
  | .ok _ => none

theorem firstParseErr_eq (m : SMap) : firstParseErr m = (m.filterMap errOf).head? := by
  induction m with
  | nil => rfl
  | cons p t ih =>
    obtain ⟨k, s⟩ := p
    unfold firstParseErr
    rw [List.filterMap_cons]
    simp only [errOf]
    generalize parseQ s (k == "vcore") = r
    cases r with
    | error e => rfl
    | ok v => exact ih

end Yk.Conf
