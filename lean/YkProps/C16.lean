/-
  C16 — Configuration reload is atomic and preserves running state.
  The property theorems, proved from the lemmas in YkProofs/Reload*.lean. Model: YkModel/Reload.lean
  (updateSchedulerConfig / updatePartitionDetails / updateQueues / applyConf / NewConfiguredQueue / MarkQueueForRemoval /
  cleanQueues over a queue tree and the pre-order list of the configuration's queue entries). `applyAll t conf` is the walk
  of updateQueues over the tree `t`; `applyAll [] conf` is the fresh load (also the dry run); `updateTree` adds the marking
  of the queues the configuration no longer names; `configUpdate` is the RM event (validator verdict as input, checksum
  short-cut).
  Where the unchanged code violates a clause the full statement is kept as a `def … : Prop`, refuted with a concrete
  witness, and proved under an explicit hypothesis (`…_partial`).
-/
import YkProofs.Reload
import YkProofs.ReloadProps
import YkProofs.ReloadMark
import YkProofs.ReloadParts
import YkProofs.Place
import YkModel.ReloadPlace
namespace Yk.C16
open Yk Yk.Reload

/-! ### a rejected reload changes nothing -/

/-- The dry run is a sufficient guard: when the fresh load of a (well-formed) configuration list goes through, the
    update walk goes through on EVERY queue tree — none of its error exits (applyConf on an ACL / template / resource
    text, NewConfiguredQueue below a leaf or a draining parent) can be taken once the dry run has passed, so the walk
    never stops half way. -/
theorem dry_run_guards (conf : List QC) (hwf : confWF conf = true) (t0 : Tree) (hfresh : applyAll [] conf = (t0, none)) (t : Tree) :
    ∃ t', applyAll t conf = (t', none) := by
  obtain ⟨t', h, _⟩ := applyAll_ok conf hwf (applyAll_noerr_entryErr conf [] t0 hfresh) t
  exact ⟨t', h⟩

/-- The full atomicity clause: whatever the cluster and the configuration, an update answered with an error leaves
    the state as it was. -/
def RejectedChangesNothing : Prop :=
  ∀ (s s' : CState) (viaEvent valid : Bool) (text : String) (conf : List PC) (e : CErr),
    (∀ pc ∈ conf, confWF pc.queues = true) → configUpdate s viaEvent valid text conf = (s', some e) → s' = s

/-- Proved for a configuration with ONE partition: validator, dry run and placement rules are the only ways to fail and
    all three come before the first change. -/
theorem rejected_changes_nothing_partial (s s' : CState) (viaEvent valid : Bool) (text : String) (pc : PC) (e : CErr)
    (hwf : confWF pc.queues = true) (h : configUpdate s viaEvent valid text [pc] = (s', some e)) : s' = s := by
  rcases configUpdate_rejected_multi s s' viaEvent valid text [pc] e (by simpa using hwf) h with h0 | ⟨pre, pc', rest, hc, hp, _, ht⟩
  · exact h0
  · -- nothing comes before the one partition
    cases pre with
    | nil =>
      obtain ⟨cl, x⟩ := s
      obtain ⟨cl', x'⟩ := s'
      obtain rfl : cl = cl' := congrArg Prod.fst hp
      obtain rfl : x' = x := ht
      rfl
    | cons x pre' => cases pre' <;> simp at hc

/-- One partition, seen from inside updatePartitionDetails: once the dry run has gone through, an update answered with
    an error has written NOTHING — the partition is what it was: queues, limits, preemption flags, placement rules and the
    node sorting policy (type and resource weights). The only step that can still refuse is the placement rule list
    (UpdateRules), and it comes before updateNodeSortingPolicy and before everything else that writes. -/
theorem rejected_reload_keeps_partition (p p' : Part) (pc : PC) (e : CErr) (hwf : confWF pc.queues = true)
    (pf : Part) (hfresh : pc.fresh = .ok pf) (h : updatePartition p pc = (p', some e)) : p' = p :=
  (updatePartition_after_dryRun p pc pf hwf hfresh p' e h).1

/-- A rule list UpdateRules refuses (e.g. a rule name that is an identifier and names no rule — the validator checks
    rule names only syntactically, the dry run swallows the placement manager's error): the update is the identity,
    whatever else the configuration changes — for EVERY partition and EVERY configuration (no well-formedness needed). -/
theorem rejected_by_placement_rules_is_identity (p : Part) (pc : PC) (hroot : pc.rootName = "root") (hbad : pc.rulesBad = true) :
    updatePartition p pc = (p, some .rules) := by
  simp [updatePartition, hroot, hbad]

/-- The node sorting policy spelled out, at the level of the RM event: after a (single-partition) update answered with
    an error every partition sorts its nodes with the policy type and the resource weights it had. -/
theorem rejected_reload_keeps_node_sorting_policy (s s' : CState) (viaEvent valid : Bool) (text : String) (pc : PC) (e : CErr)
    (hwf : confWF pc.queues = true) (h : configUpdate s viaEvent valid text [pc] = (s', some e)) (n : String) :
    (s'.cluster.get n).map (fun p => (p.settings.nodeSort, p.settings.weights)) =
      (s.cluster.get n).map (fun p => (p.settings.nodeSort, p.settings.weights)) := by
  rw [rejected_changes_nothing_partial s s' viaEvent valid text pc e hwf h]

def exTplNone : TplConf := { maxApps := 0, props := [], maxRaw := [], guarRaw := [], max := [], guaranteed := [] }
def exRootC : QC := { path := "root", parent := "", name := "root", isParent := true, max := [], guaranteed := [], maxApps := 0, props := [],
                      tpl := exTplNone, aclBad := false, tplBad := false, resBad := false }
def exLeafC (n : String) (apps : Nat) : QC := { exRootC with path := "root." ++ n, parent := "root", name := n, isParent := false, maxApps := apps }
def exPC (n : String) (qs : List QC) : PC := { name := n, rootName := "root", queues := qs, settings := {}, limits := "", rulesBad := false }
def exFresh (pc : PC) : Part := match pc.fresh with | .ok p => p | .error _ => { tree := [], settings := {}, limits := "" }

/-- two partitions loaded from [root, root.a (maxapplications 2)] and [root, root.x] -/
def exCluster : CState := { cluster := [("d", exFresh (exPC "d" [exRootC, exLeafC "a" 2])), ("o", exFresh (exPC "o" [exRootC, exLeafC "x" 0]))], text := "v1" }
/-- the update: root.a gets maxapplications 7 in partition d; partition o gets a parent queue whose child template the
    loader refuses (the validator lets it through) -/
def exBadUpdate : List PC :=
  [exPC "d" [exRootC, exLeafC "a" 7], exPC "o" [exRootC, { exLeafC "x" 0 with isParent := true, tplBad := true }]]

/-- REFUTED (KNOWN_FINDINGS C16.A1): dry run and update alternate partition by partition, so the first partition is
    already updated when the second one is refused. -/
theorem rejected_changes_nothing_refuted : ¬ RejectedChangesNothing := by
  intro h
  have := h exCluster (configUpdate exCluster true true "v2" exBadUpdate).1 true true "v2" exBadUpdate CErr.tpl (by decide +kernel)
    (eq_of_answer (by decide +kernel))
  revert this
  decide +kernel

/-! ### several partitions: what does hold -/

/-- When the loop of updateSchedulerConfig gets through a list of partitions (distinct names), each of them ends exactly
    as the update with that partition ALONE would leave it (and that single update succeeds). -/
theorem partitions_updated_as_single (conf : List PC) (cl cl1 : Cluster) (hd : namesDistinct conf)
    (h : updateCluster cl conf = (cl1, none)) :
    ∀ pc ∈ conf, cl1.get pc.name = (updateCluster cl [pc]).1.get pc.name ∧ (updateCluster cl [pc]).2 = none :=
  updateCluster_each_as_single conf cl cl1 hd h

/-- … and every partition the list does not name is as it was. -/
theorem partitions_not_named_untouched (conf : List PC) (cl : Cluster) (m : String) (h : ∀ pc ∈ conf, ¬ m = pc.name) :
    (updateCluster cl conf).1.get m = cl.get m :=
  updateCluster_get_other conf cl m h

/-- A refused update with several partitions: either nothing changed, or the cluster is EXACTLY what the loop over the
    partitions before the refused one left (by the two theorems above: each of those updated as it would be alone, every
    other partition — the refused one and all after it — untouched), and the configuration in force stays the old one. -/
theorem rejected_update_is_prefix_update (s s' : CState) (viaEvent valid : Bool) (text : String) (conf : List PC) (e : CErr)
    (hwf : ∀ pc ∈ conf, confWF pc.queues = true) (h : configUpdate s viaEvent valid text conf = (s', some e)) :
    s' = s ∨ ∃ pre pc rest, conf = pre ++ pc :: rest ∧ updateCluster s.cluster pre = (s'.cluster, none) ∧
      (stepPartition s'.cluster pc).2 = some e ∧ s'.text = s.text :=
  configUpdate_rejected_multi s s' viaEvent valid text conf e hwf h

/-- The identical configuration (same text, event path): nothing is touched. -/
theorem identical_configuration_is_noop (s : CState) (conf : List PC) : configUpdate s true true s.text conf = (s, none) := by
  simp [configUpdate]

/-- A configuration the validator refuses: nothing is touched. -/
theorem invalid_configuration_is_noop (s : CState) (viaEvent : Bool) (text : String) (conf : List PC) :
    configUpdate s viaEvent false text conf = (s, some .validator) := by
  simp [configUpdate]

/-! ### an accepted reload preserves the running state -/

/-- Whatever the update walk does (also when it stops with an error): every queue that was there is still there with
    the same allocated / pending / preempting totals, applications, reservations and running counters, and a queue
    that was not there starts with none of them. Applications, allocations and nodes are not touched by any step of
    the model: the queue tree is all it writes. -/
theorem accepted_preserves_running_state (t : Tree) (conf : List QC) :
    (∀ x q, t.find x = some q → ∃ q', (updateTree t conf).1.find x = some q' ∧ q'.runtime = q.runtime) ∧
    (∀ x q', (updateTree t conf).1.find x = some q' →
        (∃ q, t.find x = some q ∧ q'.runtime = q.runtime) ∨ (t.find x = none ∧ q'.runtime = Runtime.zero)) := by
  rcases updateTree_fst t conf with h | h <;> rw [h]
  · exact applyAll_ext conf t
  · exact (applyAll_ext conf t).trans (markMissing_ext _ conf)

/-! ### new limits and properties: the reloaded tree against the fresh load -/

/-- The full refinement clause: after an accepted update every configured queue carries the configuration-derived
    fields (type, state, max, guaranteed, maxapplications, effective properties and what is derived from them, child
    template of a parent — own or inherited) that a fresh load of the same configuration gives it. -/
def ReloadRefinesFresh : Prop :=
  ∀ (t t' tf : Tree) (conf : List QC), confWF conf = true → parentsAgree t conf = true →
    updateTree t conf = (t', none) → applyAll [] conf = (tf, none) →
    ∀ c ∈ conf, ∃ q qf, t'.find c.path = some q ∧ tf.find c.path = some qf ∧ q.cfgView = qf.cfgView

/-- Full strength for every configuration in which no queue below the top queue is NAMED root: inherited properties,
    inherited child templates (InheritParentTemplate) and the maxapplications of the top queue need no hypothesis. -/
theorem reload_refines_fresh (t t' tf : Tree) (conf : List QC) (hwf : confWF conf = true) (hpa : parentsAgree t conf = true)
    (hnr : noNamedRoot conf = true) (hupd : updateTree t conf = (t', none)) (hfresh : applyAll [] conf = (tf, none)) :
    ∀ c ∈ conf, ∃ q qf, t'.find c.path = some q ∧ tf.find c.path = some qf ∧ q.cfgView = qf.cfgView :=
  updateTree_refines_fresh t t' tf conf hwf hupd hfresh (parentsAgree_spec t conf hpa)
    (fun c hc hr hne => absurd (noNamedRoot_spec conf hnr c hc hr) hne)

/-- With a queue named root below the top: proved when that queue holds no resources before the update (applyConf
    skips the resources of a queue NAMED root on both paths: the update keeps what the queue had, the fresh load has none). -/
theorem reload_refines_fresh_partial (t t' tf : Tree) (conf : List QC) (hwf : confWF conf = true) (hpa : parentsAgree t conf = true)
    (hupd : updateTree t conf = (t', none)) (hfresh : applyAll [] conf = (tf, none))
    (hRoot : ∀ c ∈ conf, c.name = "root" → ¬ c.parent = "" → ∀ q, t.find c.path = some q → q.max = none ∧ q.guaranteed = none) :
    ∀ c ∈ conf, ∃ q qf, t'.find c.path = some q ∧ tf.find c.path = some qf ∧ q.cfgView = qf.cfgView :=
  updateTree_refines_fresh t t' tf conf hwf hupd hfresh (parentsAgree_spec t conf hpa) hRoot

/-- the refinement clause at one entry, as a Boolean -/
def agreeAt (t' tf : Tree) (c : QC) : Bool :=
  match t'.find c.path, tf.find c.path with
  | some q, some qf => decide (q.cfgView = qf.cfgView)
  | _, _ => false

theorem agreeAt_of {t' tf : Tree} {c : QC} (h : ∃ q qf, t'.find c.path = some q ∧ tf.find c.path = some qf ∧ q.cfgView = qf.cfgView) :
    agreeAt t' tf c = true := by
  obtain ⟨q, qf, h1, h2, hv⟩ := h
  simp [agreeAt, h1, h2, hv]

/-- root -> e (parent) -> the dynamic leaf root.e.root that took max cpu 5 from a child template; the configuration then
    names it (as a plain leaf) -/
def exNamedRootConf : List QC :=
  [exRootC, { exLeafC "e" 0 with isParent := true }, { exLeafC "e" 0 with path := "root.e.root", parent := "root.e", name := "root" }]
def exNamedRootTree : Tree :=
  (applyAll [] [exRootC, { exLeafC "e" 0 with isParent := true }]).1 ++
    [{ (blank { exLeafC "e" 0 with path := "root.e.root", parent := "root.e", name := "root" }) with leaf := true, managed := false, max := some [("cpu", 5)] }]

/-- REFUTED in general (KNOWN_FINDINGS C16.L2: the resources of a queue NAMED root are skipped): the managed queue root.e.root
    keeps max cpu 5 after the update, a fresh load of the same configuration gives it none (and its configured resources are
    never applied). -/
theorem reload_refines_fresh_refuted_named_root : ¬ ReloadRefinesFresh := by
  intro h
  have := h exNamedRootTree (updateTree exNamedRootTree exNamedRootConf).1 (applyAll [] exNamedRootConf).1 exNamedRootConf
    (by decide +kernel) (by decide +kernel) (eq_of_answer (by decide +kernel)) (eq_of_answer (by decide +kernel))
    { exLeafC "e" 0 with path := "root.e.root", parent := "root.e", name := "root" } (by decide +kernel)
  have := agreeAt_of this
  revert this
  decide +kernel

/-- root with a child template (maxapplications 3) and the managed parent root.p without one -/
def exTplConf : List QC := [{ exRootC with tpl := { exTplNone with maxApps := 3 } }, { exLeafC "p" 0 with isParent := true }]

/-- after a reload of the very same configuration root.p holds the template inherited from root, as after the fresh load
    (C16.T1 / C17.T1; KNOWN_FINDINGS `fixed:` 28d8b1b) -/
example : ∀ c ∈ exTplConf, agreeAt (updateTree (applyAll [] exTplConf).1 exTplConf).1 (applyAll [] exTplConf).1 c = true := by decide +kernel
example : ((updateTree (applyAll [] exTplConf).1 exTplConf).1.find "root.p").map (·.tpl) =
    some (some { maxApps := 3, props := [], max := none, guaranteed := none }) := by decide +kernel
/-- the top queue takes the new maxapplications on reload, 5 -> 9 (C16.L1; KNOWN_FINDINGS `fixed:` 223249d) -/
example : ((updateTree (applyAll [] [{ exRootC with maxApps := 5 }]).1 [{ exRootC with maxApps := 9 }]).1.find "root").map (·.maxApps) = some 9 := by decide +kernel

/-- The yardstick itself: a fresh load gives every configured queue what its entry says — type, limits,
    maxapplications, its own properties over the FILTERED effective properties of its parent, the settings derived from
    them (`QC.view`; resources are skipped for a queue NAMED root: KNOWN_FINDINGS C16.L2). Together with the refinement
    theorem: after an accepted update the configured queues carry the new limits and properties, inherited ones included. -/
theorem fresh_load_carries_configuration (conf : List QC) (hwf : confWF conf = true) (tf : Tree) (hfresh : applyAll [] conf = (tf, none)) :
    ∀ c ∈ conf, ∃ q, tf.find c.path = some q ∧ q.cfgView = c.view (tf.parentProps c.parent) q.tpl := by
  intro c hc
  obtain ⟨he, hq, _⟩ := (walked_of_applyAll hwf hfresh).1 c hc
  refine ⟨_, hq, ?_⟩
  rw [show (Tree.find [] c.path).getD (blank c) = blank c from rfl, updExisting_cfgView _ _ _ he, effProps_parentOf]
  unfold QC.view
  cases hp : c.isParent with
  | false => rfl
  | true => rw [updExisting_tpl _ _ _ he hp]; rfl

/-- Inheritance, key by key: the effective value of a property is the queue's own value, otherwise the parent's
    effective value as filterParentProperty lets it through (priority.policy and priority.offset are never inherited,
    of preemption.policy only `disabled`). -/
theorem inherited_property_value (own parent : Props) (k : String) :
    Props.get? (mergeProps own parent) k =
      (match Props.get? own k with
       | some v => some v
       | none => (Props.get? parent k).map (filterParentProperty k)) :=
  mergeProps_get? own parent k

/-! ### draining, reactivation, dynamic queues -/

/-- After an accepted update every queue the configuration names is there, managed, ACTIVE (a draining queue that
    reappears is reactivated) and of the configured type. -/
theorem configured_queues_active (t t' : Tree) (conf : List QC) (hwf : confWF conf = true) (h : updateTree t conf = (t', none)) :
    ∀ c ∈ conf, ∃ q, t'.find c.path = some q ∧ q.state = .active ∧ q.managed = true ∧ q.leaf = (!c.isParent) := by
  intro c hc
  obtain ⟨t1, h1, rfl⟩ := updateTree_ok h
  obtain ⟨q, hq, hl, hs, hm⟩ := (walked_of_applyAll hwf h1).settled hc
  exact ⟨q, find_markMissing_configured hc hq, hs, hm, hl⟩

/-- … and no managed queue the configuration does not name is active any more (it drains). -/
theorem missing_queues_drain (t t' : Tree) (conf : List QC) (h : updateTree t conf = (t', none)) :
    ∀ x q, t'.find x = some q → q.managed = true → configured conf x = false → ¬ q.state = .active := by
  intro x q hq hm hc
  obtain ⟨t1, _, rfl⟩ := updateTree_ok h
  rw [find_markMissing] at hq
  obtain ⟨q1, h1, rfl⟩ := Option.map_eq_some_iff.mp hq
  rw [find_some_path h1, hc] at hm ⊢
  cases hm1 : q1.managed with
  | true => simpa [hm1, RQ.mark] using remove_ne_active q1.state
  | false => simp [hm1] at hm

/-! ### the marking walk itself -/

/-- Queue.MarkQueueForRemoval as the code walks (`markRec`: the unvisited children of every visited queue, then DOWN
    through the children of each managed queue, stopping at an unmanaged one) marks exactly the managed queues the
    configuration does not name (`markMissing`) — on every well-formed tree: parents first and present with distinct
    non-empty paths, nothing managed below an unmanaged queue (W0), the configuration closed under parents and naming the top. -/
theorem mark_walk_is_characterisation (t : Tree) (conf : List QC) (hpf : parentsFirst t = true) (hw0 : W0 t)
    (hclosed : ∀ q ∈ t, configured conf q.path = true → q.parent = "" ∨ configured conf q.parent = true)
    (hroot : ∀ q ∈ t, q.parent = "" → configured conf q.path = true) :
    markRec t conf = markMissing t conf :=
  markRec_eq_markMissing t conf hpf hw0 hclosed hroot

/-- Hence the whole update with the walk as performed is the update all the other theorems are about. -/
theorem update_walk_is_characterisation (t : Tree) (conf : List QC) (h : TreeOK t) (hwf : confWF conf = true) (hcp : confPaths conf = true)
    (htop : ∀ q ∈ t, q.parent = "" → configured conf q.path = true) : updateTreeRec t conf = updateTree t conf :=
  updateTreeRec_eq_updateTree t conf h hwf hcp htop

/-- W0 is an invariant, not an assumption: every tree the modelled operations can produce (fresh load, updates — accepted
    or stopped by an error, with either marking —, the queue cleaner, creation of a dynamic queue by a submission, anything
    that leaves path / parent / managed alone) is well-formed; in particular nothing managed sits below an unmanaged queue. -/
theorem w0_reachable (t : Tree) (h : Reachable t) : TreeOK t := by
  induction h with
  | fresh conf hwf hcp => exact applyAll_ok_tree [] conf treeOK_nil hwf hcp
  | update t conf _ hwf hcp ih => exact updateTree_ok_tree t conf ih hwf hcp
  | updateRec t conf _ hwf hcp ih => exact updateTreeRec_ok_tree t conf ih hwf hcp
  | clean t _ ih => exact clean_ok_tree t ih
  | dynamic t q _ hm hne hnew hpp hpar ih =>
    exact ih.append q hne hnew hpp (Or.inr hpar) (fun h => by rw [hm] at h; cases h)
  | other t f _ hp hpar hm ih => exact ih.map f hp hpar hm

theorem w0_invariant (t : Tree) (h : Reachable t) : W0 t := (w0_reachable t h).w0

/-- Depth clause: after an accepted update (walk as performed) EVERY managed queue the configuration does not name — at
    whatever depth of a dropped hierarchy — has taken the Remove event: Active and Draining queues are Draining. -/
theorem dropped_hierarchy_drains_at_every_level (t t' : Tree) (conf : List QC) (h : TreeOK t) (hwf : confWF conf = true)
    (hcp : confPaths conf = true) (htop : ∀ q ∈ t, q.parent = "" → configured conf q.path = true)
    (hupd : updateTreeRec t conf = (t', none)) :
    ∀ x q, t.find x = some q → q.managed = true → configured conf x = false → t'.find x = some q.mark := by
  intro x q hq hm hc
  rw [updateTreeRec_eq_updateTree t conf h hwf hcp htop] at hupd
  rw [updateTree_not_configured hupd x q hq hc, hm]
  rfl

/-- Spelled out: after updateQueues every (managed, not stopped) queue of the OLD tree that the new configuration does not
    name is still there and Draining — nothing stays Active outside the configuration. (Removal is the cleaner's business
    and only happens to empty queues: `removed_only_when_empty`.) -/
theorem old_queue_not_in_configuration_is_draining (t t' : Tree) (conf : List QC) (h : TreeOK t) (hwf : confWF conf = true)
    (hcp : confPaths conf = true) (htop : ∀ q ∈ t, q.parent = "" → configured conf q.path = true)
    (hupd : updateTreeRec t conf = (t', none)) :
    ∀ x q, t.find x = some q → q.managed = true → configured conf x = false → ¬ q.state = .stopped →
      ∃ q', t'.find x = some q' ∧ q'.state = .draining ∧ q'.runtime = q.runtime := by
  intro x q hq hm hc hs
  exact ⟨q.mark, dropped_hierarchy_drains_at_every_level t t' conf h hwf hcp htop hupd x q hq hm hc, remove_draining hs, rfl⟩

/-- A parent that becomes a leaf: when the configuration has only a leaf-type entry at path p (the queue was a parent
    with children and is now configured without any, parent flag not set), NO entry of the configuration sits below p, so
    every managed child the old tree has below p takes the Remove event in the recursion of updateQueues into p with the
    empty child list — whether it holds applications or not. -/
theorem children_of_parent_turned_leaf_drain (t t' : Tree) (conf : List QC) (h : TreeOK t) (hwf : confWF conf = true)
    (hcp : confPaths conf = true) (htop : ∀ q ∈ t, q.parent = "" → configured conf q.path = true)
    (hupd : updateTreeRec t conf = (t', none)) (p : String) (hp : ¬ p = "")
    (hleaf : ∀ c ∈ conf, c.path = p → c.isParent = false) :
    ∀ x q, t.find x = some q → q.managed = true → q.parent = p → t'.find x = some q.mark := by
  intro x q hq hm hpar
  exact dropped_hierarchy_drains_at_every_level t t' conf h hwf hcp htop hupd x q hq hm
    (children_of_leaf_not_configured t conf h hwf hcp p hp hleaf x q hq hpar)

/-- A dynamic queue the configuration does not name is left exactly as it was. -/
theorem dynamic_queues_untouched (t t' : Tree) (conf : List QC) (h : updateTree t conf = (t', none)) :
    ∀ x q, t.find x = some q → q.managed = false → configured conf x = false → t'.find x = some q := by
  intro x q hq hm hc
  rw [updateTree_not_configured h x q hq hc, hm]
  rfl

/-- A draining leaf takes no new application, nor does a queue that would have to be created below a draining queue
    (placement through the provided rule with open ACLs; C17 owns the rule chain). -/
theorem draining_leaf_refuses (t : Tree) (p : String) (create : Bool) (q : RQ) (h : t.find p = some q) (hd : q.state = .draining) :
    admits t p create = false := by
  unfold admits
  rw [h]
  simp [hd]

theorem below_draining_refuses (t : Tree) (p : String) (create : Bool) (a : RQ) (h : t.find p = none)
    (hn : nearest t (p.length + 1) (parentPath p) = some a) (hd : a.state = .draining) : admits t p create = false := by
  unfold admits
  rw [h]
  simp [hn, hd]

/-! ### a draining queue takes no new application: the whole rule chain

  `Place.place` is AppPlacementManager.PlaceApplication of the placement model (YkModel/Place.lean: every configured
  rule with its parent rules, the recovery rule the manager appends, and the "no rule matched, use root.default" fall-back
  that runs inside the iteration of the LAST rule); `Place.submit` is PartitionContext.AddApplication with that rule chain
  on a tree of the reload model (YkModel/ReloadPlace.lean). -/

/-- Placement never returns a draining queue: for every tree, application, regular-expression oracle and rule list, the
    name PlaceApplication returns does not name a queue that is draining — also when the name comes from the default
    queue fall-back of the last rule. (The one exit before the checks: the recovery queue of a FORCED application.) -/
theorem placement_never_returns_draining_queue (rx : Place.Str → Place.Str → Bool) (t : Place.Tree) (a : Place.App)
    (rules : List Place.Rule) (n : Place.QName) (q : Place.Queue)
    (h : Place.place rx t a rules = .placed n) (hq : Place.getQueue t n = some q) :
    q.draining = false ∨ (n = Place.recoveryQ ∧ a.forced = true) := by
  obtain ⟨r, hc⟩ := (Place.place_placed_iff rx t a rules n).mp h
  obtain ⟨_, _, _, _, _, hel, _⟩ := Place.choose_first rx t a rules r n hc
  exact Place.eligible_not_draining hel hq

/-- An application is accepted into queue q only if q is not draining: whatever the queue tree of the reload model and
    the rule list in force, the queue a (not forced) submission is accepted into was not Draining. -/
theorem accepted_only_into_queue_not_draining (t : Tree) (rules : List Place.Rule) (a : Place.App) (q : Place.QName)
    (hnf : a.forced = false) (h : Place.submit t rules a = .accepted q) (r : RQ)
    (hr : t.find? (fun r => decide (Place.splitDot r.path.toList = q)) = some r) : ¬ r.state = .draining := by
  unfold Place.submit at h
  have hadd : Place.addApp (fun _ _ => false) (Place.ofReload t) (Place.buildRules rules) a =
      ((Place.addApp (fun _ _ => false) (Place.ofReload t) (Place.buildRules rules) a).1, .accepted q) := by rw [← h]
  have hf : Place.findQ (Place.ofReload t) q = some (Place.ofRQ r) := by
    unfold Place.findQ Place.ofReload
    rw [List.find?_map]
    exact congrArg (Option.map Place.ofRQ) hr
  rcases (Place.accepted_leaf_active hadd).2 (Place.ofRQ r) hf with ⟨_, hd | ⟨hforced, _⟩⟩
  · intro hs
    simp [Place.ofRQ, hs] at hd
  · rw [hnf] at hforced; cases hforced

/-! ### existing applications keep running: a draining queue is still offered to the scheduler -/

/-- Marking the queues the configuration no longer names (MarkQueueForRemoval) does not change what any parent offers
    to the scheduling cycle (`offered` = the filter of Queue.sortQueues: children that are not STOPPED and have pending
    resources): the applications of a draining queue are scheduled as before. -/
theorem draining_does_not_change_offer (t : Tree) (conf : List QC) (p : String) :
    offered (markMissing t conf) p = offered t p := by
  unfold markMissing
  apply offered_map
  · intro q; split <;> rfl
  · intro q; split <;> rfl
  · intro q; split <;> rfl
  · intro q; split <;> rfl
  · intro q
    split
    · exact remove_stopped_iff q.state
    · exact Iff.rfl

/-- In particular a draining child with pending resources below a parent-type queue is offered. -/
theorem draining_child_is_offered (t : Tree) (p : String) (q c : RQ) (hq : t.find p = some q) (hl : q.leaf = false) (hc : c ∈ t)
    (hpar : c.parent = p) (hd : c.state = .draining) (hpend : strictlyGreaterThanZero (some c.pending) = true) :
    c.path ∈ offered t p := by
  unfold offered
  rw [hq]
  simp only [hl, Bool.false_eq_true, if_false]
  exact List.mem_map.mpr ⟨c, List.mem_filter.mpr ⟨hc, by simp [hpar, hd, hpend]⟩, rfl⟩

/-! ### queues are removed only when empty -/

/-- The cleaner invents and alters nothing … -/
theorem cleaner_only_removes (t : Tree) : ∀ q ∈ clean t, q ∈ t := (cleanFold_inv t.reverse t).1

/-- … and a path that is gone belonged to a queue without applications that was draining or dynamic, and no child of it
    is left (managed and dynamic queues alike: only once empty). -/
theorem removed_only_when_empty (t : Tree) (x : String) (h1 : (t.find x).isSome) (h2 : (clean t).find x = none) :
    ∃ q ∈ t, q.path = x ∧ q.apps = [] ∧ (q.state = .draining ∨ q.managed = false) ∧ (clean t).hasChild x = false := by
  obtain ⟨q, hq, rest⟩ := (cleanFold_inv t.reverse t).2 x h1 h2
  exact ⟨q, List.mem_reverse.mp hq, rest⟩

/-- Hence a queue that holds applications survives the cleaner. -/
theorem busy_queue_survives (t : Tree) (x : String) (h1 : (t.find x).isSome) (hbusy : ∀ q ∈ t, q.path = x → ¬ q.apps = []) :
    ((clean t).find x).isSome := by
  cases h : (clean t).find x with
  | some _ => rfl
  | none =>
    obtain ⟨q, hq, hp, ha, _⟩ := removed_only_when_empty t x h1 h
    exact absurd ha (hbusy q hq hp)

/-! ### non-vacuity -/

/-- root -> a (leaf, app-1 with usage), b (leaf), dyn (dynamic leaf with an application) -/
def exTree : Tree :=
  let t := (applyAll [] [exRootC, exLeafC "a" 2, exLeafC "b" 0]).1
  (t.upd "root.a" (fun q => { q with apps := ["app-1"], allocated := [("cpu", 3)], running := 1 })) ++
    [{ (blank (exLeafC "dyn" 0)) with leaf := true, managed := false, apps := ["app-2"] }]
/-- the new configuration drops root.a, keeps root.b with a property and adds root.c below which root.c.c1 -/
def exConf : List QC :=
  [{ exRootC with props := [("application.sort.policy", "fair"), ("priority.offset", "5")] },
   { exLeafC "b" 4 with max := [("cpu", 10)], props := [("preemption.delay", "10s")] },
   { exLeafC "c" 0 with isParent := true },
   { exLeafC "c" 0 with path := "root.c.c1", parent := "root.c", name := "c1" }]

example : confWF exConf = true := by decide +kernel
example : (applyAll [] exConf).2 = none ∧ (updateTree exTree exConf).2 = none := by decide +kernel
/-- root.a drains and keeps its application and usage; root.b is active with the new limit, its own and the inherited
    properties (the offset is not inherited); root.c.c1 is new; the dynamic queue is as it was -/
example : ((updateTree exTree exConf).1.find "root.a").map (fun q => (q.state, q.apps, q.allocated)) = some (.draining, ["app-1"], [("cpu", 3)]) := by decide +kernel
example : ((updateTree exTree exConf).1.find "root.b").map (fun q => (q.state, q.maxApps, q.set.sort, q.set.preemptDelay)) =
    some (.active, 4, "fair", 10000000000) := by decide +kernel
example : ((updateTree exTree exConf).1.find "root.b").map (·.max) = some (some [("cpu", 10)]) ∧
    ((updateTree exTree exConf).1.find "root.b").map (·.set.prioOffset) = some 0 ∧
    ((updateTree exTree exConf).1.find "root").map (·.set.prioOffset) = some 5 := by decide +kernel
example : ((updateTree exTree exConf).1.find "root.c.c1").isSome = true ∧ (updateTree exTree exConf).1.find "root.dyn" = exTree.find "root.dyn" := by decide +kernel
/-- the refinement clause holds at every entry (no queue named root below the top: `reload_refines_fresh` applies) -/
example : parentsAgree exTree exConf = true ∧ noNamedRoot exConf = true := by decide +kernel
example : ∀ c ∈ exConf, agreeAt (updateTree exTree exConf).1 (applyAll [] exConf).1 c = true := by decide +kernel
/-- root still offers the draining root.a (pending cpu 2) to the scheduler, as before the update -/
example : offered ((updateTree exTree exConf).1.upd "root.a" (fun q => { q with pending := [("cpu", 2)] })) "root" = ["root.a"] := by decide +kernel
/-- the draining queue refuses, the cleaner keeps it while app-1 is there and removes it afterwards; root.a reappears active -/
example : admits (updateTree exTree exConf).1 "root.a" true = false ∧ admits (updateTree exTree exConf).1 "root.c.new" true = true := by decide +kernel
example : ((clean (updateTree exTree exConf).1).find "root.a").isSome = true := by decide +kernel
example : (clean ((updateTree exTree exConf).1.upd "root.a" (fun q => { q with apps := [] }))).find "root.a" = none := by decide +kernel
example : ((updateTree (updateTree exTree exConf).1 [exRootC, exLeafC "a" 2]).1.find "root.a").map (·.state) = some .active := by decide +kernel
/-- a hierarchy three levels deep (root.a > root.a.b > root.a.b.c) with a dynamic queue below it is dropped: every managed
    level is Draining after the walk, the dynamic queue is not touched, and the walk agrees with the characterisation -/
def exDeepConf : List QC :=
  [exRootC, { exLeafC "a" 0 with isParent := true },
   { exLeafC "a" 0 with path := "root.a.b", parent := "root.a", name := "b", isParent := true },
   { exLeafC "a" 0 with path := "root.a.b.c", parent := "root.a.b", name := "c" }]
def exDeepTree : Tree :=
  (applyAll [] exDeepConf).1 ++
    [{ (blank { exLeafC "a" 0 with path := "root.a.b.dyn", parent := "root.a.b", name := "dyn" }) with leaf := true, managed := false }]
example : parentsFirst exDeepTree = true ∧ w0 exDeepTree = true ∧ pathParents exDeepTree = true ∧ confPaths exDeepConf = true := by decide +kernel
example : ((updateTreeRec exDeepTree [exRootC]).1.map (fun q => (q.path, q.state))) =
    [("root", .active), ("root.a", .draining), ("root.a.b", .draining), ("root.a.b.c", .draining), ("root.a.b.dyn", .active)] := by decide +kernel
example : updateTreeRec exDeepTree [exRootC] = updateTree exDeepTree [exRootC] := by decide +kernel
/-- a single-partition update that the loader refuses after the validator let it through: answered with an error, nothing changed -/
example : configUpdate exCluster true true "v2" [exPC "d" [exRootC, { exLeafC "a" 7 with aclBad := true }]] = (exCluster, some .acl) := by decide +kernel

/-! non-vacuity: placement with a draining queue, a refusal after the dry run, a parent turned leaf -/

/-- root -> default (leaf, app-1), b (leaf); the new configuration drops root.default -/
def exDefTree : Tree :=
  (applyAll [] [exRootC, exLeafC "default" 0, exLeafC "b" 0]).1.upd "root.default" (fun q => { q with apps := ["app-1"], running := 1 })
def exDefAfter : Tree := (updateTree exDefTree [exRootC, exLeafC "b" 0]).1
def exAlice : Place.User := { name := "alice".toList, groups := ["dev".toList] }
def exProvided (create : Bool) : Place.Rule := [{ kind := .provided, create := create }]

/-- what placement sees of the tree after the update, evaluated once for the submissions below -/
theorem exDefAfter_place : Place.ofReload exDefAfter =
    [{ path := [Place.sRoot], leaf := false, managed := true, sacl := { all := true }, set := deriveSettings false [] },
     { path := [Place.sRoot, Place.sDefault], leaf := true, managed := true, draining := true, set := deriveSettings true [] },
     { path := [Place.sRoot, ['b']], leaf := true, managed := true, set := deriveSettings true [] }] := by decide +kernel

/-- root.default drains and keeps its application -/
example : (exDefAfter.find "root.default").map (fun q => (q.state, q.apps)) = some (.draining, ["app-1"]) := by decide +kernel
/-- before the update: a submission no rule places falls back to root.default (the fall-back is live) -/
example : Place.submit exDefTree [exProvided false] { user := exAlice, queue := "root.nosuch".toList, tags := [] } =
    .accepted [Place.sRoot, Place.sDefault] := by
  -- here and below: the kernel is slow to evaluate `.toList` of a literal, so it is rewritten to the character list first
  rw [String.toList_ofList]
  decide +kernel
/-- after it: the same submission is refused (the fall-back of the last rule names the draining queue), so is the direct
    submission — qualified or not, with the provided rule alone (the implicit rule list) or with a fixed rule that names
    the draining queue as the last configured rule —; an active leaf still takes applications -/
example : Place.submit exDefAfter [exProvided false] { user := exAlice, queue := "root.nosuch".toList, tags := [] } = .rejected .noRule := by
  rw [String.toList_ofList, Place.submit, exDefAfter_place]
  decide +kernel
example : Place.submit exDefAfter [] { user := exAlice, queue := "root.default".toList, tags := [] } = .rejected .noRule := by
  rw [String.toList_ofList, Place.submit, exDefAfter_place]
  decide +kernel
example : Place.submit exDefAfter [exProvided true] { user := exAlice, queue := "default".toList, tags := [] } = .rejected .noRule := by
  rw [String.toList_ofList, Place.submit, exDefAfter_place]
  decide +kernel
example : Place.submit exDefAfter [exProvided false, [{ kind := .fixed "root.default".toList, create := true }]]
    { user := exAlice, queue := [], tags := [] } = .rejected .noRule := by
  rw [String.toList_ofList, Place.submit, exDefAfter_place]
  decide +kernel
example : Place.submit exDefAfter [exProvided false] { user := exAlice, queue := "root.b".toList, tags := [] } =
    .accepted [Place.sRoot, ['b']] := by
  rw [String.toList_ofList, Place.submit, exDefAfter_place]
  decide +kernel
/-- a later rule places what the draining queue refuses -/
example : Place.submit exDefAfter [exProvided false, [{ kind := .fixed "root.b".toList }]]
    { user := exAlice, queue := "root.default".toList, tags := [] } = .accepted [Place.sRoot, ['b']] := by
  rw [String.toList_ofList, String.toList_ofList, Place.submit, exDefAfter_place]
  decide +kernel

/-- a partition that sorts its nodes `fair` with weights cpu 1; the update says binpacking with cpu 4 and flips the
    preemption flag, drops root.a and adds root.n -/
def exPartS : Part := { (exFresh (exPC "d" [exRootC, exLeafC "a" 2])) with
  settings := { nodeSort := "fair", weights := [("cpu", "1")], preemption := true, ruleNames := ["provided", "recovery"] } }
def exClusterS : CState := { cluster := [("d", exPartS)], text := "v1" }
def exLateUpdate (bad : Bool) : PC :=
  { (exPC "d" [exRootC, exLeafC "n" 0]) with
    rulesBad := bad
    settings := { nodeSort := "binpacking", weights := [("cpu", "4")], preemption := false, ruleNames := ["providedd", "recovery"] } }

/-- refused by UpdateRules after validator and dry run let it through: answered with an error, nothing changed — the node
    sorting policy neither -/
example : configUpdate exClusterS true true "v2" [exLateUpdate true] = (exClusterS, some .rules) := by decide +kernel
/-- … while the same update with a rule list that is accepted does write the node sorting policy -/
example : ((configUpdate exClusterS true true "v2" [exLateUpdate false]).1.cluster.get "d").map (fun p => (p.settings.nodeSort, p.settings.weights)) =
    some ("binpacking", [("cpu", "4")]) ∧ (configUpdate exClusterS true true "v2" [exLateUpdate false]).2 = none := by decide +kernel

/-- parent -> leaf flip: root -> team (parent) -> team.batch (leaf, app-1), team.adhoc (leaf); the new configuration says
    root -> team (leaf). Both old children are Draining after the walk as the code performs it (batch keeps its
    application), root.team is an active leaf; a submission naming the old child is refused, root.team takes it -/
def exFlipOld : List QC :=
  [exRootC, { exLeafC "team" 0 with isParent := true },
   { exLeafC "team" 0 with path := "root.team.batch", parent := "root.team", name := "batch" },
   { exLeafC "team" 0 with path := "root.team.adhoc", parent := "root.team", name := "adhoc" }]
def exFlipTree : Tree := (applyAll [] exFlipOld).1.upd "root.team.batch" (fun q => { q with apps := ["app-1"], running := 1 })
def exFlipConf : List QC := [exRootC, exLeafC "team" 0]
def exFlipAfter : Tree := (updateTreeRec exFlipTree exFlipConf).1
example : parentsFirst exFlipTree = true ∧ w0 exFlipTree = true ∧ pathParents exFlipTree = true ∧ confWF exFlipConf = true ∧ confPaths exFlipConf = true := by decide +kernel
example : exFlipAfter.map (fun q => (q.path, q.leaf, q.state, q.apps)) =
    [("root", false, .active, []), ("root.team", true, .active, []), ("root.team.batch", true, .draining, ["app-1"]),
     ("root.team.adhoc", true, .draining, [])] := by decide +kernel
example : Place.submit exFlipAfter [exProvided true] { user := exAlice, queue := "root.team.batch".toList, tags := [] } = .rejected .noRule ∧
    Place.submit exFlipAfter [exProvided true] { user := exAlice, queue := "root.team".toList, tags := [] } = .accepted [Place.sRoot, "team".toList] := by
  rw [String.toList_ofList, String.toList_ofList, String.toList_ofList]
  decide +kernel

end Yk.C16
