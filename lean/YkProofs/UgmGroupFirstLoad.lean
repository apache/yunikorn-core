/- The first load and the group accounting invariant: what parsing a configuration into an empty manager establishes
   besides the limits (`FromEmpty`), and `ginv_first_load`, the start of YkProps/C05 group_usage_is_sum_partial.  This is
   the one place where the accounting proofs (UgmGroupAcct) and the reload proofs (UgmReloadWild) meet. -/
import YkProofs.UgmGroupAcct
import YkProofs.UgmReloadWild
namespace Yk.Ugm
open Yk Yk.Res

/-- every `limits:` entry sets a limit (configs.Validate: "all resource limits are null" is refused) -/
def properEntry (l : LimitEntry) : Bool := !(l.maxApps == 0 && isZero l.maxRes)
def ProperCfg (c : Cfg) : Prop := ∀ q ∈ c, q.1.take 1 = rootPath ∧ ∀ l ∈ q.2, properEntry l = true

structure FromEmpty (s : Mgr × NewCfg) : Prop where
  nolinks : ∀ u app, linkOf s.1 u app = none
  named : ∀ g, ahas s.1.groups g = true → ∃ p, (aget2 s.2.groupLimits p g).isSome = true
  inv0 : ∀ g, Acc [] (gtree s.1 g)

theorem linkOf_setUserLimits (m : Mgr) (u : String) (lc : Limit) (p : Path) (u' app : String) :
    linkOf (setUserLimits m u lc p) u' app = linkOf m u' app := by
  unfold setUserLimits
  refine Eq.trans (linkOf_updUser_qt _ _ _ ?_ u' app) (linkOf_ensureUser m u u' app)
  intro ut; rfl

theorem FromEmpty_procUser {s : Mgr × NewCfg} (h : FromEmpty s) (p : Path) (lc : Limit) (u : String) : FromEmpty (procUser p lc s u) := by
  rcases procUser_cases p lc s u with e | e | e <;> rw [e]
  · exact h
  · exact ⟨h.nolinks, h.named, h.inv0⟩
  · refine ⟨fun u' app => ?_, ?_, ?_⟩
    · show linkOf (setUserLimits s.1 u lc p) u' app = none
      rw [linkOf_setUserLimits]; exact h.nolinks u' app
    · rw [setUserLimits_eq]; exact h.named
    · intro g; rw [gtree_setUserLimits]; exact h.inv0 g

theorem FromEmpty_procGroup {s : Mgr × NewCfg} (h : FromEmpty s) (p : Path) (lc : Limit) (g : String) :
    FromEmpty (procGroup p lc s g) := by
  rcases procGroup_shape p lc s g with ⟨_, e⟩ | ⟨n', e, _, _, e3, _, _⟩ <;> rw [e]
  · exact h
  · refine ⟨?_, ?_, ?_⟩
    · intro u app
      exact (linkOf_users_eq (congrArg (aget · u) (users_setGroupLimits s.1 g lc p)) app).trans (h.nolinks u app)
    · intro g' hh
      simp only at hh ⊢
      rw [ahas_eq, aget_setGroupLimits] at hh
      rw [e3]
      by_cases e : g = g'
      · subst e; exact ⟨p, by rw [aget2_aset2]; simp⟩
      · simp only [e, if_false] at hh
        obtain ⟨p', hp'⟩ := h.named g' (by rw [ahas_eq]; exact hh)
        refine ⟨p', ?_⟩
        rw [aget2_aset2]; split
        · rfl
        · exact hp'
    · intro g'
      show Acc [] (gtree (setGroupLimits s.1 g lc p) g')
      rw [gtree_setGroupLimits]
      split
      · exact neutral_setLimit _ _ _ _ _ _ _ _ _ ((h.inv0 g).getD_new _ _)
      · exact h.inv0 g'

theorem FromEmpty_processConfig (c : Cfg) : FromEmpty (processConfig {} c) :=
  processConfig_preserves FromEmpty (fun _ p lc u hs => FromEmpty_procUser hs p lc u)
    (fun _ p lc g hs => FromEmpty_procGroup hs p lc g) {} c ⟨fun _ _ => rfl, fun g h => (by cases h), fun _ => rfl⟩

theorem ensureGroupAux_cases (m : Mgr) (ugs : List String) : ∀ (n : Nat) (p : Path), ensureGroupAux m ugs n p ≠ "" →
    (∃ p' gs, aget m.confGroups p' = some gs ∧ ensureGroupAux m ugs n p ∈ gs) ∨
    (ensureGroupAux m ugs n p = "*" ∧ ∃ p', ahas m.groupWild p' = true) := by
  intro n
  induction n with
  | zero => intro p h; exact absurd rfl h
  | succ n ih =>
    intro p h
    simp only [ensureGroupAux] at h ⊢
    cases hf : ((aget m.confGroups p).getD []).find? (fun cg => ugs.contains cg) with
    | some g0 =>
      simp only
      left
      have hm := List.mem_of_find?_eq_some hf
      cases hc : aget m.confGroups p with
      | none => rw [hc] at hm; simp at hm
      | some gs => rw [hc] at hm; exact ⟨p, gs, hc, hm⟩
    | none =>
      rw [hf] at h
      simp only at h ⊢
      by_cases hw : ahas m.groupWild p = true
      · rw [if_pos hw]; right; exact ⟨rfl, p, hw⟩
      · rw [if_neg hw] at h ⊢
        by_cases hl : p.length ≤ 1
        · rw [if_pos hl] at h; exact absurd rfl h
        · rw [if_neg hl] at h ⊢; exact ih _ h

theorem properCfgB_of_ProperCfg {c : Cfg} (hc : ProperCfg c) : properCfgB c = true := by
  unfold properCfgB
  simp only [List.all_eq_true, Bool.and_eq_true, beq_iff_eq]
  exact fun q hq => ⟨(hc q hq).1, fun l hl => (hc q hq).2 l hl⟩

theorem ginv_first_load (c : Cfg) (hc : ProperCfg c) : GInv (updateConfig {} c) [] := by
  have hp1 := phase1 synced_empty c (properCfgB_ne (properCfgB_of_ProperCfg hc))
  have hfe := FromEmpty_processConfig c
  have hpn := PM_processConfig_proper {} c (properCfgB_of_ProperCfg hc)
  have hU : UInv (updateConfig {} c).users [] := uinv_updateConfig uinv_empty c
  have hupd : updateConfig {} c =
      replaceLimitConfigs (applyWildCardUserLimits (processConfig {} c).1 (processConfig {} c).2) (processConfig {} c).2 := by
    have hgl : (processConfig {} c).1.groupLimits = [] := hp1.gl
    have hul : (processConfig {} c).1.userLimits = [] := hp1.ul
    have hw : (processConfig {} c).1.userWild = [] := hp1.w
    unfold updateConfig finishConfig clearEarlierSetUserWildCardLimits
    simp only
    rw [hgl, hul]
    simp only [dropped, List.flatMap_nil, clearEarlierSetLimitsL, List.foldl_nil]
    rw [hw]
    rfl
  rw [hupd] at hU ⊢
  have hgs := hp1.gs
  generalize processConfig {} c = s at hgs hfe hU hpn ⊢
  obtain ⟨hgroups, _, hlinks'⟩ := applyWild_frame s.2 s.2.userWild s.1
  rw [← applyWild_eq] at hgroups hlinks'
  have hlinks : ∀ u app, linkOf (replaceLimitConfigs (applyWildCardUserLimits s.1 s.2) s.2) u app = none :=
    fun u app => (hlinks' u app).trans (hfe.nolinks u app)
  replace hgroups : (replaceLimitConfigs (applyWildCardUserLimits s.1 s.2) s.2).groups = s.1.groups := hgroups
  have hex : ∀ p g, (aget2 s.2.groupLimits p g).isSome = true → ∃ gt n lc, aget s.1.groups g = some gt ∧
      aget2 s.2.groupLimits p g = some lc ∧ aget gt.qt p = some n ∧ triple n = t3 lc ∧ ∀ p' ∈ prefixes p, ahas gt.qt p' = true := by
    intro p g hs
    obtain ⟨lc, hlc⟩ := Option.isSome_iff_exists.mp hs
    obtain ⟨t, n, hT, hn, ht, hpre⟩ := hgs.exact g p lc hlc
    unfold gtree at hT
    obtain ⟨gt, hgt, rfl⟩ := Option.map_eq_some_iff.mp hT
    exact ⟨gt, n, lc, hgt, hlc, hn, ht, hpre⟩
  have hhas : ∀ p g, (aget2 s.2.groupLimits p g).isSome = true → ahas s.1.groups g = true := by
    intro p g hs
    obtain ⟨gt, _, _, hgt, _⟩ := hex p g hs
    rw [ahas_eq, hgt]; rfl
  refine ⟨hU, fun e1 h1 => (by cases h1), fun e he => (by cases he), ?_, ?_, ?_, ?_⟩
  · intro u app g hlk; rw [hlinks] at hlk; cases hlk
  · intro ugs q hne'
    rw [hgroups]
    unfold ensureGroup at hne' ⊢
    split at hne'
    · exact absurd rfl hne'
    · rename_i hemp
      rw [if_neg hemp]
      rcases ensureGroupAux_cases _ ugs q.length q hne' with ⟨p', gs, hgs', hmem⟩ | ⟨hstar, p', hp'⟩
      · exact hhas p' _ (hpn.cc1 p' gs hgs' _ hmem)
      · rw [hstar]; exact hhas p' "*" (hpn.cc2 p' hp')
  · -- a group tracker is named on some queue, with a limit that a proper entry set: it is anchored there
    intro g gt hgt
    rw [hgroups] at hgt
    obtain ⟨p, hp⟩ := hfe.named g (by rw [ahas_eq, hgt]; rfl)
    obtain ⟨gt', n, lc, hgt', hlc, hn, ht, hpre⟩ := hex p g hp
    rw [hgt] at hgt'; cases hgt'
    have hpa := hpn.gl p g lc hlc
    exact ⟨p, hpa.1, ⟨n, hn, limitedL_limited hpa.2 ht⟩, hpre⟩
  · intro g gt _ hgt
    rw [hgroups] at hgt
    have := hfe.inv0 g
    unfold gtree at this; rw [hgt] at this; exact this

end Yk.Ugm
