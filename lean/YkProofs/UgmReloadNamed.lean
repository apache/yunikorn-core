/- The invariants of one side (users, or groups) of the manager while UpdateConfig parses the new configuration
   (internalProcessConfig: `Side`, `phase1`) and resets the limits the new configuration dropped (clearEarlierSetLimits:
   `Side2`, `phase2`). -/
import YkProofs.UgmReloadTree
namespace Yk.Ugm
open Yk Yk.Res

theorem update_some {α : Type} {T : String → Option α} {x x' : String} {v : Option α} {a : α}
    (h : (if x = x' then v else T x') = some a) : (x = x' ∧ v = some a) ∨ (x ≠ x' ∧ T x' = some a) := by
  by_cases e : x = x'
  · rw [if_pos e] at h; exact Or.inl ⟨e, h⟩
  · rw [if_neg e] at h; exact Or.inr ⟨e, h⟩

/-! ### one side of the manager through internalProcessConfig -/

def InOld (Lold : List (Path × List (String × Limit))) (p : Path) (x : String) : Prop := ∃ us l, (p, us) ∈ Lold ∧ (x, l) ∈ us

/-- the trackers `T` of one side while the new configuration is parsed into `Lnew`.  `Side` is the invariant of one side
    during the first phase of UpdateConfig; `Side2`, `Side3`, `Side4` are those of the second, third and fourth phase.
    `pre` (a tracker on a queue where the OLD configuration names the owner is reachable from the root) is kept for the
    second phase: by it a queue that is not `tracked` has no tracker at all, so where the reset of a dropped limit finds
    nothing tracked, nothing of the old limit is left (`Side2_step`). -/
structure Side (w : List (Path × Limit)) (b : Bool) (Lold : List (Path × List (String × Limit))) (T : String → Option Tree)
    (Lnew : List (Path × List (String × Limit))) : Prop where
  nd : ∀ x t, T x = some t → KeysNodup t
  allow : ∀ x t, T x = some t → QA t (fun p τ => (aget2 Lnew p x).isSome = true ∨ OldT w Lold x p τ)
  exact : ∀ x p lc, aget2 Lnew p x = some lc → ∃ t n, T x = some t ∧ aget t p = some n ∧ triple n = t3 lc ∧ ∀ p' ∈ prefixes p, ahas t p' = true
  pre : ∀ x t p, T x = some t → InOld Lold p x → ahas t p = true → ∀ p' ∈ prefixes p, ahas t p' = true
  ne : ∀ x t, T x = some t → ahas t [] = false

section
variable {w : List (Path × Limit)} {b : Bool} {Lold Lnew : List (Path × List (String × Limit))} {T T' : String → Option Tree}

theorem Side.trackers (h : Side w b Lold T Lnew) : Trackers (OldT w Lold) (fun x p => aget2 Lnew p x) T :=
  Trackers.of_clauses h.nd h.allow h.exact h.ne

theorem Side.of_trackers (h : Trackers (OldT w Lold) (fun x p => aget2 Lnew p x) T)
    (hpre : ∀ x t p, T x = some t → InOld Lold p x → ahas t p = true → ∀ p' ∈ prefixes p, ahas t p' = true) :
    Side w b Lold T Lnew :=
  ⟨fun x t hT => (h.inv x t hT).nd, fun x t hT => (h.inv x t hT).allow, h.exact, hpre, fun x t hT => (h.inv x t hT).ne⟩

theorem Side_congr (h : Side w b Lold T Lnew) (e : ∀ x, T' x = T x) : Side w b Lold T' Lnew := (funext e : T' = T) ▸ h

/-- setUserLimits / setGroupLimits of name `x` on queue `q`, as seen on the trackers of the side -/
theorem Side_set (h : Side w b Lold T Lnew) (x : String) {q : Path} (hq : q ≠ []) (lc : Limit) :
    Side w b Lold (fun x' => if x = x' then some (setLimit w b ((T x).getD (newTree w b)) q lc.maxRes lc.maxApps false false) else T x')
      (aset2 Lnew q x lc) := by
  have hnew : ∀ p, OldT w Lold x p (triple (newNode w b p)) := fun p => newNode_triple w b p _
  have h0 : TreeInv (OldT w Lold x) (fun p => aget2 Lnew p x) ((T x).getD (newTree w b)) ∧
      ∀ p, InOld Lold p x → ahas ((T x).getD (newTree w b)) p = true → ∀ p' ∈ prefixes p, ahas ((T x).getD (newTree w b)) p' = true := by
    cases hT : T x with
    | some t => exact ⟨h.trackers.inv x t hT, fun p => h.pre x t p hT⟩
    | none =>
      refine ⟨TreeInv_newTree w b (fun p => ?_) (hnew _), fun p _ ha p' hp' => ?_⟩
      · cases hl : aget2 Lnew p x with
        | none => rfl
        | some lc' => obtain ⟨t, _, hT', _⟩ := h.exact x p lc' hl; rw [hT] at hT'; cases hT'
      · simp only [Option.getD_none, ahas_eq, aget_newTree] at ha ⊢
        by_cases er : rootPath = p
        · subst er; rw [prefixes_rootPath] at hp'; simp at hp'; subst hp'; simp
        · simp [er] at ha
  refine Side.of_trackers ⟨?_, ?_⟩ ?_
  · intro x' t ht
    rcases update_some ht with ⟨e, hv⟩ | ⟨e, hT⟩
    · subst e; cases hv
      exact h0.1.setNamed w b hq lc (by rw [aget2_aset2]; simp) (fun p hp => by rw [aget2_aset2]; simp [hp]) hnew
    · have : (fun p => aget2 (aset2 Lnew q x lc) p x') = fun p => aget2 Lnew p x' := by funext p; rw [aget2_aset2]; simp [e]
      show TreeInv _ (fun p => aget2 (aset2 Lnew q x lc) p x') t
      rw [this]; exact h.trackers.inv x' t hT
  · intro x' p lc' hl
    by_cases e : x = x'
    · exact ⟨_, if_pos e⟩
    · rw [aget2_aset2, if_neg (fun hc => e hc.2)] at hl
      obtain ⟨t, hT⟩ := h.trackers.has x' p lc' hl
      exact ⟨t, (if_neg e).trans hT⟩
  · intro x' t p ht hs ha
    rcases update_some ht with ⟨e, hv⟩ | ⟨e, hT⟩
    · subst e; cases hv
      exact ahas_setLimit_closed (h0.2 p hs) ha
    · exact h.pre x' t p hT hs ha

end

/-! ### internalProcessConfig on the manager -/

/-- the trackers are in step with the active configuration: every queue tracker holds no limit, the wildcard limit of
    its queue or the limit its user / group is named with there; named queues are reachable from the root -/
structure Synced (m : Mgr) : Prop where
  us : Side m.userWild true m.userLimits (utree m) []
  gs : Side [] false m.groupLimits (gtree m) []
  wne : ∀ e ∈ m.userWild, e.1 ≠ []

structure Parsing (m0 : Mgr) (s : Mgr × NewCfg) : Prop where
  w : s.1.userWild = m0.userWild
  ul : s.1.userLimits = m0.userLimits
  gl : s.1.groupLimits = m0.groupLimits
  us : Side m0.userWild true m0.userLimits (utree s.1) s.2.userLimits
  gs : Side [] false m0.groupLimits (gtree s.1) s.2.groupLimits

theorem Parsing_procUser {m0 : Mgr} {s : Mgr × NewCfg} (h : Parsing m0 s) {p : Path} (hp : p ≠ []) (lc : Limit) (u : String) :
    Parsing m0 (procUser p lc s u) := by
  rcases procUser_cases p lc s u with e | e | e <;> rw [e]
  · exact h
  · exact ⟨h.w, h.ul, h.gl, h.us, h.gs⟩
  · obtain ⟨c1, c2, c3⟩ := setUserLimits_frame s.1 u lc p
    refine ⟨c1.trans h.w, c2.trans h.ul, c3.trans h.gl, ?_, Side_congr h.gs (gtree_setUserLimits s.1 u lc p)⟩
    exact Side_congr (Side_set h.us u hp lc) (fun u' => by rw [utree_setUserLimits, h.w])

theorem Parsing_procGroup {m0 : Mgr} {s : Mgr × NewCfg} (h : Parsing m0 s) {p : Path} (hp : p ≠ []) (lc : Limit) (g : String) :
    Parsing m0 (procGroup p lc s g) := by
  rcases procGroup_shape p lc s g with ⟨_, e⟩ | ⟨n', e, f2, _, f1, _, _⟩ <;> rw [e]
  · exact h
  · obtain ⟨c1, c2, c3⟩ := setGroupLimits_frame s.1 g lc p
    refine ⟨c1.trans h.w, c2.trans h.ul, c3.trans h.gl, ?_, ?_⟩
    · rw [show (setGroupLimits s.1 g lc p, n').2.userLimits = s.2.userLimits from f2]
      exact Side_congr h.us (utree_setGroupLimits s.1 g lc p)
    · rw [show (setGroupLimits s.1 g lc p, n').2.groupLimits = aset2 s.2.groupLimits p g lc from f1]
      exact Side_congr (Side_set h.gs g hp lc) (gtree_setGroupLimits s.1 g lc p)

theorem phase1 {m0 : Mgr} (h : Synced m0) (c : Cfg) (hc : ∀ q ∈ c, q.1 ≠ []) : Parsing m0 (processConfig m0 c) :=
  processConfig_lift (Parsing m0) (fun p _ => p ≠ []) (fun _ _ _ u hp hs => Parsing_procUser hs hp _ u)
    (fun _ _ _ g hp hs => Parsing_procGroup hs hp _ g) m0 c (fun q hq _ _ => hc q hq) ⟨rfl, rfl, rfl, h.us, h.gs⟩

/-! ### clearEarlierSetLimits on one side -/

/-- `todo`: the resets still to come -/
structure Side2 (w : List (Path × Limit)) (b : Bool) (Lold Lnew : List (Path × List (String × Limit))) (T : String → Option Tree)
    (todo : List (Path × String)) : Prop extends
    Trackers (fun x p τ => τ = dflt ∨ WildT w p τ ∨ (NamedT Lold p x τ ∧ (p, x) ∈ todo)) (fun x p => aget2 Lnew p x) T where
  pre : ∀ pd x, (pd, x) ∈ todo → ∀ t, T x = some t → ahas t pd = true → ∀ p' ∈ prefixes pd, ahas t p' = true

theorem mem_dropped {old new : List (Path × List (String × Limit))} {p : Path} {x : String} {lc : Limit}
    (h1 : aget2 old p x = some lc) (h2 : aget2 new p x = none) : (p, x) ∈ dropped old new := by
  unfold aget2 at h1
  cases ho : aget old p with
  | none => rw [ho] at h1; cases h1
  | some us =>
    rw [ho] at h1
    simp only at h1
    unfold dropped
    rw [List.mem_flatMap]
    refine ⟨(p, us), aget_mem ho, ?_⟩
    rw [List.mem_map]
    refine ⟨(x, lc), ?_, rfl⟩
    rw [List.mem_filter]
    exact ⟨aget_mem h1, by simp [h2]⟩

theorem InOld_of_mem_dropped {old new : List (Path × List (String × Limit))} {p : Path} {x : String}
    (h : (p, x) ∈ dropped old new) : InOld old p x := by
  unfold dropped at h
  obtain ⟨e, he, hm⟩ := List.mem_flatMap.mp h
  obtain ⟨ul, hul, heq⟩ := List.mem_map.mp hm
  cases heq
  exact ⟨e.2, ul.2, he, (List.mem_filter.mp hul).1⟩

section
variable {w : List (Path × Limit)} {b : Bool} {Lold Lnew : List (Path × List (String × Limit))} {T T' : String → Option Tree}
  {todo : List (Path × String)}

theorem Side2_init (h : Side w b Lold T Lnew) : Side2 w b Lold Lnew T (dropped Lold Lnew) := by
  refine ⟨⟨fun x t hT => (h.trackers.inv x t hT).mono ?_, h.trackers.has⟩, fun pd x hm t hT => h.pre x t pd hT (InOld_of_mem_dropped hm)⟩
  intro p τ hs
  rcases hs with h1 | h1 | ⟨lc, h1, h2⟩
  · exact Or.inr (Or.inl h1)
  · exact Or.inr (Or.inr (Or.inl h1))
  · cases hnew : aget2 Lnew p x with
    | some l => exact Or.inl rfl
    | none => exact Or.inr (Or.inr (Or.inr ⟨⟨lc, h1, h2⟩, mem_dropped h1 hnew⟩))

theorem Side2_congr (h : Side2 w b Lold Lnew T todo) (e : ∀ x, T' x = T x) : Side2 w b Lold Lnew T' todo := (funext e : T' = T) ▸ h

theorem Side2_step {pd : Path} {x : String} (h : Side2 w b Lold Lnew T ((pd, x) :: todo)) {pre : Tree → Tree} (hpre : KeepsLimits pre)
    (hfresh : ∀ pd', (pd', x) ∉ todo)
    (hkeep : ∀ p lc, aget2 Lnew p x = some lc → pd.isPrefixOf p = false)
    (hproper : ∀ p lc, aget2 Lnew p x = some lc → ProperAt p lc) :
    Side2 w b Lold Lnew (fun x' => if x = x' then (T x).bind (fun t => resetTree w b pre t pd) else T x') todo := by
  -- what was allowed stays allowed, except the old limit of `x` on `pd`
  have hother : ∀ {x' : String} {p : Path} {τ : Triple}, (x ≠ x' ∨ pd ≠ p) →
      (τ = dflt ∨ WildT w p τ ∨ (NamedT Lold p x' τ ∧ (p, x') ∈ (pd, x) :: todo)) →
      τ = dflt ∨ WildT w p τ ∨ (NamedT Lold p x' τ ∧ (p, x') ∈ todo) := by
    intro x' p τ hne hs
    rcases hs with h1 | h1 | ⟨h1, h2⟩
    · exact Or.inl h1
    · exact Or.inr (Or.inl h1)
    · rcases List.mem_cons.mp h2 with h2 | h2
      · cases h2; rcases hne with hne | hne <;> exact absurd rfl hne
      · exact Or.inr (Or.inr ⟨h1, h2⟩)
  have hreset : ∀ t, T x = some t → TreeInv (fun p τ => τ = dflt ∨ WildT w p τ ∨ (NamedT Lold p x τ ∧ (p, x) ∈ todo))
      (fun p => aget2 Lnew p x) (resetT2 w b (pre t) pd) := fun t hT =>
    (h.inv x t hT).resetT2 hpre w b hkeep (fun p τ hne => hother (Or.inr hne))
      (fun p => newNode_triple w b p _) (Or.inl rfl)
  refine ⟨⟨?_, ?_⟩, ?_⟩
  · intro x' t' ht'
    rcases update_some ht' with ⟨e, hv⟩ | ⟨e, hT⟩
    · subst e
      obtain ⟨t, hT, hr⟩ := Option.bind_eq_some_iff.mp hv
      unfold resetTree at hr
      by_cases htr : tracked t pd = true
      · rw [if_pos htr] at hr
        by_cases hc : canBeRemoved (resetT2 w b (pre t) pd) = true
        · rw [if_pos hc] at hr; cases hr
        · rw [if_neg hc] at hr; cases hr; exact hreset t hT
      · -- not tracked: the queue has no tracker, nothing of the old limit is there
        rw [if_neg htr] at hr
        have hr := Option.some.inj hr
        subst hr
        refine (h.inv x t hT).mono_on (fun p n hn hs => Or.inr ?_)
        by_cases ep : pd = p
        · subst ep
          have hex : ahas t pd = true := by rw [ahas_eq, hn]; rfl
          have hp0 : pd ≠ [] := by intro e0; rw [e0, (h.inv x t hT).ne] at hex; cases hex
          exact absurd (tracked_of_prefixes hp0 (h.pre pd x List.mem_cons_self t hT hex)) htr
        · exact hother (Or.inr ep) hs
    · exact (h.inv x' t' hT).mono (fun p τ hs => Or.inr (hother (Or.inl e) hs))
  · intro x' p lc hl
    obtain ⟨t, hT⟩ := h.has x' p lc hl
    by_cases e : x = x'
    · subst e
      simp only [if_true, hT, Option.bind_some, resetTree]
      by_cases htr : tracked t pd = true
      · rw [if_pos htr, (hreset t hT).not_canBeRemoved hl (hproper p lc hl)]; exact ⟨_, rfl⟩
      · rw [if_neg htr]; exact ⟨t, rfl⟩
    · exact ⟨t, (if_neg e).trans hT⟩
  · intro pd' x' hm t' ht' ha
    have e : x ≠ x' := by intro e0; subst e0; exact hfresh pd' hm
    exact h.pre pd' x' (List.mem_cons_of_mem _ hm) t' ((if_neg e).symm.trans ht') ha

end

/-- all the resets of one side, for any state type whose step acts on the trackers as `resetTree` does and keeps `I` -/
theorem Side2_fold {σ : Type} (T : σ → String → Option Tree) (stepσ : σ → Path × String → σ)
    {w : List (Path × Limit)} {b : Bool} {Lold Lnew : List (Path × List (String × Limit))} (pre : Path → Tree → Tree)
    (hpre : ∀ pd, KeepsLimits (pre pd)) (I : σ → Prop) (hI : ∀ s d, I s → I (stepσ s d))
    (hstep : ∀ s pd x x', I s → T (stepσ s (pd, x)) x' = if x = x' then (T s x).bind (fun t => resetTree w b (pre pd) t pd) else T s x')
    (hproper : ∀ x p lc, aget2 Lnew p x = some lc → ProperAt p lc)
    (todo : List (Path × String)) (s : σ) (hs : I s) (h : Side2 w b Lold Lnew (T s) todo) (hnd : (todo.map (·.2)).Nodup)
    (hkeep : ∀ d ∈ todo, ∀ p lc, aget2 Lnew p d.2 = some lc → d.1.isPrefixOf p = false) :
    I (todo.foldl stepσ s) ∧ Side2 w b Lold Lnew (T (todo.foldl stepσ s)) [] := by
  refine foldl_inv_parts stepσ todo (fun _ rest s => I s ∧ Side2 w b Lold Lnew (T s) rest) s ⟨hs, h⟩ ?_
  intro done d rest s e ⟨hs, h⟩
  obtain ⟨pd, x⟩ := d
  refine ⟨hI s _ hs, Side2_congr (Side2_step h (hpre pd) ?_ (hkeep (pd, x) (by rw [← e]; simp)) (hproper x))
    (fun x' => hstep s pd x x' hs)⟩
  -- one reset per name: `x` does not come again
  intro pd' hm
  rw [← e, List.map_append, List.map_cons] at hnd
  exact (List.nodup_cons.mp (List.nodup_append.mp hnd).2.1).1 (List.mem_map.mpr ⟨(pd', x), hm, rfl⟩)

/-! ### hypotheses in usable form -/

theorem nodupB_nodup : ∀ (l : List String), nodupB l = true → l.Nodup := by
  intro l
  induction l with
  | nil => intro _; exact List.nodup_nil
  | cons a l ih =>
    intro h
    simp only [nodupB, Bool.and_eq_true, Bool.not_eq_true'] at h
    rw [List.nodup_cons]
    refine ⟨?_, ih h.2⟩
    intro hm
    have := List.contains_iff_mem.mpr hm
    rw [this] at h; cases h.1

theorem noDropAboveKept_use {old new : List (Path × List (String × Limit))} (h : noDropAboveKept old new = true) :
    ∀ d ∈ dropped old new, ∀ p lc, aget2 new p d.2 = some lc → d.1.isPrefixOf p = false := by
  intro d hd p lc hl
  unfold noDropAboveKept at h
  have h1 := List.all_eq_true.mp h d hd
  unfold aget2 at hl
  cases hn : aget new p with
  | none => rw [hn] at hl; cases hl
  | some us =>
    rw [hn] at hl
    simp only at hl
    have h2 := List.all_eq_true.mp h1 (p, us) (aget_mem hn)
    simp only [Bool.not_eq_true', Bool.and_eq_false_iff] at h2
    rcases h2 with h2 | h2
    · exact h2
    · rw [ahas_eq, hl] at h2; cases h2

/-! ### clearEarlierSetLimits on the manager -/

/-- the group resets leave the user side alone, the user resets the group side -/
theorem phase2 {m0 : Mgr} {s : Mgr × NewCfg} (h : Parsing m0 s) (hpn : PM ProperAt s.2)
    (h18u : noDropAboveKept m0.userLimits s.2.userLimits = true) (h18g : noDropAboveKept m0.groupLimits s.2.groupLimits = true)
    (h1u : singleDrop m0.userLimits s.2.userLimits = true) (h1g : singleDrop m0.groupLimits s.2.groupLimits = true)
    (m2 : Mgr) (hm2 : clearEarlierSetLimitsL s.1 (dropped m0.groupLimits s.2.groupLimits) (dropped m0.userLimits s.2.userLimits) = m2) :
    m2.userWild = m0.userWild ∧ m2.userLimits = m0.userLimits ∧
    Side2 m0.userWild true m0.userLimits s.2.userLimits (utree m2) [] ∧ Side2 [] false m0.groupLimits s.2.groupLimits (gtree m2) [] := by
  subst hm2
  unfold clearEarlierSetLimitsL
  obtain ⟨⟨gu1, gu2, gu3⟩, hg⟩ := Side2_fold gtree (fun m e => resetGroupEarlierUsage m e.2 e.1) (fun pd t => (decreaseDownwards t pd).1)
    (fun pd => KeepsLimits_decreaseDownwards pd)
    (fun m => (∀ u, utree m u = utree s.1 u) ∧ m.userWild = s.1.userWild ∧ m.userLimits = s.1.userLimits)
    (fun m e hi => by
      obtain ⟨c1, c2⟩ := resetGroup_frame m e.2 e.1
      exact ⟨fun u => (utree_resetGroup m e.2 e.1 u).trans (hi.1 u), c1.trans hi.2.1, c2.trans hi.2.2⟩)
    (fun m pd x x' _ => gtree_resetGroup m x pd x') (fun x p lc => hpn.gl p x lc)
    (dropped m0.groupLimits s.2.groupLimits) s.1 ⟨fun _ => rfl, rfl, rfl⟩ (Side2_init h.gs) (nodupB_nodup _ h1g) (noDropAboveKept_use h18g)
  generalize (dropped m0.groupLimits s.2.groupLimits).foldl (fun m e => resetGroupEarlierUsage m e.2 e.1) s.1 = mg at hg gu1 gu2 gu3
  obtain ⟨⟨ug1, ug2, ug3⟩, hu⟩ := Side2_fold utree (fun m e => resetUserEarlierUsage m e.2 e.1) (fun _ => id) (fun _ => KeepsLimits_id)
    (fun m => (∀ g, gtree m g = gtree mg g) ∧ m.userWild = m0.userWild ∧ m.userLimits = m0.userLimits)
    (fun m e hi => by
      obtain ⟨c1, c2, _⟩ := resetUser_frame m e.2 e.1
      exact ⟨fun g => (gtree_resetUser m e.2 e.1 g).trans (hi.1 g), c1.trans hi.2.1, c2.trans hi.2.2⟩)
    (fun m pd x x' hm => by rw [utree_resetUser, hm.2.1]) (fun x p lc => hpn.ul p x lc)
    (dropped m0.userLimits s.2.userLimits) mg ⟨fun _ => rfl, gu2.trans h.w, gu3.trans h.ul⟩ (Side2_init (Side_congr h.us gu1))
    (nodupB_nodup _ h1u) (noDropAboveKept_use h18u)
  exact ⟨ug2, ug3, hu, Side2_congr hg ug1⟩

end Yk.Ugm
