/- Property texts of a queue (YkModel/Reload.lean `mergeProps`): the effective value of a property, key by key. -/
import YkModel.Reload
namespace Yk.Reload

theorem get?_append (a b : Props) (k : String) : Props.get? (a ++ b) k = (Props.get? a k).or (Props.get? b k) := by
  unfold Props.get?
  rw [List.find?_append]
  cases List.find? (fun e => decide (e.1 = k)) a <;> simp

theorem get?_none_iff (a : Props) (k : String) : Props.get? a k = none ↔ a.any (fun o => decide (o.1 = k)) = false := by
  unfold Props.get?
  simp [List.find?_eq_none, List.any_eq_false]

theorem get?_filter_map (parent own : Props) (k : String) (h : own.any (fun o => decide (o.1 = k)) = false) :
    Props.get? ((parent.filter (fun e => !(own.any (fun o => decide (o.1 = e.1))))).map (fun e => (e.1, filterParentProperty e.1 e.2))) k =
      (Props.get? parent k).map (filterParentProperty k) := by
  induction parent with
  | nil => rfl
  | cons a r ih =>
    rw [List.filter_cons]
    by_cases hk : a.1 = k
    · have hpass : (!(own.any (fun o => decide (o.1 = a.1)))) = true := by rw [hk, h]; rfl
      simp only [hpass, if_true, List.map_cons]
      unfold Props.get?
      rw [List.find?_cons_of_pos (by simp [hk]), List.find?_cons_of_pos (by simp [hk])]
      simp [hk]
    · by_cases hpass : (!(own.any (fun o => decide (o.1 = a.1)))) = true
      · simp only [hpass, if_true, List.map_cons]
        unfold Props.get? at ih ⊢
        rw [List.find?_cons_of_neg (by simp [hk]), List.find?_cons_of_neg (by simp [hk])]
        exact ih
      · simp only [hpass, Bool.false_eq_true, if_false]
        unfold Props.get? at ih ⊢
        rw [List.find?_cons_of_neg (by simp [hk])]
        exact ih

theorem mergeProps_get? (own parent : Props) (k : String) :
    Props.get? (mergeProps own parent) k =
      (match Props.get? own k with
       | some v => some v
       | none => (Props.get? parent k).map (filterParentProperty k)) := by
  unfold mergeProps
  rw [get?_append]
  cases h : Props.get? own k with
  | some v => rfl
  | none =>
    rw [get?_filter_map parent own k ((get?_none_iff own k).mp h)]
    rfl

end Yk.Reload
