/-
  Lemmas for property C15 (what `Yk.Conf.validate` accepts satisfies the clauses of YkModel/ConfSpec.lean), the part per
  recursive check of the validator: the Except monad, a property of all entries of a walk, parsed resources, then one `_spec`
  per check with the record of what it gives for each entry (`cqr_spec` / `ResOK`, `cqma_spec`, `cq_spec` / `LocalOK`).
  YkProofs/ConfMain.lean puts them together (`validate_facts`, `clauses_of_facts`).
  All proofs are structural inductions over the configuration tree (mutual: a queue / its list of children).
  The clause tags in the comments (A1, S2, Q1–Q4, and L3/L4 in ConfLimits.lean) are those of YkModel/ConfSpec.lean.
  From YkProofs/Quantity.lean: a parsed quantity is a non-negative int64 (`parseQ_exact`), and the instance
  `DecidableEq (Except ε α)` by which YkProps/C15 evaluates its witnesses.
-/
import YkModel.ConfSpec
import YkProofs.Res
import YkProofs.Quantity
namespace Yk.Conf
open Yk Yk.Res

/-! ### the Except monad of the validator -/

theorem bind_ok {ε α β : Type} {x : Except ε α} {f : α → Except ε β} {b : β} :
    (x >>= f) = .ok b ↔ ∃ a, x = .ok a ∧ f a = .ok b := by
  cases x <;> simp [bind, Except.bind]

theorem pure_ok {ε α : Type} {a b : α} : (pure a : Except ε α) = .ok b ↔ a = b := by
  simp [pure, Except.pure]

theorem throw_ok {ε α : Type} {e : ε} {b : α} : (throw e : Except ε α) = .ok b ↔ False := by
  simp [throw, throwThe, MonadExceptOf.throw]

@[simp] theorem throw_bind {ε α β : Type} (e : ε) (f : α → Except ε β) : ((throw e : Except ε α) >>= f) = .error e := rfl
@[simp] theorem throw_map {ε α β : Type} (e : ε) (f : α → β) : (f <$> (throw e : Except ε α)) = .error e := rfl
@[simp] theorem throw_eq {ε α : Type} (e : ε) : (throw e : Except ε α) = .error e := rfl
@[simp] theorem error_bind {ε α β : Type} (e : ε) (f : α → Except ε β) : ((.error e : Except ε α) >>= f) = .error e := rfl
@[simp] theorem ok_bind {ε α β : Type} (a : α) (f : α → Except ε β) : ((.ok a : Except ε α) >>= f) = f a := rfl

theorem ite_err_ok {ε α : Type} {c : Prop} [Decidable c] {e : ε} {x : Except ε α} {b : α} :
    (if c then Except.error e else x) = .ok b ↔ ¬ c ∧ x = .ok b := by
  by_cases h : c <;> simp [h]

theorem ite_not_err_ok {ε α : Type} {c : Bool} {e : ε} {x : Except ε α} {b : α} :
    (if (!c) = true then Except.error e else x) = .ok b ↔ c = true ∧ x = .ok b := by
  cases c <;> simp

/-! ### a property of all entries of a walk, taken apart at the queue and at its list of children -/

theorem forall_walk {P : Entry → Prop} {anc : List QD} {d : QD} {qs : List QC} :
    (∀ e ∈ walk anc (.mk d qs), P e) ↔ P (anc, .mk d qs) ∧ ∀ e ∈ walkL (d :: anc) qs, P e := by
  rw [walk]; exact List.forall_mem_cons

theorem forall_walkL_cons {P : Entry → Prop} {anc : List QD} {q : QC} {t : List QC} :
    (∀ e ∈ walkL anc (q :: t), P e) ↔ (∀ e ∈ walk anc q, P e) ∧ ∀ e ∈ walkL anc t, P e := by
  rw [walkL]; exact List.forall_mem_append

theorem forall_walkL_nil {P : Entry → Prop} {anc : List QD} : ∀ e ∈ walkL anc [], P e := by
  rw [walkL]; exact fun _ h => nomatch h

theorem lookup_aset {α : Type} (m : LMap α) (k : String) (v : α) (k' : String) :
    (aset m k v).lookup k' = if k' = k then some v else m.lookup k' := by
  induction m with
  | nil => unfold aset; rw [List.lookup_cons]; cases h : k' == k <;> simp_all
  | cons p t ih =>
    unfold aset
    split <;> rw [List.lookup_cons, List.lookup_cons] <;> cases h : k' == p.1 <;> simp_all

/-! ### resources parsed from the configuration -/

theorem parseConfL_inv (P : Res → Prop)
    (hset : ∀ (acc : Res) (k s : String) (v : Int), P acc → parseQ s (k == "vcore") = .ok v → P (acc.set k v)) :
    ∀ (m : SMap) (acc r : Res), P acc → parseConfL m acc = .ok r → P r := by
  intro m
  induction m with
  | nil => intro acc r ha h; cases h; exact ha
  | cons p t ih =>
    intro acc r ha h
    unfold parseConfL at h
    split at h
    · rename_i v hv; exact ih _ r (hset acc p.1 p.2 v ha hv) h
    · cases h

theorem parseConf_wf {m : Option SMap} {r : Res} (h : parseConf m = .ok r) : wf r = true :=
  parseConfL_inv (wf · = true) (fun acc k _ v hw _ => set_wf acc hw k v) _ [] r rfl h

def NonNeg (r : Res) : Prop := ∀ k v, r.get? k = some v → 0 ≤ v ∧ v ≤ maxI

theorem nonNeg_set {r : Res} (hr : NonNeg r) (k : String) (v : Int) (hv : 0 ≤ v ∧ v ≤ maxI) : NonNeg (r.set k v) := by
  intro k' v' h
  rw [get?_set] at h
  split at h
  · injection h with h; subst h; exact hv
  · exact hr k' v' h

theorem parseConf_nonNeg {m : Option SMap} {r : Res} (h : parseConf m = .ok r) : NonNeg r := by
  refine parseConfL_inv NonNeg (fun acc k s v hn hv => ?_) _ [] r (fun k v h => by simp [get?] at h) h
  obtain ⟨_, _, _, _, _, _, h0, hr⟩ := parseQ_exact s _ v hv
  exact nonNeg_set hn k v ⟨h0, hr.2⟩

theorem qty_of_parse {m : Option SMap} {r : Res} (h : parseConf m = .ok r) (t : String) : qty m t = r.get? t := by
  simp [qty, h]

theorem qty_nonneg {m : Option SMap} {t : String} {v : Int} (h : qty m t = some v) : 0 ≤ v ∧ v ≤ maxI := by
  unfold qty at h
  split at h
  · rename_i r hr; exact parseConf_nonNeg hr t v h
  · cases h

/-! ### FitInMaxUndef, by type -/

def oget (r : ORes) (t : String) : Option Int := (orZero r).get? t

/-- `fitInMaxUndef_le` for a lower bound of the quantity, where a type that is not mentioned counts as 0 -/
theorem le_of_fit {p : ORes} {c : Res} (h : fitInMaxUndef p (some c) = true) {t : String} {s pv : Int}
    (hs : s ≤ c.getD t) (hp : oget p t = some pv) : s ≤ max 0 pv := by
  rw [getD_eq_get?] at hs
  cases hx : c.get? t with
  | none => rw [hx] at hs; simp at hs; omega
  | some x => rw [hx] at hs; have := fitInMaxUndef_le h hx hp; simp at hs; omega

theorem fit_of {p : ORes} {c : Res}
    (h : ∀ t x, (t, x) ∈ c → ∀ pv, oget p t = some pv → x ≤ max 0 pv) : fitInMaxUndef p (some c) = true := by
  refine (fitIn_some p c true false).mpr fun ⟨t, x⟩ hm => ?_
  cases hp : (orZero p).get? t with
  | none => exact .inl ⟨rfl, by rw [has_eq_get?, hp]; rfl⟩
  | some pv => exact .inr (by rw [getD_eq_get?, hp]; exact h t x hm pv hp)

/-! ### checkQueueResource -/

theorem checkResourceConfig_ok {d : QD} {g m : Res} (h : checkResourceConfig d = .ok (g, m)) :
    parseConf d.g = .ok g ∧ parseConf d.m = .ok m ∧ fitInMaxUndef (some m) (some g) = true := by
  unfold checkResourceConfig at h
  simp only [bind_ok, throw_bind, ite_not_err_ok, pure_ok, Prod.mk.injEq] at h
  obtain ⟨g', hg, m', hm, hf, h1, h2⟩ := h
  subst h1; subst h2
  exact ⟨hg, hm, hf⟩

def ownG (c : QC) (t : String) : Int := (qty c.d.g t).getD 0

theorem sumGuaranteed_cons (c : QC) (qs : List QC) (t : String) :
    sumGuaranteed (c :: qs) t = ownG c t + sumGuaranteed qs t := by
  simp [sumGuaranteed, ownG]

theorem ownG_nonneg (c : QC) (t : String) : 0 ≤ ownG c t ∧ ownG c t ≤ maxI := by
  unfold ownG
  cases h : qty c.d.g t with
  | none => simp [maxI]
  | some v => simpa using qty_nonneg h

theorem sumGuaranteed_nonneg (qs : List QC) (t : String) : 0 ≤ sumGuaranteed qs t := by
  induction qs with
  | nil => simp [sumGuaranteed]
  | cons c qs ih => rw [sumGuaranteed_cons]; have := (ownG_nonneg c t).1; omega

theorem nonNeg_getD {r : Res} (h : NonNeg r) (k : String) : 0 ≤ r.getD k ∧ r.getD k ≤ maxI := by
  rw [getD_eq_get?]
  cases hg : r.get? k with
  | none => simp [maxI]
  | some v => simpa using h k v hg

/-- AddTo on non-negative int64 quantities: the sum, capped at MaxInt64 -/
theorem add_getD_sat {l r : Res} (hl : NonNeg l) (hr : NonNeg r) (hw : wf r = true) (k : String) :
    (add (some l) (some r)).getD k = min (l.getD k + r.getD k) maxI := by
  rw [add_getD l r hw k]
  have ⟨l0, l1⟩ := nonNeg_getD hl k
  have ⟨r0, r1⟩ := nonNeg_getD hr k
  have hM : maxI = 9223372036854775807 := rfl
  by_cases hh : has r k = true
  · have ha : inR (l.getD k) := by unfold inR minI; omega
    have hb : inR (r.getD k) := by unfold inR minI; omega
    rw [if_pos hh, goAddVal_spec ha hb]
    unfold clamp minI; omega
  · rw [if_neg hh]
    have : r.getD k = 0 := getD_of_not_has (by simpa using hh)
    rw [this]; omega

theorem add_nonNeg {l r : Res} (hl : NonNeg l) (hr : NonNeg r) (hw : wf r = true) : NonNeg (add (some l) (some r)) := by
  intro k v h
  have := add_getD_sat hl hr hw k
  rw [getD_eq_get?, h, Option.getD_some] at this
  have ⟨l0, _⟩ := nonNeg_getD hl k
  have ⟨r0, _⟩ := nonNeg_getD hr k
  unfold maxI at *; omega

theorem add_wf {l r : Res} (hl : wf l = true) : wf (add (some l) (some r)) = true := by
  unfold add orZero; exact zipFold_wf _ _ _ hl

/-- an ancestor list is dominated by the effective maximum handed down to a queue.  The induction hypothesis of `cqr_spec`:
    the validator compares a queue with its parent's effective maximum only, this turns it into Q1 / Q4 for EVERY ancestor. -/
def BoundsM (pm : ORes) (anc : List QD) : Prop :=
  ∀ a ∈ anc, ∀ t v, qty a.m t = some v → ∃ v', oget pm t = some v' ∧ v' ≤ v

/-- the resource clauses of one entry, as propositions (Q1, Q2 for the own maximum, Q3, Q4) -/
structure ResOK (e : Entry) : Prop where
  q1 : ∀ a ∈ e.1, ∀ t x v, qty e.2.d.m t = some x → qty a.m t = some v → x ≤ v
  q2 : ∀ t x v, qty e.2.d.g t = some x → qty e.2.d.m t = some v → x ≤ v
  q3 : ∀ t v, qty e.2.d.g t = some v → min (sumGuaranteed e.2.qs t) maxI ≤ v
  q4 : ∀ a ∈ e.2.d :: e.1, ∀ t v, qty a.m t = some v → min (sumGuaranteed e.2.qs t) maxI ≤ v
  parses : ∃ g m, parseConf e.2.d.g = .ok g ∧ parseConf e.2.d.m = .ok m

mutual
theorem cqr_spec : ∀ (q : QC) (pm : ORes) (res : Res) (anc : List QD),
    checkQueueResource q pm = .ok res → wf (orZero pm) = true → BoundsM pm anc →
    (∀ e ∈ walk anc q, ResOK e) ∧ wf res = true ∧ NonNeg res ∧ (∀ t, ownG q t ≤ res.getD t)
  | .mk d qs, pm, res, anc, h, hwp, hb => by
    unfold checkQueueResource at h
    simp only [bind_ok, throw_bind, ite_not_err_ok] at h
    obtain ⟨⟨g, m0⟩, hrc, hfp, sumG, hl, hfg, hfm, hres⟩ := h
    obtain ⟨hg, hm, hgm⟩ := checkResourceConfig_ok hrc
    simp only at hres hl hfg hfm hfp
    have hwm := parseConf_wf hm
    have hwg := parseConf_wf hg
    have hng := parseConf_nonNeg hg
    have hop : oresWf pm = true := (oresWf_eq pm).trans hwp
    obtain ⟨ht1, ht2⟩ := cwm_le (l := some m0) hwm hop
    have hwc := cwm_wf_orZero (l := some m0) hwm hwp
    have hb' : BoundsM (componentWiseMin (some m0) pm) (d :: anc) := by
      intro a ha t v hv
      cases ha with
      | head =>
        rw [qty_of_parse hm] at hv
        exact ht1.get?_le hv
      | tail _ ha =>
        obtain ⟨v', hv', hle⟩ := hb a ha t v hv
        obtain ⟨v'', hv'', hle'⟩ := ht2.get?_le hv'
        exact ⟨v'', hv'', Int.le_trans hle' hle⟩
    obtain ⟨hch, hws, hns, hlb⟩ := cqrL_spec qs _ [] sumG (d :: anc) hl hwc hb' rfl (by intro k v h; simp at h)
    have hsum : ∀ t, min (sumGuaranteed qs t) maxI ≤ sumG.getD t := by
      intro t; have := hlb t; simpa using this
    refine ⟨forall_walk.mpr ⟨⟨?_, ?_, ?_, ?_, ⟨g, m0, hg, hm⟩⟩, hch⟩, ?_⟩
    · intro a ha t x v hx hv
      simp only [QC.d] at hx
      rw [qty_of_parse hm] at hx
      obtain ⟨v', hv', hle⟩ := hb a ha t v hv
      have := fitInMaxUndef_le hfp hx hv'
      have := (qty_nonneg hv).1
      omega
    · intro t x v hx hv
      simp only [QC.d] at hx hv
      rw [qty_of_parse hg] at hx
      rw [qty_of_parse hm] at hv
      have := fitInMaxUndef_le hgm hx (by simpa [oget, orZero] using hv)
      have := (parseConf_nonNeg hm t v hv).1
      omega
    · intro t v hv
      simp only [QC.d] at hv
      rw [qty_of_parse hg] at hv
      have := le_of_fit hfg (hsum t) (p := some g) hv
      have := (hng t v hv).1
      show min (sumGuaranteed qs t) maxI ≤ v
      omega
    · intro a ha t v hv
      obtain ⟨v', hv', hle⟩ := hb' a ha t v hv
      have := le_of_fit hfm (hsum t) hv'
      have := (qty_nonneg hv).1
      show min (sumGuaranteed qs t) maxI ≤ v
      omega
    · have hown : ∀ t, ownG (.mk d qs) t = g.getD t := by
        intro t; simp only [ownG, QC.d]; rw [qty_of_parse hg, getD_eq_get?]
      split at hres <;> cases pure_ok.mp hres
      · rename_i hz
        exact ⟨hws, hns, fun t => by rw [hown, isZero_getD hz t]; exact (nonNeg_getD hns t).1⟩
      · exact ⟨hwg, hng, fun t => by rw [hown]; exact Int.le_refl _⟩
theorem cqrL_spec : ∀ (qs : List QC) (pm : ORes) (acc sumG : Res) (anc : List QD),
    checkQueueResourceL qs pm acc = .ok sumG → wf (orZero pm) = true → BoundsM pm anc →
    wf acc = true → NonNeg acc →
    (∀ e ∈ walkL anc qs, ResOK e) ∧ wf sumG = true ∧ NonNeg sumG ∧
      (∀ t, min (acc.getD t + sumGuaranteed qs t) maxI ≤ sumG.getD t)
  | [], pm, acc, sumG, anc, h, _, _, hwa, hna => by
    unfold checkQueueResourceL at h
    injection h with h; subst h
    refine ⟨forall_walkL_nil, hwa, hna, ?_⟩
    intro t; simp [sumGuaranteed]; exact Int.min_le_left _ _
  | q :: tl, pm, acc, sumG, anc, h, hwp, hb, hwa, hna => by
    unfold checkQueueResourceL at h
    obtain ⟨childG, hq, ht⟩ := bind_ok.mp h
    obtain ⟨hqe, hwc, hnc, hown⟩ := cqr_spec q pm childG anc hq hwp hb
    obtain ⟨hte, hws, hns, hlb⟩ := cqrL_spec tl pm _ sumG anc ht hwp hb (add_wf hwa) (add_nonNeg hna hnc hwc)
    refine ⟨forall_walkL_cons.mpr ⟨hqe, hte⟩, hws, hns, fun t => ?_⟩
    have h1 := hlb t
    rw [add_getD_sat hna hnc hwc t] at h1
    rw [sumGuaranteed_cons]
    have := hown t
    have := sumGuaranteed_nonneg tl t
    have := (nonNeg_getD hna t).1
    omega
end

/-! ### checkQueueMaxApplications -/

/-- A1 for one entry -/
def AppsOK (e : Entry) : Prop := ∀ a ∈ e.1, a.maxApps ≠ 0 → e.2.d.maxApps ≠ 0 ∧ e.2.d.maxApps ≤ a.maxApps

mutual
theorem cqma_spec : ∀ (q : QC) (anc : List QD), checkQueueMaxApps q = .ok () →
    (∀ a ∈ anc, a.maxApps ≠ 0 → q.d.maxApps ≠ 0 ∧ q.d.maxApps ≤ a.maxApps) → ∀ e ∈ walk anc q, AppsOK e
  | .mk d qs, anc, h, hpre => by
    unfold checkQueueMaxApps at h
    refine forall_walk.mpr ⟨hpre, cqmaL_spec qs d.maxApps (d :: anc) h fun a ha hne => ?_⟩
    cases ha with
    | head => exact ⟨hne, Nat.le_refl _⟩
    | tail _ ha => exact hpre a ha hne
theorem cqmaL_spec : ∀ (qs : List QC) (cur : Nat) (anc : List QD), checkQueueMaxAppsL qs cur = .ok () →
    (∀ a ∈ anc, a.maxApps ≠ 0 → cur ≠ 0 ∧ cur ≤ a.maxApps) → ∀ e ∈ walkL anc qs, AppsOK e
  | [], _, _, _, _ => forall_walkL_nil
  | c :: t, cur, anc, h, hpre => by
    unfold checkQueueMaxAppsL at h
    simp only [ite_err_ok, bind_ok] at h
    obtain ⟨h1, h2, _, hc, ht⟩ := h
    simp only [Bool.and_eq_true, bne_iff_ne, ne_eq, decide_eq_true_eq, beq_iff_eq, not_and] at h1 h2
    refine forall_walkL_cons.mpr ⟨cqma_spec c anc hc fun a ha hne => ?_, cqmaL_spec t cur anc ht hpre⟩
    obtain ⟨hc0, hle⟩ := hpre a ha hne
    have := h1 hc0
    have := h2 hc0
    exact ⟨by omega, by omega⟩
end

/-! ### checkQueues: names and the limits of a queue against the queue itself -/

theorem mapLen_zero_qty {m : Option SMap} (h : mapLen m = 0) (t : String) : qty m t = none := by
  unfold mapLen at h
  have : m.getD [] = [] := List.eq_nil_of_length_eq_zero h
  unfold qty parseConf; rw [this]; rfl

/-- checkLimit as a chain of checks: `do` copies the rest of the block at every `throw`, which `throw_bind` removes again -/
theorem checkLimit_eq (l : Limit) (su sg : List String) (q : QD) : checkLimit l su sg q =
    if (l.users.getD []).isEmpty && (l.groups.getD []).isEmpty then .error .limitEmpty else
    checkLimitUsers (l.users.getD []) su >>= fun su =>
    checkLimitGroups (l.groups.getD []) sg >>= fun sg =>
    if sg.contains "*" && sg.length == 1 then .error .limitOnlyWildcardGroup else
    limitResOf l >>= fun limitRes =>
    if l.maxApps == 0 && mapLen l.maxRes == 0 then .error .limitAllNull else
    if q.maxApps != 0 && q.maxApps < l.maxApps then .error .limitAppsGtQueue else
    if q.name != "root" then
      match parseConf q.m with
      | .error _ => .error .limitQueueMaxParse
      | .ok qm => if !fitInMaxUndef (some qm) (some limitRes) then .error .limitResGtQueue else .ok (su, sg)
    else .ok (su, sg) := by
  unfold checkLimit
  simp only [throw_bind]
  rfl

theorem limitResOf_ok {l : Limit} {r : Res} (h : limitResOf l = .ok r) :
    (∃ lr, parseConf l.maxRes = .ok lr) ∧ ∀ t, qty l.maxRes t = r.get? t := by
  unfold limitResOf at h
  split at h
  · simp only [throw_bind, bind_ok, ite_not_err_ok, pure_ok] at h
    obtain ⟨r', hr', _, hrr⟩ := h
    subst hrr
    exact ⟨⟨r', hr'⟩, qty_of_parse hr'⟩
  · rename_i hm
    have hm : mapLen l.maxRes = 0 := by simpa using hm
    have hnil : l.maxRes.getD [] = [] := List.eq_nil_of_length_eq_zero hm
    cases pure_ok.mp h
    exact ⟨⟨[], by unfold parseConf; rw [hnil]; rfl⟩, mapLen_zero_qty hm⟩

theorem checkLimit_ok {l : Limit} {su sg : List String} {q : QD} {r : List String × List String}
    (h : checkLimit l su sg q = .ok r) :
    (q.maxApps ≠ 0 → l.maxApps ≤ q.maxApps) ∧
    (q.name ≠ "root" → ∀ t x v, qty l.maxRes t = some x → qty q.m t = some v → x ≤ v) ∧
    (∃ lr, parseConf l.maxRes = .ok lr) := by
  rw [checkLimit_eq] at h
  simp only [bind_ok, ite_err_ok] at h
  obtain ⟨_, su', _, sg', _, _, lr, hlr, _, happs, hfin⟩ := h
  obtain ⟨hparse, hqty⟩ := limitResOf_ok hlr
  refine ⟨?_, ?_, hparse⟩
  · intro hne
    simp only [Bool.and_eq_true, bne_iff_ne, ne_eq, decide_eq_true_eq, not_and] at happs
    have := happs hne; omega
  · intro hne t x v hx hv
    rw [if_pos (by simpa using hne)] at hfin
    cases hq : parseConf q.m with
    | error e => rw [hq] at hfin; cases hfin
    | ok qm =>
      rw [hq] at hfin
      simp only [ite_not_err_ok] at hfin
      rw [qty_of_parse hq] at hv
      rw [hqty] at hx
      have := fitInMaxUndef_le hfin.1 hx hv
      have := (parseConf_nonNeg hq t v hv).1
      omega

def LimOK (d : QD) : Prop := ∀ l ∈ d.limits,
  (d.maxApps ≠ 0 → l.maxApps ≤ d.maxApps) ∧
  (d.name ≠ "root" → ∀ t x v, qty l.maxRes t = some x → qty d.m t = some v → x ≤ v) ∧
  (∃ lr, parseConf l.maxRes = .ok lr)

theorem checkLimitsL_mem : ∀ (ls : List Limit) (su sg : List String) (q : QD), checkLimitsL ls su sg q = .ok () →
    ∀ l ∈ ls, ∃ su' sg' r, checkLimit l su' sg' q = .ok r
  | [], _, _, _, _ => fun _ hl => nomatch hl
  | l0 :: t, su, sg, q, h => by
    unfold checkLimitsL at h
    obtain ⟨⟨su', sg'⟩, h0, ht⟩ := bind_ok.mp h
    intro l hl
    cases hl with
    | head => exact ⟨su, sg, _, h0⟩
    | tail _ hl => exact checkLimitsL_mem t su' sg' q ht l hl

theorem checkNames_ok : ∀ (qs : List QC) (seen : List String), checkNames qs seen = .ok () →
    (∀ c ∈ qs, validQueueName c.d.name = true) ∧ distinctL (qs.map (fun c => toLower c.d.name)) = true ∧
    (∀ c ∈ qs, toLower c.d.name ∉ seen)
  | [], _, _ => ⟨fun _ h => (nomatch h), rfl, fun _ h => (nomatch h)⟩
  | c :: t, seen, h => by
    unfold checkNames at h
    simp only [ite_err_ok] at h
    obtain ⟨hv, hs, h⟩ := h
    obtain ⟨h1, h2, h3⟩ := checkNames_ok t _ h
    refine ⟨?_, ?_, ?_⟩
    · intro c' hc'
      cases hc' with
      | head => simpa using hv
      | tail _ hc' => exact h1 c' hc'
    · simp only [List.map_cons, distinctL, Bool.and_eq_true, Bool.not_eq_true', h2, and_true]
      rw [← Bool.not_eq_true, List.contains_iff_mem, List.mem_map]
      intro ⟨c', hc', he⟩
      exact h3 c' hc' (by rw [he]; exact List.mem_cons_self)
    · intro c' hc'
      cases hc' with
      | head => simpa using hs
      | tail _ hc' => exact fun hm => h3 c' hc' (List.mem_cons_of_mem _ hm)

/-- the loops over `limit.Users` and `limit.Groups` have the same shape: a name that is accepted was not seen before
    and is seen from then on -/
theorem seenLoop_ok (f : List String → List String → V (List String)) (hnil : ∀ seen, f [] seen = .ok seen)
    (hcons : ∀ name t seen seen', f (name :: t) seen = .ok seen' → name ∉ seen ∧ f t (name :: seen) = .ok seen') :
    ∀ (names seen seen' : List String), f names seen = .ok seen' →
      (∀ n ∈ names, n ∉ seen) ∧ ∀ n, n ∈ seen ∨ n ∈ names → n ∈ seen'
  | [], seen, seen', h => by
    rw [hnil] at h
    cases h
    exact ⟨fun _ hn => (nomatch hn), fun n hn => hn.elim id (fun h => nomatch h)⟩
  | name :: t, seen, seen', h => by
    obtain ⟨hs, ht⟩ := hcons name t seen seen' h
    obtain ⟨h1, h2⟩ := seenLoop_ok f hnil hcons t _ seen' ht
    refine ⟨?_, ?_⟩
    · intro n hn
      cases hn with
      | head => exact hs
      | tail _ hn => exact fun hm => h1 n hn (List.mem_cons_of_mem _ hm)
    · rintro n (hn | hn)
      · exact h2 n (.inl (List.mem_cons_of_mem _ hn))
      · cases hn with
        | head => exact h2 _ (.inl List.mem_cons_self)
        | tail _ hn => exact h2 n (.inr hn)

theorem checkLimitUsers_ok : ∀ (names seen seen' : List String), checkLimitUsers names seen = .ok seen' →
    (∀ n ∈ names, n ∉ seen) ∧ ∀ n, n ∈ seen ∨ n ∈ names → n ∈ seen' := by
  refine seenLoop_ok checkLimitUsers (fun _ => rfl) ?_
  intro name t seen seen' h
  unfold checkLimitUsers at h
  simp only [ite_err_ok] at h
  exact ⟨by simpa using h.2.1, h.2.2.2⟩

theorem checkLimitGroups_ok : ∀ (names seen seen' : List String), checkLimitGroups names seen = .ok seen' →
    (∀ n ∈ names, n ∉ seen) ∧ ∀ n, n ∈ seen ∨ n ∈ names → n ∈ seen' := by
  refine seenLoop_ok checkLimitGroups (fun _ => rfl) ?_
  intro name t seen seen' h
  unfold checkLimitGroups at h
  simp only [ite_err_ok] at h
  exact ⟨by simpa using h.2.1, h.2.2.2⟩

/-- the names of a limit (users: `g = false`, groups: `g = true`) are new and are recorded -/
theorem checkLimit_names (g : Bool) {l : Limit} {su sg : List String} {q : QD} {r : List String × List String}
    (h : checkLimit l su sg q = .ok r) :
    (∀ n ∈ namesOf g l, n ∉ (if g then sg else su)) ∧
    ∀ n, n ∈ (if g then sg else su) ∨ n ∈ namesOf g l → n ∈ (if g then r.2 else r.1) := by
  rw [checkLimit_eq] at h
  simp only [bind_ok, ite_err_ok] at h
  obtain ⟨_, su', hu, sg', hg, _, lr, _, _, _, hfin⟩ := h
  have hr : r = (su', sg') := by
    split at hfin
    · split at hfin
      · cases hfin
      · exact (Except.ok.inj (ite_not_err_ok.mp hfin).2).symm
    · exact (Except.ok.inj hfin).symm
  subst hr
  cases g
  · exact checkLimitUsers_ok _ _ _ hu
  · exact checkLimitGroups_ok _ _ _ hg

def UniqueNames (g : Bool) (ls : List Limit) : Prop :=
  ∀ l1 ∈ ls, ∀ l2 ∈ ls, ∀ n, n ∈ namesOf g l1 → n ∈ namesOf g l2 → l1 = l2

/-- a later entry cannot repeat a name of an earlier one: the name has been seen by then -/
theorem checkLimitsL_unique (g : Bool) : ∀ (ls : List Limit) (su sg : List String) (q : QD), checkLimitsL ls su sg q = .ok () →
    UniqueNames g ls ∧ ∀ l ∈ ls, ∀ n ∈ namesOf g l, n ∉ (if g then sg else su)
  | [], _, _, _, _ => ⟨fun _ h => (nomatch h), fun _ h => (nomatch h)⟩
  | l0 :: t, su, sg, q, h => by
    unfold checkLimitsL at h
    obtain ⟨⟨su', sg'⟩, h0, ht⟩ := bind_ok.mp h
    obtain ⟨a1, a2⟩ := checkLimit_names g h0
    obtain ⟨u1, u2⟩ := checkLimitsL_unique g t su' sg' q ht
    have hsep : ∀ l ∈ t, ∀ n, n ∈ namesOf g l0 → n ∈ namesOf g l → False :=
      fun l hl n hn0 hn => u2 l hl n hn (a2 n (.inr hn0))
    refine ⟨?_, ?_⟩
    · intro l1 h1 l2 h2 n n1 n2
      cases h1 with
      | head =>
        cases h2 with
        | head => rfl
        | tail _ h2 => exact (hsep l2 h2 n n1 n2).elim
      | tail _ h1 =>
        cases h2 with
        | head => exact (hsep l1 h1 n n2 n1).elim
        | tail _ h2 => exact u1 l1 h1 l2 h2 n n1 n2
    · intro l hl n hn
      cases hl with
      | head => exact a1 n hn
      | tail _ hl => exact fun hm => u2 l hl n hn (a2 n (.inl hm))

/-- S2 and the queue-local limit clauses of one entry -/
structure LocalOK (e : Entry) : Prop where
  names : okNames e = true
  lim : LimOK e.2.d
  uniqU : UniqueNames false e.2.d.limits
  uniqG : UniqueNames true e.2.d.limits

mutual
theorem cq_spec : ∀ (q : QC) (anc : List QD), checkQueues q = .ok () → ∀ e ∈ walk anc q, LocalOK e
  | .mk d qs, anc, h => by
    unfold checkQueues at h
    simp only [bind_ok] at h
    obtain ⟨_, _, _, _, _, hlim, _, hn, hq⟩ := h
    obtain ⟨h1, h2, _⟩ := checkNames_ok qs [] hn
    refine forall_walk.mpr ⟨⟨?_, ?_, (checkLimitsL_unique false d.limits [] [] d hlim).1,
      (checkLimitsL_unique true d.limits [] [] d hlim).1⟩, cqL_spec qs (d :: anc) hq⟩
    · simp only [okNames, QC.qs, Bool.and_eq_true, List.all_eq_true]
      exact ⟨h1, h2⟩
    · exact fun l hl => let ⟨_, _, _, h⟩ := checkLimitsL_mem d.limits [] [] d hlim l hl; checkLimit_ok h
theorem cqL_spec : ∀ (qs : List QC) (anc : List QD), checkQueuesL qs = .ok () → ∀ e ∈ walkL anc qs, LocalOK e
  | [], _, _ => forall_walkL_nil
  | q :: t, anc, h => by
    unfold checkQueuesL at h
    simp only [bind_ok] at h
    obtain ⟨_, hq, ht⟩ := h
    exact forall_walkL_cons.mpr ⟨cq_spec q anc hq, cqL_spec t anc ht⟩
end

end Yk.Conf
