/-
  Several partitions (updateSchedulerConfig walks them in configuration order: dry run, then update or create): what
  holds although a refused later partition does not undo the earlier ones.
-/
import YkProofs.Reload
namespace Yk.Reload
open Yk Yk.Res

/-- one turn of the loop of updateSchedulerConfig -/
def stepPartition (cl : Cluster) (pc : PC) : Cluster × Option CErr :=
  match cl.get pc.name with
  | some p =>
    match pc.fresh with
    | .error e => (cl, some e)
    | .ok _ =>
      match updatePartition p pc with
      | (p', e) => (cl.put pc.name p', e)
  | none =>
    match pc.fresh with
    | .error e => (cl, some e)
    | .ok p => (cl ++ [(pc.name, p)], none)

theorem updateCluster_cons (cl : Cluster) (pc : PC) (rest : List PC) :
    updateCluster cl (pc :: rest) =
      (match stepPartition cl pc with
       | (cl', some e) => (cl', some e)
       | (cl', none) => updateCluster cl' rest) := by
  conv => lhs; unfold updateCluster
  unfold stepPartition
  cases cl.get pc.name with
  | some p =>
    cases pc.fresh with
    | error e => rfl
    | ok p0 =>
      simp only
      cases h : updatePartition p pc with
      | mk p' e' => cases e' <;> rfl
  | none =>
    cases pc.fresh with
    | error e => rfl
    | ok p0 => rfl

theorem updateCluster_single (cl : Cluster) (pc : PC) : updateCluster cl [pc] = stepPartition cl pc := by
  rw [updateCluster_cons]
  cases stepPartition cl pc with
  | mk cl' e => cases e <;> rfl

theorem updateCluster_append (pre : List PC) : ∀ (cl : Cluster) (rest : List PC),
    updateCluster cl (pre ++ rest) =
      (match updateCluster cl pre with
       | (cl1, some e) => (cl1, some e)
       | (cl1, none) => updateCluster cl1 rest) := by
  induction pre with
  | nil => intro cl rest; simp [updateCluster]
  | cons a r ih =>
    intro cl rest
    rw [List.cons_append, updateCluster_cons, updateCluster_cons]
    cases h : stepPartition cl a with
    | mk cl' e' =>
      cases e' with
      | some e => rfl
      | none => simp only; exact ih cl' rest

theorem get_put (cl : Cluster) (n m : String) (p : Part) :
    (cl.put n p).get m = if m = n then (cl.get n).map (fun _ => p) else cl.get m := by
  induction cl with
  | nil => simp [Cluster.put, Cluster.get]
  | cons e r ih =>
    unfold Cluster.get at ih ⊢
    rw [Cluster.put]
    by_cases he : e.1 = n
    · by_cases hm : m = n
      · simp [he, hm]
      · simp [he, hm, Ne.symm hm]
    · by_cases hem : e.1 = m
      · have hm : ¬ m = n := fun h => he (hem.trans h)
        simp [hem, hm]
      · simpa [he, hem, List.find?_cons] using ih

theorem get_append (cl : Cluster) (n m : String) (p : Part) :
    (cl ++ [(n, p)]).get m = (cl.get m).or (if n = m then some p else none) := by
  simp only [Cluster.get, List.find?_append, List.find?_singleton, decide_eq_true_eq]
  cases List.find? (fun e => decide (e.1 = m)) cl <;> by_cases h : n = m <;> simp [h]
/-! ### one turn touches one partition, and depends on that partition only -/

theorem step_get_other (cl : Cluster) (pc : PC) (m : String) (hne : ¬ m = pc.name) : (stepPartition cl pc).1.get m = cl.get m := by
  unfold stepPartition
  cases cl.get pc.name with
  | some p =>
    cases pc.fresh with
    | error e => rfl
    | ok p0 => simp only; rw [get_put, if_neg hne]
  | none =>
    cases pc.fresh with
    | error e => rfl
    | ok p0 => simp [get_append, Ne.symm hne]

theorem step_depends_on_own (cl cl' : Cluster) (pc : PC) (h : cl.get pc.name = cl'.get pc.name) :
    (stepPartition cl pc).1.get pc.name = (stepPartition cl' pc).1.get pc.name ∧ (stepPartition cl pc).2 = (stepPartition cl' pc).2 := by
  unfold stepPartition
  rw [← h]
  cases hg : cl.get pc.name with
  | some p =>
    cases pc.fresh with
    | error e => exact ⟨h, rfl⟩
    | ok p0 => exact ⟨by simp only [get_put, if_true, ← h, hg], rfl⟩
  | none =>
    cases pc.fresh with
    | error e => exact ⟨h, rfl⟩
    | ok p0 => exact ⟨by simp only [get_append, if_true, ← h, hg], rfl⟩

theorem updateCluster_get_other (conf : List PC) : ∀ (cl : Cluster) (m : String), (∀ pc ∈ conf, ¬ m = pc.name) →
    (updateCluster cl conf).1.get m = cl.get m := by
  induction conf with
  | nil => intro cl m _; rfl
  | cons a r ih =>
    intro cl m h
    rw [updateCluster_cons]
    have h1 := step_get_other cl a m (h a (List.mem_cons_self ..))
    cases hs : stepPartition cl a with
    | mk cl' e' =>
      rw [hs] at h1
      cases e' with
      | some e => exact h1
      | none => simp only; rw [ih cl' m (fun pc hpc => h pc (List.mem_cons_of_mem _ hpc))]; exact h1

def namesDistinct : List PC → Prop
  | [] => True
  | a :: r => (∀ pc ∈ r, ¬ pc.name = a.name) ∧ namesDistinct r

/-- when the loop gets through a list of partitions, each of them ends exactly as the update with that partition alone
    would leave it -/
theorem updateCluster_each_as_single (conf : List PC) : ∀ (cl cl1 : Cluster), namesDistinct conf → updateCluster cl conf = (cl1, none) →
    ∀ pc ∈ conf, cl1.get pc.name = (updateCluster cl [pc]).1.get pc.name ∧ (updateCluster cl [pc]).2 = none := by
  induction conf with
  | nil => intro _ _ _ _ pc hpc; cases hpc
  | cons a r ih =>
    intro cl cl1 hd h pc hpc
    rw [updateCluster_single]
    rw [updateCluster_cons] at h
    cases hs : stepPartition cl a with
    | mk cl' e' =>
      rw [hs] at h
      cases e' with
      | some e => cases h
      | none =>
        simp only at h
        cases hpc with
        | head =>
          -- the turns after the first leave its partition alone
          have hrest := updateCluster_get_other r cl' a.name (fun x hx hh => hd.1 x hx hh.symm)
          rw [h] at hrest
          rw [hs]
          exact ⟨hrest, rfl⟩
        | tail _ hm =>
          -- the first turn leaves the partition of a later one alone, and a turn depends on its own partition only
          obtain ⟨h1, h2⟩ := ih cl' cl1 hd.2 h pc hm
          rw [updateCluster_single] at h1 h2
          have hown := step_get_other cl a pc.name (hd.1 pc hm)
          rw [hs] at hown
          obtain ⟨d1, d2⟩ := step_depends_on_own cl' cl pc hown
          exact ⟨h1.trans d1, d2 ▸ h2⟩

/-! ### one partition: after the dry run only the placement rules can refuse -/

theorem put_get_same : ∀ (cl : Cluster) (n : String) (p : Part), cl.get n = some p → cl.put n p = cl := by
  intro cl
  induction cl with
  | nil => intro n p _; rfl
  | cons e r ih =>
    intro n p h
    unfold Cluster.put
    unfold Cluster.get at h
    by_cases he : e.1 = n
    · rw [if_pos he]
      rw [List.find?_cons_of_pos (by simp [he])] at h
      simp only [Option.map_some, Option.some.injEq] at h
      cases e with
      | mk a b => simp only at he h; rw [he, h]
    · rw [if_neg he]
      rw [List.find?_cons_of_neg (by simp [he])] at h
      rw [ih n p h]

theorem fresh_ok_inv (pc : PC) (p : Part) (h : pc.fresh = .ok p) :
    pc.rootName = "root" ∧ applyAll [] pc.queues = (p.tree, none) := by
  unfold PC.fresh at h
  by_cases hr : pc.rootName = "root"
  · simp only [hr, decide_true, Bool.not_true, Bool.false_eq_true, if_false] at h
    cases he : applyAll [] pc.queues with
    | mk t e =>
      rw [he] at h
      cases e with
      | none => simp only [Except.ok.injEq] at h; exact ⟨hr, by rw [← h]⟩
      | some e => simp at h
  · simp [hr] at h

/-- after a dry run that went through, the only way updatePartitionDetails can fail is the placement rule list, and
    then it has changed nothing -/
theorem updatePartition_after_dryRun (p : Part) (pc : PC) (p0 : Part) (hwf : confWF pc.queues = true) (hf : pc.fresh = .ok p0)
    (p' : Part) (e : CErr) (h : updatePartition p pc = (p', some e)) : p' = p ∧ e = .rules := by
  obtain ⟨hr, ha⟩ := fresh_ok_inv pc p0 hf
  unfold updatePartition at h
  simp only [hr, decide_true, Bool.not_true, Bool.false_eq_true, if_false] at h
  by_cases hb : pc.rulesBad = true
  · simp only [hb, if_true, Prod.mk.injEq, Option.some.injEq] at h
    exact ⟨h.1.symm, h.2.symm⟩
  · simp only [hb, Bool.false_eq_true, if_false] at h
    obtain ⟨t', ht', _⟩ := applyAll_ok pc.queues hwf (applyAll_noerr_entryErr _ _ _ ha) p.tree
    unfold updateTree at h
    rw [ht'] at h
    simp at h

theorem step_refused (cl cl' : Cluster) (pc : PC) (e : CErr) (hwf : confWF pc.queues = true)
    (hs : stepPartition cl pc = (cl', some e)) : cl' = cl := by
  unfold stepPartition at hs
  cases hg : cl.get pc.name with
  | some p =>
    cases hf : pc.fresh with
    | error e0 => simp only [hg, hf, Prod.mk.injEq] at hs; exact hs.1.symm
    | ok p0 =>
      simp only [hg, hf, Prod.mk.injEq] at hs
      have hp := (updatePartition_after_dryRun p pc p0 hwf hf (updatePartition p pc).1 e (Prod.ext rfl hs.2)).1
      rw [← hs.1, hp]
      exact put_get_same cl pc.name p hg
  | none =>
    cases hf : pc.fresh with
    | error e0 => simp only [hg, hf, Prod.mk.injEq] at hs; exact hs.1.symm
    | ok p0 => simp [hg, hf] at hs

/-- when the loop is stopped by a partition, the cluster is exactly what the partitions before it left: the refused
    partition and everything after it are untouched -/
theorem updateCluster_stopped (conf : List PC) : ∀ (cl cl2 : Cluster) (e : CErr), (∀ pc ∈ conf, confWF pc.queues = true) →
    updateCluster cl conf = (cl2, some e) →
    ∃ pre pc rest, conf = pre ++ pc :: rest ∧ updateCluster cl pre = (cl2, none) ∧ (stepPartition cl2 pc).2 = some e := by
  induction conf with
  | nil => intro cl cl2 e _ h; simp [updateCluster] at h
  | cons a r ih =>
    intro cl cl2 e hwf h
    rw [updateCluster_cons] at h
    cases hs : stepPartition cl a with
    | mk cl' e' =>
      rw [hs] at h
      cases e' with
      | some e1 =>
        simp only [Prod.mk.injEq, Option.some.injEq] at h
        have hsame : cl' = cl := step_refused cl cl' a e1 (hwf a (List.mem_cons_self ..)) hs
        refine ⟨[], a, r, rfl, ?_, ?_⟩
        · rw [← h.1, hsame]; rfl
        · rw [← h.1, hsame, hs, h.2]
      | none =>
        simp only at h
        obtain ⟨pre, pc, rest, hc, hp, hst⟩ := ih cl' cl2 e (fun pc hpc => hwf pc (List.mem_cons_of_mem _ hpc)) h
        refine ⟨a :: pre, pc, rest, by rw [hc]; rfl, ?_, hst⟩
        rw [updateCluster_cons, hs]; exact hp

/-- a refused configuration update, several partitions: nothing changed at all, or the cluster is exactly what the loop over
    the partitions BEFORE the refused one left, and the configuration in force is still the old one -/
theorem configUpdate_rejected_multi (s s' : CState) (ev valid : Bool) (text : String) (conf : List PC) (e : CErr)
    (hwf : ∀ pc ∈ conf, confWF pc.queues = true) (h : configUpdate s ev valid text conf = (s', some e)) :
    s' = s ∨ ∃ pre pc rest, conf = pre ++ pc :: rest ∧ updateCluster s.cluster pre = (s'.cluster, none) ∧
      (stepPartition s'.cluster pc).2 = some e ∧ s'.text = s.text := by
  unfold configUpdate at h
  by_cases hv : valid = true
  · simp only [hv, Bool.not_true, Bool.false_eq_true, if_false] at h
    by_cases hsame : (ev && decide (text = s.text)) = true
    · simp [hsame] at h
    · simp only [hsame, Bool.false_eq_true, if_false] at h
      unfold updateSchedulerConfig at h
      cases hu : updateCluster s.cluster conf with
      | mk cl e' =>
        rw [hu] at h
        cases e' with
        | none => simp at h
        | some e1 =>
          simp only [Prod.mk.injEq, Option.some.injEq] at h
          obtain ⟨pre, pc, rest, hc, hp, hst⟩ := updateCluster_stopped conf s.cluster cl e1 hwf hu
          right
          refine ⟨pre, pc, rest, hc, ?_, ?_, ?_⟩
          · rw [← h.1]; exact hp
          · rw [← h.1, ← h.2]; exact hst
          · rw [← h.1]
  · simp only [hv, Bool.not_false, if_true, Prod.mk.injEq] at h
    exact Or.inl h.1.symm

end Yk.Reload
