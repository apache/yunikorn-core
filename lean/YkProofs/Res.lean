/- Pointwise characterisation of the resource-vector model (behind YkProps/C18, and used by every model that stores
   resource vectors): `get?` / `getD` / `has` of `set`, of the `zipFold` operations (`add`, `sub`, `addX`, `subX`), of
   `prune` and of `componentWiseMin`; unique keys (`wf`, `oresWf`); the order `Tighter` on optional vectors with what
   ComponentWiseMin does to it; what FitIn says entry by entry (`fitIn_some`); `isZero`.  The other operations of
   YkModel/Res.lean (`subEliminateNegative`, `strictlyGreaterThanZero`, the `…OnlyExisting` family, `multiply`, `equals`, …)
   have no lemma here: the proofs that meet them unfold them. -/
import YkModel.ResSpec
import YkProofs.ResArith
import YkProofs.Lists
namespace Yk
open Res

namespace Res

/-! ### readings of the empty vector, of `cons` and of `set` -/

@[simp] theorem getD_nil (k : String) : getD [] k = 0 := rfl

@[simp] theorem get?_nil (k : String) : get? [] k = none := rfl

@[simp] theorem has_nil (k : String) : has [] k = false := rfl

theorem getD_eq_get? (r : Res) (k : String) : getD r k = (get? r k).getD 0 := rfl

theorem has_eq_get? (r : Res) (k : String) : has r k = (get? r k).isSome := rfl

theorem get?_cons (k' : String) (v' : Int) (t : Res) (k : String) :
    get? ((k', v') :: t) k = if k = k' then some v' else get? t k := by
  unfold get?; rw [List.lookup_cons]
  by_cases h : k = k'
  · simp [h]
  · have : (k == k') = false := by simp [h]
    simp [this, h]

theorem getD_cons (k' : String) (v' : Int) (t : Res) (k : String) :
    getD ((k', v') :: t) k = if k = k' then v' else getD t k := by
  rw [getD_eq_get?, get?_cons]; by_cases h : k = k' <;> simp [h, getD_eq_get?]

theorem has_cons (k' : String) (v' : Int) (t : Res) (k : String) :
    has ((k', v') :: t) k = (decide (k = k') || has t k) := by
  rw [has_eq_get?, get?_cons]; by_cases h : k = k' <;> simp [h, has_eq_get?]

theorem get?_set (r : Res) (k : String) (v : Int) (k' : String) :
    get? (set r k v) k' = if k' = k then some v else get? r k' := by
  induction r with
  | nil => simp [set, get?_cons]
  | cons p t ih =>
    obtain ⟨a, b⟩ := p
    unfold set
    by_cases h : a = k
    · subst h; simp only [beq_self_eq_true, if_true, get?_cons]; by_cases h2 : k' = a <;> simp [h2]
    · have : (a == k) = false := by simp [h]
      simp only [this, Bool.false_eq_true, if_false, get?_cons, ih]
      by_cases h2 : k' = a
      · subst h2; simp [h]
      · simp [h2]

theorem getD_set (r : Res) (k : String) (v : Int) (k' : String) :
    getD (set r k v) k' = if k' = k then v else getD r k' := by
  rw [getD_eq_get?, get?_set]; by_cases h : k' = k <;> simp [h, getD_eq_get?]

theorem has_set (r : Res) (k : String) (v : Int) (k' : String) :
    has (set r k v) k' = (decide (k' = k) || has r k') := by
  rw [has_eq_get?, get?_set]; by_cases h : k' = k <;> simp [h, has_eq_get?]

/-! ### keys, unique keys (`wf`), membership -/

theorem wf_cons (k : String) (v : Int) (t : Res) : wf ((k, v) :: t) = (!(has t k) && wf t) := by
  have : t.any (fun p => p.1 == k) = has t k := by
    induction t with
    | nil => rfl
    | cons p t ih =>
      obtain ⟨a, b⟩ := p
      rw [has_cons, List.any_cons, ih]
      by_cases h : a = k
      · subst h; simp
      · have h' : ¬ k = a := fun e => h e.symm
        simp [h, h']
  simp [wf, this]

theorem has_iff_mem_keys (r : Res) (k : String) : has r k = true ↔ k ∈ keys r := by
  induction r with
  | nil => simp [keys]
  | cons p t ih =>
    obtain ⟨a, b⟩ := p
    rw [has_cons]; simp only [keys, List.map_cons, List.mem_cons, Bool.or_eq_true, decide_eq_true_eq]
    simp only [keys] at ih; rw [ih]

theorem wf_iff_nodup (r : Res) : wf r = true ↔ (keys r).Nodup := by
  induction r with
  | nil => simp [wf, keys]
  | cons p t ih =>
    obtain ⟨k, v⟩ := p
    rw [wf_cons, Bool.and_eq_true, ih, Bool.not_eq_true', ← Bool.not_eq_true, has_iff_mem_keys]
    simp [keys]

theorem get?_of_mem {r : Res} (hw : wf r = true) {k : String} {v : Int} (h : (k, v) ∈ r) : get? r k = some v :=
  (lookup_iff_mem ((wf_iff_nodup r).mp hw) k v).mpr h

theorem mem_of_get? {r : Res} {k : String} {v : Int} (h : get? r k = some v) : (k, v) ∈ r := mem_of_lookup h

end Res

theorem getD_of_not_has {r : Res} {k : String} (h : has r k = false) : getD r k = 0 := by
  rw [getD_eq_get?]; rw [has_eq_get?] at h
  cases hg : get? r k <;> simp_all

theorem getD_of_not_mem_keys {r : Res} {k : String} (h : k ∉ keys r) : getD r k = 0 := by
  apply getD_of_not_has
  rw [Bool.eq_false_iff]
  intro hc; exact h ((has_iff_mem_keys r k).mp hc)

theorem getD_of_mem {r : Res} (hw : wf r = true) {e : String × Int} (he : e ∈ r) : getD r e.1 = e.2 := by
  rw [getD_eq_get?, get?_of_mem hw (k := e.1) (v := e.2) he]; rfl

theorem set_wf (r : Res) (hw : wf r = true) (k : String) (v : Int) : wf (Res.set r k v) = true := by
  induction r with
  | nil => simp [Res.set, wf]
  | cons p t ih =>
    obtain ⟨a, b⟩ := p
    rw [wf_cons] at hw
    simp only [Bool.and_eq_true, Bool.not_eq_true'] at hw
    unfold Res.set
    by_cases h : a = k
    · subst h; simp only [beq_self_eq_true, if_true, wf_cons, hw.1, hw.2]; rfl
    · have : (a == k) = false := by simp [h]
      simp only [this, Bool.false_eq_true, if_false, wf_cons, has_set, ih hw.2, hw.1]
      have : ¬ a = k := h
      simp [this]

theorem prune_wf (r : Res) (hw : wf r = true) : wf (prune r) = true :=
  (wf_iff_nodup _).mpr (nodup_map_filter _ _ ((wf_iff_nodup r).mp hw))

theorem map_val_wf (g : String × Int → Int) (r : Res) (hw : wf r = true) :
    wf (r.map (fun p => (p.1, g p))) = true :=
  (wf_iff_nodup _).mpr (by rw [keys, List.map_map]; exact (wf_iff_nodup r).mp hw)

def allInR (r : Res) : Prop := ∀ p ∈ r, inR p.2

theorem getD_inR {r : Res} (h : allInR r) (k : String) : inR (getD r k) := by
  rw [getD_eq_get?]
  cases hg : get? r k with
  | none => simp [inR, minI, maxI]
  | some v => exact h (k, v) (mem_of_get? hg)

theorem isZero_getD {g : Res} (h : isZero (some g) = true) (k : String) : g.getD k = 0 := by
  unfold isZero at h
  simp only [List.all_eq_true] at h
  rw [getD_eq_get?]
  cases hg : g.get? k with
  | none => rfl
  | some v => have := h (k, v) (mem_of_get? hg); simpa using this

/-! ### folds of `set` steps -/

theorem foldl_set_get? (f : Res → String × Int → Res) (g : String × Int → Int) (hf : ∀ out p, f out p = out.set p.1 (g p))
    (r : Res) (hw : wf r = true) (acc : Res) (k : String) :
    (r.foldl f acc).get? k =
      match r.get? k with
      | some b => some (g (k, b))
      | none => acc.get? k := by
  induction r generalizing acc with
  | nil => simp
  | cons p t ih =>
    obtain ⟨a, b⟩ := p
    rw [wf_cons] at hw
    simp only [Bool.and_eq_true, Bool.not_eq_true'] at hw
    rw [List.foldl_cons, ih hw.2, hf, get?_cons]
    by_cases h : k = a
    · subst h
      have : get? t k = none := by
        have := hw.1; rw [has_eq_get?] at this
        cases hg : get? t k with
        | none => rfl
        | some _ => rw [hg] at this; cases this
      simp [this, get?_set]
    · simp only [h, if_false]
      cases get? t k with
      | none => simp [get?_set, h]
      | some _ => rfl

theorem foldl_set_wf (g : String × Int → Int) :
    ∀ (r acc : Res), wf acc = true → wf (r.foldl (fun out p => Res.set out p.1 (g p)) acc) = true := by
  intro r
  induction r with
  | nil => intro acc h; exact h
  | cons p r ih => intro acc h; rw [List.foldl_cons]; exact ih _ (set_wf _ h _ _)

/-- the fold that Add/Sub run over `right` -/
theorem zipFold_getD (f : Int → Int → Int) (r : Res) (hw : wf r = true) (acc : Res) (k : String) :
    (zipFold f acc r).getD k =
      if has r k then f (acc.getD k) (getD r k) else acc.getD k := by
  unfold zipFold
  induction r generalizing acc with
  | nil => simp
  | cons p t ih =>
    obtain ⟨a, b⟩ := p
    rw [wf_cons] at hw
    simp only [Bool.and_eq_true, Bool.not_eq_true'] at hw
    rw [List.foldl_cons, ih hw.2, has_cons, getD_cons, getD_set]
    by_cases h : k = a
    · subst h; simp [hw.1]
    · simp [h]

theorem zipFold_has (f : Int → Int → Int) (r : Res) (acc : Res) (k : String) :
    (zipFold f acc r).has k = (has acc k || has r k) := by
  unfold zipFold
  induction r generalizing acc with
  | nil => simp
  | cons p t ih =>
    obtain ⟨a, b⟩ := p
    rw [List.foldl_cons, ih, has_set, has_cons]
    by_cases h : k = a <;> simp [h, Bool.or_comm]

theorem zipFold_wf (f : Int → Int → Int) (l r : Res) (hw : wf l = true) : wf (zipFold f l r) = true := by
  unfold zipFold
  induction r generalizing l with
  | nil => simpa
  | cons p t ih => rw [List.foldl_cons]; exact ih _ (set_wf l hw _ _)

/-! ### the operations, type by type -/

theorem add_getD (l r : Res) (hw : wf r = true) (k : String) :
    (add (some l) (some r)).getD k = if has r k then goAddVal (l.getD k) (r.getD k) else l.getD k := by
  unfold add orZero; simp only [Option.getD_some]; exact zipFold_getD goAddVal r hw l k

theorem sub_getD (l r : Res) (hw : wf r = true) (k : String) :
    (sub (some l) (some r)).getD k = if has r k then goSubVal (l.getD k) (r.getD k) else l.getD k := by
  unfold sub orZero; simp only [Option.getD_some]; exact zipFold_getD goSubVal r hw l k

theorem add_has (l r : Res) (k : String) : (add (some l) (some r)).has k = (has l k || has r k) := by
  unfold add orZero; simp only [Option.getD_some]; exact zipFold_has goAddVal r l k

theorem sub_has (l r : Res) (k : String) : (sub (some l) (some r)).has k = (has l k || has r k) := by
  unfold sub orZero; simp only [Option.getD_some]; exact zipFold_has goSubVal r l k

theorem addX_getD (l r : Res) (hw : wf r = true) (k : String) : (addX l r).getD k = l.getD k + r.getD k := by
  unfold addX; rw [zipFold_getD _ r hw l k]
  by_cases h : has r k = true
  · simp [h]
  · have h' : has r k = false := by simpa using h
    simp [h', getD_of_not_has h']

theorem subX_getD (l r : Res) (hw : wf r = true) (k : String) : (subX l r).getD k = l.getD k - r.getD k := by
  unfold subX; rw [zipFold_getD _ r hw l k]
  by_cases h : has r k = true
  · simp [h]
  · have h' : has r k = false := by simpa using h
    simp [h', getD_of_not_has h']

theorem prune_getD (r : Res) (hw : wf r = true) (k : String) : (prune r).getD k = r.getD k := by
  induction r with
  | nil => rfl
  | cons p t ih =>
    obtain ⟨a, b⟩ := p
    rw [wf_cons] at hw
    simp only [Bool.and_eq_true, Bool.not_eq_true'] at hw
    have ih' := ih hw.2
    unfold prune at *
    rw [List.filter_cons]
    by_cases hb : b = 0
    · subst hb; simp only [bne_self_eq_false, Bool.false_eq_true, if_false, ih', getD_cons]
      by_cases h : k = a
      · subst h; simp [getD_of_not_has hw.1]
      · simp [h]
    · have : (b != 0) = true := by simp [hb]
      simp only [this, if_true, getD_cons, ih']

theorem addX_wf (l r : Res) (h : wf l = true) : wf (addX l r) = true := zipFold_wf _ _ _ h

theorem subX_wf (l r : Res) (h : wf l = true) : wf (subX l r) = true := zipFold_wf _ _ _ h

theorem prune_subX_getD (a b : Res) (ha : wf a = true) (hb : wf b = true) (k : String) :
    (prune (subX a b)).getD k = a.getD k - b.getD k := by
  rw [prune_getD _ (subX_wf _ _ ha), subX_getD _ _ hb]

theorem prune_addX_getD (a b : Res) (ha : wf a = true) (hb : wf b = true) (k : String) :
    (prune (addX a b)).getD k = a.getD k + b.getD k := by
  rw [prune_getD _ (addX_wf _ _ ha), addX_getD _ _ hb]

theorem foldl_addX_wf (l : List Res) (acc : Res) (h : wf acc = true) : wf (l.foldl addX acc) = true :=
  List.foldlRecOn (motive := fun acc : Res => wf acc = true) l _ h fun _ ha _ _ => zipFold_wf _ _ _ ha

theorem foldl_addX_getD (l : List Res) (hr : ∀ r ∈ l, wf r = true) (acc : Res) (k : String) :
    (l.foldl addX acc).getD k = acc.getD k + (l.map (fun r => r.getD k)).sum := by
  induction l generalizing acc with
  | nil => simp
  | cons a t ih =>
    rw [List.foldl_cons, ih (fun x hx => hr x (List.mem_cons_of_mem _ hx)), addX_getD _ _ (hr a List.mem_cons_self),
      List.map_cons, List.sum_cons]
    omega

theorem foldl_addX_map_getD {α : Type} (l : List α) (f : α → Res) (hr : ∀ x ∈ l, wf (f x) = true) (k : String) :
    ((l.map f).foldl addX []).getD k = (l.map (fun x => (f x).getD k)).sum := by
  rw [foldl_addX_getD _ (by intro r hr'; obtain ⟨x, hx, rfl⟩ := List.mem_map.mp hr'; exact hr x hx), List.map_map]
  have : Res.getD ([] : Res) k = 0 := rfl
  rw [this, Int.zero_add]; rfl

/-! ### optional vectors: unique keys, the order "at least as tight", ComponentWiseMin -/

def oresWf (o : ORes) : Bool := match o with | none => true | some r => wf r

theorem oresWf_eq (o : ORes) : oresWf o = wf (orZero o) := by cases o <;> rfl

/-- `a` is defined and not larger wherever `b` is defined (`none` = no limit): `a` is at least as tight as `b` -/
def Tighter (a b : ORes) : Prop :=
  ∀ mb, b = some mb → ∀ k v, get? mb k = some v → ∃ ma va, a = some ma ∧ get? ma k = some va ∧ va ≤ v

theorem Tighter.refl (a : ORes) : Tighter a a := fun mb hb _ v hv => ⟨mb, v, hb, hv, Int.le_refl _⟩

theorem Tighter.none (a : ORes) : Tighter a none := fun _ h => nomatch h

theorem Tighter.trans {a b c : ORes} (h1 : Tighter a b) (h2 : Tighter b c) : Tighter a c := by
  intro mc hc k v hv
  obtain ⟨mb, vb, hb, hvb, hle⟩ := h2 mc hc k v hv
  obtain ⟨ma, va, ha, hva, hle'⟩ := h1 mb hb k vb hvb
  exact ⟨ma, va, ha, hva, Int.le_trans hle' hle⟩

theorem Tighter.get?_le {a b : ORes} (h : Tighter a b) {t : String} {v : Int} (hv : (orZero b).get? t = some v) :
    ∃ v', (orZero a).get? t = some v' ∧ v' ≤ v := by
  cases b with
  | none => cases hv
  | some mb =>
    obtain ⟨ma, va, rfl, hva, hle⟩ := h mb rfl t v hv
    exact ⟨va, hva, hle⟩

theorem Tighter.entries {a b : Res} (h : Tighter (some a) (some b)) (hb : wf b = true) :
    ∀ e ∈ b, a.has e.1 = true ∧ a.getD e.1 ≤ e.2 := by
  intro e he
  obtain ⟨ma, va, ha, hva, hle⟩ := h b rfl e.1 e.2 (get?_of_mem hb he)
  cases ha
  rw [has_eq_get?, getD_eq_get?, hva]
  exact ⟨rfl, hle⟩

def cwmVal (o : Res) (p : String × Int) : Int :=
  match get? o p.1 with | some v => min p.2 v | none => p.2

theorem cwm_eq (l r : Res) : componentWiseMin (some l) (some r) =
    some (r.foldl (fun out p => Res.set out p.1 (cwmVal l p)) (l.foldl (fun out p => Res.set out p.1 (cwmVal r p)) [])) := by
  unfold componentWiseMin cwmVal
  simp only [Option.some.injEq]
  congr 1
  · funext out p; cases get? l p.1 <;> rfl
  · congr 1; funext out p; cases get? r p.1 <;> rfl

theorem cwm_some_left (l : Res) (r : ORes) : ∃ m, componentWiseMin (some l) r = some m := by
  cases r with
  | none => exact ⟨l, rfl⟩
  | some r => exact ⟨_, cwm_eq l r⟩

theorem cwm_some_right (l : ORes) (r : Res) : ∃ m, componentWiseMin l (some r) = some m := by
  cases l with
  | none => exact ⟨r, rfl⟩
  | some l => exact ⟨_, cwm_eq l r⟩

theorem cwm_get? (l r : Res) (hl : wf l = true) (hr : wf r = true) (k : String) :
    (orZero (componentWiseMin (some l) (some r))).get? k =
      match l.get? k, r.get? k with
      | some a, some b => some (min a b)
      | some a, none => some a
      | none, some b => some b
      | none, none => none := by
  rw [cwm_eq]
  show get? (r.foldl _ (l.foldl _ [])) k = _
  rw [foldl_set_get? _ (cwmVal l) (fun _ _ => rfl) r hr, foldl_set_get? _ (cwmVal r) (fun _ _ => rfl) l hl]
  unfold cwmVal
  cases hlk : l.get? k <;> cases hrk : r.get? k <;> simp [hlk, hrk, Int.min_comm]

theorem cwm_wf {l r : ORes} (hl : oresWf l = true) (hr : oresWf r = true) : oresWf (componentWiseMin l r) = true := by
  cases l with
  | none => cases r <;> first | rfl | exact hr
  | some l => cases r with
    | none => exact hl
    | some r => rw [cwm_eq]; exact foldl_set_wf _ _ _ (foldl_set_wf _ _ _ rfl)

/-- `cwm_wf` for the callers that read `none` as the empty vector -/
theorem cwm_wf_orZero {l r : ORes} (hl : wf (orZero l) = true) (hr : wf (orZero r) = true) :
    wf (orZero (componentWiseMin l r)) = true := by
  rw [← oresWf_eq] at *; exact cwm_wf hl hr

theorem cwm_le {l r : ORes} (hl : oresWf l = true) (hr : oresWf r = true) :
    Tighter (componentWiseMin l r) l ∧ Tighter (componentWiseMin l r) r := by
  cases l with
  | none => cases r with
    | none => exact ⟨Tighter.none _, Tighter.none _⟩
    | some r => exact ⟨Tighter.none _, Tighter.refl _⟩
  | some l => cases r with
    | none => exact ⟨Tighter.refl _, Tighter.none _⟩
    | some r =>
      have key := cwm_get? l r hl hr
      obtain ⟨m, hm⟩ := cwm_some_left l (some r)
      rw [hm] at key ⊢
      constructor
      · intro mb hb k v hv; cases hb
        have hk := key k; rw [hv] at hk
        cases hr' : r.get? k with
        | none => rw [hr'] at hk; exact ⟨m, v, rfl, hk, Int.le_refl _⟩
        | some b => rw [hr'] at hk; exact ⟨m, min v b, rfl, hk, Int.min_le_left _ _⟩
      · intro mb hb k v hv; cases hb
        have hk := key k; rw [hv] at hk
        cases hl' : l.get? k with
        | none => rw [hl'] at hk; exact ⟨m, v, rfl, hk, Int.le_refl _⟩
        | some a => rw [hl'] at hk; exact ⟨m, min a v, rfl, hk, Int.min_le_right _ _⟩

/-! ### FitIn -/

/-- what `fitIn` says entry by entry of a defined `smaller`, in terms of `has` / `getD` of the receiver: the type is
    skipped (undefined, `skipUndef`) or the quantity is at most the receiver's (negative values count as 0 unless `actual`) -/
theorem fitIn_some (r : ORes) (s : Res) (skipUndef actual : Bool) :
    fitIn r (some s) skipUndef actual = true ↔
      ∀ p ∈ s, (skipUndef = true ∧ (orZero r).has p.1 = false) ∨
        p.2 ≤ (if actual then (orZero r).getD p.1 else max 0 ((orZero r).getD p.1)) := by
  unfold fitIn
  simp only [List.all_eq_true]
  refine forall₂_congr fun p _ => ?_
  rw [has_eq_get?, getD_eq_get?]
  cases get? (orZero r) p.1 <;> cases skipUndef <;> cases actual <;> simp

theorem fitInMaxUndef_le {p : ORes} {c : Res} (h : fitInMaxUndef p (some c) = true) {t : String} {x pv : Int}
    (hx : c.get? t = some x) (hp : (orZero p).get? t = some pv) : x ≤ max 0 pv := by
  rcases (fitIn_some p c true false).mp h _ (mem_of_get? hx) with ⟨-, hh⟩ | hle
  · rw [has_eq_get?, hp] at hh; cases hh
  · rwa [getD_eq_get?, hp] at hle

/-- FitIn proper (an undefined type counts as 0) -/
theorem fitInStd_le (avail r : Res) (h : fitInStd (some avail) (some r) = true) :
    ∀ p ∈ r, p.2 ≤ max 0 (avail.getD p.1) := fun p hp =>
  ((fitIn_some (some avail) r false false).mp h p hp).resolve_left (fun h => Bool.noConfusion h.1)

end Yk
