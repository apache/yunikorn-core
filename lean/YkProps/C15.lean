/-
  C15 — configuration validation is sound: what it accepts is well-formed (and, where validation covers it, loadable).

  `Yk.Conf.validate` (YkModel/Conf.lean) mirrors configs.Validate statement by statement on the tree that the YAML
  decoder produces; the correspondence run ties it to the real code (same verdict, same error class, same rewritten
  tree on every generated document, under re-ordered mappings).  The theorems below hold for ALL configuration trees:
  any depth, any sparse resource maps (quantities with units), any limit lists, any rule chains.  They are proved by
  structural induction over the tree (YkProofs/Conf*.lean).  `queuesOf p` lists every queue of a validated partition
  together with its ancestors, nearest first; `qty m t` is the quantity a resource map of the configuration gives to
  the type `t` (none if the type is not mentioned).

  Where the unchanged code does NOT establish a rule of the property, the refutation is stated next to the theorem with
  a concrete accepted configuration (`decide`), and the driver reports exactly that class (KNOWN_FINDINGS.txt).
-/
import YkProofs.ConfMain
import YkProofs.ConfOrder
import YkProofs.ConfRules
import YkProofs.ConfPerm
namespace Yk.C15
open Yk Yk.Res Yk.Conf

variable {ps ps' : List Part}

/-- Every partition of an accepted configuration has exactly one top level queue: it is called root (in any case), is a
    parent and has no resources ("single root without limits"). -/
theorem accepted_single_root (h : validate ps = .ok ps') : ∀ p ∈ ps', okSingleRoot p = true := by
  intro p' hp'
  obtain ⟨p, _, root, ha⟩ := validate_ok h p' hp'
  obtain ⟨r0, h0, h1⟩ := ha.struct
  obtain ⟨a1, a2, a3, a4⟩ := checkQueuesStructure_ok h0
  obtain ⟨b1, b2, b3, b4⟩ := checkLimitsStructure_ok h1
  rw [ha.out]
  simp only [okSingleRoot, b1, b2, b3, b4, a1, a2, a3, a4]
  rfl

/-- Queue names are valid (1 to 64 characters of `[a-zA-Z0-9_:#/@-]`) and unique among siblings when compared in lower case. -/
theorem accepted_names (h : validate ps = .ok ps') : ∀ p ∈ ps', ∀ e ∈ queuesOf p,
    (∀ c ∈ e.2.qs, validQueueName c.d.name = true) ∧ distinctL (e.2.qs.map (fun c => toLower c.d.name)) = true := by
  intro p hp e he
  simpa [okNames, List.all_eq_true] using (validate_facts h p hp e he).loc.names

/-- The maximum of a queue is within the maximum of EVERY ancestor on every type both define — also across levels that
    do not define the type (the effective maximum is what the validator hands down). -/
theorem accepted_max_within_ancestors (h : validate ps = .ok ps') : ∀ p ∈ ps', ∀ e ∈ queuesOf p,
    ∀ a ∈ e.1, ∀ t x v, qty e.2.d.m t = some x → qty a.m t = some v → x ≤ v :=
  fun p hp e he => (validate_facts h p hp e he).res.q1

/-- Guaranteed is within the queue's own maximum and within the maximum of every ancestor. -/
theorem accepted_guaranteed_within_max (h : validate ps = .ok ps') : ∀ p ∈ ps', ∀ e ∈ queuesOf p,
    ∀ a ∈ e.2.d :: e.1, ∀ t x v, qty e.2.d.g t = some x → qty a.m t = some v → x ≤ v :=
  fun p hp e he => (validate_facts h p hp e he).gMax

/-- The children's guaranteed quantities add up to at most the parent's guaranteed, on every type the parent's guaranteed
    defines — as long as the parent's quantity is below MaxInt64 (the implementation adds with saturation). -/
theorem accepted_children_guaranteed_sum (h : validate ps = .ok ps') : ∀ p ∈ ps', ∀ e ∈ queuesOf p,
    ∀ t v, qty e.2.d.g t = some v → v < maxI → sumGuaranteed e.2.qs t ≤ v := by
  intro p hp e he t v hv hlt
  have := (validate_facts h p hp e he).res.q3 t v hv
  omega

/-- … and to at most the maximum of the parent and of every ancestor (same proviso). -/
theorem accepted_children_sum_within_max (h : validate ps = .ok ps') : ∀ p ∈ ps', ∀ e ∈ queuesOf p,
    ∀ a ∈ e.2.d :: e.1, ∀ t v, qty a.m t = some v → v < maxI → sumGuaranteed e.2.qs t ≤ v := by
  intro p hp e he a ha t v hv hlt
  have := (validate_facts h p hp e he).res.q4 a ha t v hv
  omega

/-- Max-applications is non-increasing downwards: below a queue that sets it, every queue sets it and not to more. -/
theorem accepted_max_applications (h : validate ps = .ok ps') : ∀ p ∈ ps', ∀ e ∈ queuesOf p,
    ∀ a ∈ e.1, a.maxApps ≠ 0 → e.2.d.maxApps ≠ 0 ∧ e.2.d.maxApps ≤ a.maxApps :=
  fun p hp e he => (validate_facts h p hp e he).apps

/-- A user/group limit is within the maximum of its queue (for every queue not NAMED root) and its application count
    within the count of the queue and of every ancestor that sets one. -/
theorem accepted_limit_within_queue (h : validate ps = .ok ps') : ∀ p ∈ ps', ∀ e ∈ queuesOf p, ∀ l ∈ e.2.d.limits,
    (e.2.d.name ≠ "root" → ∀ t x v, qty l.maxRes t = some x → qty e.2.d.m t = some v → x ≤ v) ∧
    (∀ a ∈ e.2.d :: e.1, a.maxApps ≠ 0 → l.maxApps ≤ a.maxApps) := by
  intro p hp e he l hl
  have hf := validate_facts h p hp e he
  exact ⟨(hf.loc.lim l hl).2.1, hf.limAppsAnc l hl⟩

/-- A limit for a user (`g = false`) or group (`g = true`) is within EVERY entry of the same name on EVERY ancestor, on the
    resource types both define; a name that no ancestor mentions is within every wildcard entry of every ancestor. -/
theorem accepted_limit_within_ancestor_limits (h : validate ps = .ok ps') (g : Bool) : ∀ p ∈ ps', ∀ e ∈ queuesOf p,
    ∀ l ∈ e.2.d.limits, ∀ n ∈ namesOf g l,
      (∀ a ∈ e.1, ∀ x ∈ limitsFor g a n, ∀ t lv xv, qty l.maxRes t = some lv → qty x.maxRes t = some xv → lv ≤ xv) ∧
      (n ≠ "*" → namedAbove g e.1 n = false →
        ∀ a ∈ e.1, ∀ x ∈ limitsFor g a "*", ∀ t lv xv, qty l.maxRes t = some lv → qty x.maxRes t = some xv → lv ≤ xv) := by
  intro p hp e he
  have hf := (validate_facts h p hp e he).limRes
  exact limAnc_reading (ok := resOK) (R := fun l x => ∀ t lv xv, qty l.maxRes t = some lv → qty x.maxRes t = some xv → lv ≤ xv)
    (fun _ _ hW _ _ _ => resW_qty hW) (by cases g; exact hf.1; exact hf.2)

/-- The skip-level reading of the clause above, spelled out: `a` is ANY ancestor of the queue — `near` are the levels between
    the queue and `a`, `far` the levels above `a`, both arbitrary (any number of levels, with or without entries for the name,
    naming whatever resource types they like).  A limit of an accepted configuration does not exceed, in any resource type,
    an entry of the same user (`g = false`) or group (`g = true`) on `a`: a level in between that names other types does not
    hide the types of `a`. -/
theorem accepted_limit_within_skip_level_limits (h : validate ps = .ok ps') (g : Bool) : ∀ p ∈ ps', ∀ e ∈ queuesOf p,
    ∀ l ∈ e.2.d.limits, ∀ n ∈ namesOf g l, ∀ (near far : List QD) (a : QD), e.1 = near ++ a :: far →
      ∀ x ∈ limitsFor g a n, ∀ t lv xv, qty l.maxRes t = some lv → qty x.maxRes t = some xv → lv ≤ xv := by
  intro p hp e he l hl n hn near far a hsplit x hx t lv xv h1 h2
  refine (accepted_limit_within_ancestor_limits h g p hp e he l hl n hn).1 a ?_ x hx t lv xv h1 h2
  rw [hsplit]; simp

/-- Why: the limit the model validator hands down to the children for a name with an inherited entry (`resDom.comb`, the
    mirror of `resources.ComponentWiseMin(limitMaxResources, existingMax)` in checkLimitResource) is, per resource type, the
    smaller value where the entry of the queue and the inherited limit both name the type, and the value of the one that
    names it otherwise: the types that only the ancestors name are handed down unchanged. -/
theorem limit_handed_down_is_componentwise_min {m mx : Option SMap} {lim ex : Yk.Res}
    (hl : parseConf m = .ok lim) (hx : parseConf mx = .ok ex) (t : String) :
    (resDom.comb lim ex).get? t =
      (match lim.get? t, ex.get? t with
       | some a, some b => some (min a b)
       | some a, none => some a
       | none, some b => some b
       | none, none => none) ∧
    (lim.get? t = none → (resDom.comb lim ex).get? t = ex.get? t) :=
  have key := cwm_get? lim ex (parseConf_wf hl) (parseConf_wf hx) t
  ⟨key, fun h => by rw [show (resDom.comb lim ex).get? t = _ from key, h]; cases ex.get? t <;> rfl⟩

/-- The same for the application counts: where an ancestor's entry sets a count, the limit sets one too, not a larger one. -/
theorem accepted_limit_within_ancestor_applications (h : validate ps = .ok ps') (g : Bool) : ∀ p ∈ ps', ∀ e ∈ queuesOf p,
    ∀ l ∈ e.2.d.limits, ∀ n ∈ namesOf g l,
      (∀ a ∈ e.1, ∀ x ∈ limitsFor g a n, x.maxApps ≠ 0 → l.maxApps ≠ 0 ∧ l.maxApps ≤ x.maxApps) ∧
      (n ≠ "*" → namedAbove g e.1 n = false →
        ∀ a ∈ e.1, ∀ x ∈ limitsFor g a "*", x.maxApps ≠ 0 → l.maxApps ≠ 0 ∧ l.maxApps ≤ x.maxApps) := by
  intro p hp e he
  have hf := (validate_facts h p hp e he).limApps
  exact limAnc_reading (ok := appsOK) (R := fun l x => x.maxApps ≠ 0 → l.maxApps ≠ 0 ∧ l.maxApps ≤ x.maxApps)
    (fun l x hW hne => Or.resolve_left (hW l.maxApps x.maxApps rfl rfl) hne) (by cases g; exact hf.1; exact hf.2)

/-- All of the above in the form the check evaluates on the tree returned by the real validator: every executable
    clause of `clauseList` (ids C15.S2 … C15.L4g, YkModel/ConfSpec.lean) is true for every queue. -/
theorem accepted_clauses (h : validate ps = .ok ps') : ∀ p ∈ ps', ∀ e ∈ queuesOf p, ∀ c ∈ clauseList true, c.2 e = true := by
  exact fun p hp e he => clauses_of_facts (validate_facts h p hp e he)

/-! ### loading -/

/-- What validation does guarantee about loading: every resource map it parsed parses again when the queues are built
    ("parsing failed … this should not happen") and when the limits reach the user/group manager.  A new partition can
    only fail for the name of the root queue, an ACL string or a child template; an update of a running partition
    additionally for a placement rule. -/
theorem accepted_load_failures (h : validate ps = .ok ps') : ∀ p ∈ ps',
    (loadNew p = .ok () ∨ loadNew p = .error .rootName ∨ loadNew p = .error .acl ∨ loadNew p = .error .tmplParse) ∧
    (loadRunning p = .ok () ∨ loadRunning p = .error .rootName ∨ loadRunning p = .error .acl ∨
      loadRunning p = .error .tmplParse ∨ ∃ e, loadRules p.rules = .error e ∧ loadRunning p = .error e) := by
  intro p' hp'
  obtain ⟨p, _, root, ha⟩ := validate_ok h p' hp'
  have hf := accepted_facts ha
  have hlim : loadLimits root = .ok () := loadLimits_ok root [] (fun e he => (hf e he).loc.lim)
  have hb := loadQueue_all Benign (.inl rfl) (fun _ _ => Benign.seq) root true []
    fun e he r => loadQueueD_benign _ r (hf e he).res.parses
  rw [ha.out]
  simp only [loadNew, loadRunning, loadQueues, hlim]
  cases root.d.name != "root"
  · rcases hb with hq | hq | hq <;> simp only [Bool.false_eq_true, if_false, hq, ok_bind, error_bind]
    · cases loadRules p.rules <;> simp
    · simp
    · simp
  · simp

/-- `accepted_loads_partial`: an accepted partition loads into a new scheduler — and into a running one if its rules can
    be built — under the hypotheses `LoadHyp`: the root queue is written "root", every ACL has at most one space, the
    child template of every queue that is not a leaf parses. -/
theorem accepted_loads_partial (h : validate ps = .ok ps') : ∀ p ∈ ps', ∀ root, rootOf p = some root → LoadHyp root →
    loadNew p = .ok () ∧ (loadRules p.rules = .ok () → loadRunning p = .ok ()) := by
  intro p' hp' root hr hl
  obtain ⟨p, _, root', ha⟩ := validate_ok h p' hp'
  have : root' = root := by rw [accepted_root ha] at hr; injection hr
  subst this
  exact accepted_loads ha hl

/-! ### placement rules -/

/-- `rules_resolvable_partial`: a single `fixed` rule that validation accepted returns, at run time, nothing or a queue
    name that leads to a leaf or to something that can be created below a parent — provided the spellings agree: the
    rule name and its value are in lower case, the queue names of the tree are in lower case and every queue with
    children carries the parent flag (`CanonTree`), the root is written "root", the first component of the static
    path is root, the value is qualified for the validator exactly when it is for the rule (`rooty` is not), and the path is
    not the recovery queue.  Each hypothesis excludes one refuted class (`rules_resolvable_refuted`). -/
theorem rules_resolvable_partial (h : validate ps = .ok ps') : ∀ p ∈ ps', ∀ root, rootOf p = some root →
    root.d.name = "root" → CanonTree root →
    ∀ d, [d] ∈ p.rules → d.name = "fixed" → toLower d.value = d.value → toLower (staticPathOf d) = staticPathOf d →
    (∃ rest, splitDots (staticPathOf d) = "root" :: rest) →
    qualifiedRT d.value = hasPrefix d.value "root" → staticPathOf d ≠ "root.@recovery@" → okStaticRule root [d] = true := by
  intro p' hp' root hr hroot hc d hd hn hv hp hin hq hrec
  obtain ⟨p, _, root', ha⟩ := validate_ok h p' hp'
  have : root' = root := by rw [accepted_root ha] at hr; injection hr
  subst this
  have hrules : p'.rules = ({ p with name := partName p } : Part).rules := by rw [ha.out]
  rw [hrules] at hd
  exact single_fixed_rule_resolves ha d hd hn hv hp hroot hc hin hq hrec

/-! ### map order -/

/-- `NewResourceFromConf` ranges over a Go map: for any two orders of the entries of a map (unique keys) it gives the same
    error, or resources with the same quantity for every type … -/
theorem resources_independent_of_map_order {m m' : SMap} (hp : m.Perm m') (hn : (m.map Prod.fst).Nodup) :
    match parseConf (some m), parseConf (some m') with
    | .ok r, .ok r' => ∀ k, r.get? k = r'.get? k
    | .error e, .error e' => e = e'
    | _, _ => False := by
  have := parseConfL_perm hp hn [] [] fun _ => rfl
  unfold parseConf
  simp only [Option.getD_some]
  cases h1 : parseConfL m [] <;> cases h2 : parseConfL m' [] <;> rw [h1, h2] at this <;> exact this

/-- … and the comparison the validator makes between two resources only depends on these quantities. -/
theorem comparison_independent_of_map_order {p p' c c' : Res} (hc : wf c = true) (hc' : wf c' = true)
    (hp : ∀ k, p.get? k = p'.get? k) (hcc : ∀ k, c.get? k = c'.get? k) :
    fitInMaxUndef (some p) (some c) = fitInMaxUndef (some p') (some c') := fit_ext hc hc' hp hcc

/-- `validate_independent_of_map_order`.  `PsRel ps ps'`: the two configurations are the same except for the ORDER OF THE
    ENTRIES of their map-typed fields — max and guaranteed of every queue, `maxresources` of every limit (of queues and of
    the partition), the resources and properties of every child template, the properties of every queue, the resource
    weights; queues, limits and rules are lists and keep their order.  `PsKeys ps`: the walked maps have unique keys (they
    are Go maps).  Then validation gives the same verdict: both are rejected with the SAME ERROR CLASS, or both are accepted
    and the rewritten configurations are again the same up to the order of map entries.  No side condition on the error
    class is needed: every map walk of the validator (NewResourceFromConf, the weights loop) has a single error class,
    and reflect.DeepEqual compares maps as maps. -/
theorem validate_independent_of_map_order {ps ps' : List Part} (h : PsRel ps ps') (k : PsKeys ps) :
    match validate ps, validate ps' with
    | .ok o, .ok o' => PsRel o o'
    | .error e, .error e' => e = e'
    | _, _ => False := by
  rcases (validate_congr h k).cases with ⟨e, h1, h2⟩ | ⟨o, o', h1, h2, ho⟩ <;> rw [h1, h2]
  exact ho

/-- The verdict and the error class, spelled out. -/
theorem validate_verdict_independent_of_map_order {ps ps' : List Part} (h : PsRel ps ps') (k : PsKeys ps) :
    ((∃ o, validate ps = .ok o) ↔ ∃ o', validate ps' = .ok o') ∧ ∀ e, validate ps = .error e ↔ validate ps' = .error e := by
  rcases (validate_congr h k).cases with ⟨e, h1, h2⟩ | ⟨o, o', h1, h2, _⟩ <;> rw [h1, h2] <;> simp

/-- The same for every family of permutations: `σ` re-orders each string map (it may treat every map differently), `τ` the
    resource weights; `mapPart σ τ` applies them to every map-typed field of a partition. -/
theorem validate_under_every_permutation {ps : List Part} (σ : SMap → SMap) (τ : List (String × Bool) → List (String × Bool))
    (hσ : ∀ m, (σ m).Perm m) (hτ : ∀ w, (τ w).Perm w) (k : PsKeys ps) :
    ((∃ o, validate ps = .ok o) ↔ ∃ o', validate (ps.map (mapPart σ τ)) = .ok o') ∧
    ∀ e, validate ps = .error e ↔ validate (ps.map (mapPart σ τ)) = .error e :=
  validate_verdict_independent_of_map_order (PsRel.map hσ hτ ps) k

/-- Below the error class, the MESSAGE of a rejected resource map is that of the first offending entry of the walk
    (`firstParseErr`): it does not depend on the order when at most one entry of the map offends … -/
theorem message_independent_of_map_order_one_offender {m m' : SMap} (hp : m.Perm m')
    (h1 : ∀ q1 ∈ m, ∀ q2 ∈ m, errOf q1 ≠ none → errOf q2 ≠ none → q1 = q2) : firstParseErr m = firstParseErr m' := by
  rw [firstParseErr_eq, firstParseErr_eq]
  refine head?_perm_of_all_eq (hp.filterMap errOf) ?_
  intro a ha b hb
  obtain ⟨q1, hq1, e1⟩ := List.mem_filterMap.mp ha
  obtain ⟨q2, hq2, e2⟩ := List.mem_filterMap.mp hb
  have := h1 q1 hq1 q2 hq2 (by rw [e1]; exact Option.some_ne_none a) (by rw [e2]; exact Option.some_ne_none b)
  rw [this, e2] at e1
  exact (Option.some.inj e1).symm

/-- … and does depend on it with two: "invalid quantity" or "invalid quantity: overflow" for the same map.  (The real
    validator behaves the same — Go's map iteration picks the entry; an observation, the verdict and the class are the
    same; corpus/C15/conf-map-order.jsonl.) -/
example : firstParseErr [("memory", "abc"), ("pods", "8Ei")] = some .invalid ∧
    firstParseErr [("pods", "8Ei"), ("memory", "abc")] = some .overflow ∧
    parseConf (some [("memory", "abc"), ("pods", "8Ei")]) = .error .parse ∧
    parseConf (some [("pods", "8Ei"), ("memory", "abc")]) = .error .parse := by decide +kernel

/-! ### witnesses: non-vacuity, and what the unchanged validator lets through -/

def qd (name : String) : QD :=
  { name := name, parent := false, g := none, m := none, maxApps := 0, props := none,
    adminACL := "", submitACL := "", tmpl := emptyTmpl, limits := [] }
def part (root : QC) (rules : List Rule := []) : Part :=
  { name := "default", queues := some [root], rules := rules, limits := [], nsp := "", weights := [] }
def lim (users : List String) (res : Option SMap) (apps : Nat) : Limit :=
  { label := "l", users := some users, groups := none, maxRes := res, maxApps := apps }
def rule (name value : String) (create : Bool) : RuleD :=
  { name := name, create := create, value := value, ftype := "", fusers := [], fgroups := [], ure := true, gre := true }

/-- the configuration is accepted and the validated partitions satisfy `f` -/
def acceptedAnd (ps : List Part) (f : List Part → Bool) : Bool :=
  match validate ps with
  | .ok ps' => f ps'
  | .error _ => false

theorem acceptedAnd_spec {ps : List Part} {f : List Part → Bool} (h : acceptedAnd ps f = true) :
    ∃ ps', validate ps = .ok ps' ∧ f ps' = true := by
  unfold acceptedAnd at h
  split at h
  · rename_i ps' hv; exact ⟨ps', hv, h⟩
  · cases h

theorem accepted_of_eval {ps : List Part} {P : List Part → Prop} [DecidablePred P]
    (h : acceptedAnd ps (fun ps' => decide (P ps')) = true) : ∃ ps', validate ps = .ok ps' ∧ P ps' :=
  let ⟨ps', hv, hp⟩ := acceptedAnd_spec h
  ⟨ps', hv, of_decide_eq_true hp⟩

/-- the configuration is rejected with this error -/
def rejectedWith (ps : List Part) (e : VErr) : Bool :=
  match validate ps with
  | .ok _ => false
  | .error e' => decide (e' = e)

/-- some queue of some partition violates the clause -/
def someQueueViolates (c : Entry → Bool) (ps' : List Part) : Bool := ps'.any (fun p => (queuesOf p).any (fun e => !c e))

/-- some placement rule of some partition does not resolve -/
def someRuleUnresolved (ps' : List Part) : Bool :=
  ps'.any (fun p => match rootOf p with | some r => p.rules.any (fun rl => !okStaticRule r rl) | none => false)

/-- a hierarchy with units, sparse maps, limits and a rule that is accepted, loads, and satisfies the strict clauses too -/
def good : List Part :=
  [part (.mk { qd "root" with parent := true, submitACL := "*", limits := [lim ["*"] (some [("memory", "64Gi")]) 20] }
      [.mk { qd "prod" with parent := true, m := some [("memory", "32Gi"), ("vcore", "16")], g := some [("memory", "8Gi")], maxApps := 10 }
         [.mk { qd "etl" with m := some [("memory", "16Gi")], g := some [("memory", "4Gi"), ("vcore", "2500m")], maxApps := 5,
                               limits := [lim ["alice"] (some [("memory", "8 Gi")]) 3] } [],
          .mk { qd "adhoc" with g := some [("memory", "4096Mi")], maxApps := 10 } []],
       .mk (qd "dev") []])
    (rules := [[rule "fixed" "root.prod.etl" false]])]

set_option maxRecDepth 100000 in
example : acceptedAnd good (fun ps' => decide (loadNewAll ps' = .ok ()) && decide (loadRunningAll ["default"] ps' = .ok ()) &&
    !someRuleUnresolved ps' && ps'.all okSingleRoot &&
    (clauseList true ++ strictList).all (fun c => !someQueueViolates c.2 ps')) = true := by decide +kernel

/-! limit ladders: the same user / group / wildcard on three and four levels that name different resource types -/

def glim (groups : List String) (res : Option SMap) (apps : Nat) : Limit :=
  { label := "l", users := none, groups := some groups, maxRes := res, maxApps := apps }

/-- root → parent → leaf, one limit entry each -/
def ladder3 (top mid leaf : Limit) : List Part :=
  [part (.mk { qd "root" with parent := true, submitACL := "*", limits := [top] }
    [.mk { qd "parent" with parent := true, limits := [mid] } [.mk { qd "leaf" with limits := [leaf] } []]])]

/-- root → a → b → leaf -/
def ladder4 (top a b leaf : Limit) : List Part :=
  [part (.mk { qd "root" with parent := true, submitACL := "*", limits := [top] }
    [.mk { qd "a" with parent := true, limits := [a] }
      [.mk { qd "b" with parent := true, limits := [b] } [.mk { qd "leaf" with limits := [leaf] } []]]])]

def allClauses (ps' : List Part) : Bool := (clauseList true).all (fun c => !someQueueViolates c.2 ps')

/-- group dev: memory 100 on root, vcore 5 on root.parent, memory 500 on root.parent.leaf is REJECTED (500 > 100 two levels
    up, through a level that does not name memory); with memory 100 (or 99 and the vcore of the parent) on the leaf, or
    when no level above names memory, it is accepted and satisfies every clause. -/
example : rejectedWith (ladder3 (glim ["dev"] (some [("memory", "100")]) 0) (glim ["dev"] (some [("vcore", "5")]) 0)
    (glim ["dev"] (some [("memory", "500")]) 0)) .glimResGtParent = true := by decide +kernel
set_option maxRecDepth 100000 in
example : acceptedAnd (ladder3 (glim ["dev"] (some [("memory", "100")]) 0) (glim ["dev"] (some [("vcore", "5")]) 0)
    (glim ["dev"] (some [("memory", "100")]) 0)) allClauses = true := by decide +kernel
set_option maxRecDepth 100000 in
example : acceptedAnd (ladder3 (glim ["dev"] (some [("memory", "100")]) 0) (glim ["dev"] (some [("vcore", "5")]) 0)
    (glim ["dev"] (some [("memory", "99"), ("vcore", "5000m")]) 0)) allClauses = true := by decide +kernel
set_option maxRecDepth 100000 in
example : acceptedAnd (ladder3 (glim ["dev"] (some [("vcore", "8")]) 0) (glim ["dev"] (some [("vcore", "5")]) 0)
    (glim ["dev"] (some [("memory", "500")]) 0)) allClauses = true := by decide +kernel
/-- the same shape for a named user, the user wildcard, the group wildcard (next to a named group), and a named user that
    meets only wildcard entries above -/
example : rejectedWith (ladder3 (lim ["alice"] (some [("memory", "100")]) 0) (lim ["alice"] (some [("vcore", "5")]) 0)
    (lim ["alice"] (some [("memory", "500")]) 0)) .ulimResGtParent = true := by decide +kernel
example : rejectedWith (ladder3 (lim ["*"] (some [("memory", "100")]) 0) (lim ["*"] (some [("vcore", "5")]) 0)
    (lim ["*"] (some [("memory", "500")]) 0)) .ulimResGtParent = true := by decide +kernel
example : rejectedWith (ladder3 (glim ["ops", "*"] (some [("memory", "100")]) 0) (glim ["ops", "*"] (some [("vcore", "5")]) 0)
    (glim ["ops", "*"] (some [("memory", "500")]) 0)) .glimResGtParent = true := by decide +kernel
example : rejectedWith (ladder3 (lim ["*"] (some [("memory", "100")]) 0) (lim ["*"] (some [("vcore", "5")]) 0)
    (lim ["alice"] (some [("memory", "500")]) 0)) .ulimResGtWildcard = true := by decide +kernel
/-- four levels: two levels in between name other types (vcore; a third type) -/
example : rejectedWith (ladder4 (glim ["dev"] (some [("memory", "1Gi")]) 0) (glim ["dev"] (some [("vcore", "5")]) 0)
    (glim ["dev"] (some [("nvidia.com/gpu", "2")]) 0) (glim ["dev"] (some [("memory", "2Gi")]) 0)) .glimResGtParent = true := by decide +kernel
example : rejectedWith (ladder4 (lim ["alice"] (some [("memory", "1Gi")]) 0) (lim ["alice"] (some [("vcore", "5")]) 0)
    (lim ["alice"] (some [("memory", "512Mi")]) 0) (lim ["alice"] (some [("vcore", "6")]) 0)) .ulimResGtParent = true := by decide +kernel
set_option maxRecDepth 100000 in
example : acceptedAnd (ladder4 (glim ["dev"] (some [("memory", "1Gi"), ("vcore", "8")]) 0) (glim ["dev"] (some [("vcore", "5")]) 0)
    (glim ["dev"] (some [("nvidia.com/gpu", "2"), ("memory", "512Mi")]) 0)
    (glim ["dev"] (some [("memory", "512Mi"), ("vcore", "5000m"), ("nvidia.com/gpu", "2")]) 0)) allClauses = true := by decide +kernel

theorem dkeys_of {d : QD} (h1 : ((d.g.getD []).map Prod.fst).Nodup) (h2 : ((d.m.getD []).map Prod.fst).Nodup)
    (h3 : d.limits.all (fun l => decide (((l.maxRes.getD []).map Prod.fst).Nodup)) = true) : DKeys d :=
  ⟨h1, h2, fun l hl => by have := List.all_eq_true.mp h3 l hl; unfold KeysOK; simpa using this⟩

/-! The hypotheses of `validate_independent_of_map_order` are satisfiable: the maps of `good` have unique keys, and `good`
    with every map reversed is accepted like `good`. -/

set_option maxRecDepth 100000 in
example : PsKeys good := by
  intro p hp
  simp only [good, List.mem_singleton] at hp
  subst hp
  refine ⟨?_, ?_⟩
  · intro qs hqs
    simp only [part] at hqs
    injection hqs with hqs
    subst hqs
    simp only [QLKeys, QKeys, and_true]
    refine ⟨?_, ⟨?_, ?_, ?_⟩, ?_⟩ <;> exact dkeys_of (by decide) (by decide) (by decide +kernel)
  · intro l hl; simp [part] at hl

set_option maxRecDepth 100000 in
example : acceptedAnd (good.map (mapPart List.reverse List.reverse)) (fun ps' => ps'.all okSingleRoot) = true := by decide +kernel

/-- the hypotheses of `rules_resolvable_partial` are satisfiable: the tree and the rule of `good` -/
def goodRoot : QC := match good with | [p] => (rootOf p).getD (.mk (qd "x") []) | _ => .mk (qd "x") []

set_option maxRecDepth 100000 in
example : CanonTree goodRoot ∧ toLower (staticPathOf (rule "fixed" "root.prod.etl" false)) = staticPathOf (rule "fixed" "root.prod.etl" false) ∧
    splitDots (staticPathOf (rule "fixed" "root.prod.etl" false)) = ["root", "prod", "etl"] ∧
    qualifiedRT "root.prod.etl" = hasPrefix "root.prod.etl" "root" := by
  refine ⟨?_, by decide +kernel, by decide +kernel, by decide +kernel⟩
  simp only [goodRoot, good, part, rootOf, Option.getD_some, CanonTree, CanonList]
  decide +kernel

set_option maxRecDepth 100000 in
/-- rejected examples: child maximum above the parent's through a level that does not define the type; children's guaranteed above the parent's -/
example : rejectedWith [part (.mk (qd "root") [.mk { qd "a" with m := some [("memory", "10")] } [.mk (qd "b") [.mk { qd "c" with m := some [("memory", "11")] } []]]])]
      .maxGtParent = true ∧
    rejectedWith [part (.mk (qd "root") [.mk { qd "a" with g := some [("vcore", "1")] }
        [.mk { qd "b" with g := some [("vcore", "600m")] } [], .mk { qd "c" with g := some [("vcore", "600m")] } []]])]
      .sumGGtParentG = true := by decide +kernel

/-- "at least 1 partition must be defined" (documented on `Validate`) is REFUTED: the configuration without partitions —
    also what an empty document decodes to — is accepted (class C15.S0). -/
theorem no_partition_accepted : validate [] = .ok [] := rfl

/-! The clause without `LoadHyp`, `validate c = .ok c' → load c' succeeds`, is REFUTED for the unchanged code.  Each of the following
    configurations is accepted by validation and fails to load (classes C15.LD.* / C15.RL.* of the check). -/

def wAcl : List Part := [part (.mk { qd "root" with submitACL := "*" } [.mk { qd "a" with submitACL := " bob grp" } []])]
def wTemplate : List Part := [part (.mk { qd "root" with submitACL := "*" }
  [.mk { qd "a" with parent := true, tmpl := { emptyTmpl with m := some [("memory", "abc")] } } []])]
def wRootName : List Part := [part (.mk { qd "Root" with submitACL := "*" } [])]
def wRule (r : Rule) : List Part := [part (.mk { qd "root" with submitACL := "*" } []) (rules := [r])]

theorem accepted_loads_refuted :
    (∃ ps', validate wAcl = .ok ps' ∧ loadNewAll ps' = .error .acl) ∧
    (∃ ps', validate wTemplate = .ok ps' ∧ loadNewAll ps' = .error .tmplParse) ∧
    (∃ ps', validate wRootName = .ok ps' ∧ loadNewAll ps' = .error .rootName) :=
  ⟨accepted_of_eval (by decide +kernel), accepted_of_eval (by decide +kernel), accepted_of_eval (by decide +kernel)⟩

/-- the rule chains validation accepts although placement.newRule refuses them: a new partition then runs without any
    rule (`rulesActive = false`) and an update of a running partition fails -/
def unloadableRules : List (Rule × LErr) :=
  [([rule "foo" "" false], .ruleUnknown), ([rule "recovery" "" false], .ruleRecovery), ([rule "fixed" "" true], .fixedEmpty),
   ([rule "fixed" "root.a b" true], .fixedQueueName), ([rule "fixed" "root.a" true, rule "user" "" false], .fixedQualifiedParent),
   ([rule "tag" "" true], .tagEmpty)]

theorem accepted_rules_refuted : ∀ w ∈ unloadableRules, ∃ ps', validate (wRule w.1) = .ok ps' ∧
    loadRunningAll ["default"] ps' = .error w.2 ∧ ps'.all rulesActive = false := by
  have : ∀ w ∈ unloadableRules, acceptedAnd (wRule w.1) (fun ps' =>
      decide (loadRunningAll ["default"] ps' = .error w.2 ∧ ps'.all rulesActive = false)) = true := by decide +kernel
  exact fun w hw => accepted_of_eval (this w hw)

/-! "placement rules resolvable" is REFUTED for static rules in six ways (classes C15.P1.*): a value that only starts with
    "root" (validation reads `rooty` as a qualified path outside the tree, the rule places into root.rooty — here an
    existing parent queue), the recovery queue (a no-match for applications that are not forced), a rule name / a value /
    a queue name written in another case, a queue with children that is not flagged as parent. -/

def unresolved : List (List Part) :=
  [ [part (.mk { qd "root" with submitACL := "*" } [.mk { qd "rooty" with parent := true } [.mk (qd "b") []]]) (rules := [[rule "fixed" "rooty" true]])],
    wRule [rule "fixed" "@recovery@" true],
    [part (.mk { qd "root" with submitACL := "*" } [.mk { qd "a" with parent := true } [.mk (qd "b") []]]) (rules := [[rule "Fixed" "root.a" false]])],
    wRule [rule "fixed" "ROOT" true],
    [part (.mk { qd "root" with submitACL := "*" } [.mk (qd "Prod") []]) (rules := [[rule "fixed" "root.prod.x" true]])],
    [part (.mk { qd "root" with submitACL := "*" } [.mk (qd "a") [.mk (qd "b") []]]) (rules := [[rule "fixed" "root.a" false]])] ]

theorem rules_resolvable_refuted : ∀ w ∈ unresolved, ∃ ps', validate w = .ok ps' ∧ someRuleUnresolved ps' = true := by
  have : ∀ w ∈ unresolved, acceptedAnd w someRuleUnresolved = true := by decide +kernel
  exact fun w hw => acceptedAnd_spec (this w hw)

/-! The stricter readings of the limit and sum rules are REFUTED (classes C15.L1e, C15.L1root, C15.L3w, C15.L4w, C15.Q3sat). -/

def wLimitAboveAncestorMax : List Part := [part (.mk (qd "root")
  [.mk { qd "a" with m := some [("memory", "5")] } [.mk { qd "b" with limits := [lim ["alice"] (some [("memory", "10")]) 0] } []]])]
def wLimitInQueueNamedRoot : List Part := [part (.mk (qd "root")
  [.mk { qd "root" with m := some [("memory", "5")], limits := [lim ["alice"] (some [("memory", "10")]) 0] } []])]
def wWildcardShadowed : List Part := [part (.mk { qd "root" with limits := [lim ["carol"] none 9] }
  [.mk { qd "a" with limits := [lim ["*"] (some [("memory", "7")]) 3] }
     [.mk { qd "b" with limits := [lim ["carol"] (some [("memory", "10")]) 5] } []]])]
def wSaturatedSum : List Part := [part (.mk (qd "root")
  [.mk { qd "a" with g := some [("memory", "9223372036854775807")] }
     [.mk { qd "b" with g := some [("memory", "7E")] } [], .mk { qd "c" with g := some [("memory", "7E")] } []]])]

theorem strict_readings_refuted :
    (∃ ps', validate wLimitAboveAncestorMax = .ok ps' ∧ someQueueViolates strictLimitWithinAncestorMax ps' = true) ∧
    (∃ ps', validate wLimitInQueueNamedRoot = .ok ps' ∧ someQueueViolates okLimitWithinQueueMax ps' = true) ∧
    (∃ ps', validate wWildcardShadowed = .ok ps' ∧ someQueueViolates (strictLimitWildcard resWithin false) ps' = true ∧
        someQueueViolates (strictLimitWildcard appsWithin false) ps' = true) ∧
    (∃ ps', validate wSaturatedSum = .ok ps' ∧ someQueueViolates (okChildrenSumG false) ps' = true) :=
  ⟨acceptedAnd_spec (by decide +kernel), acceptedAnd_spec (by decide +kernel), accepted_of_eval (by decide +kernel),
   acceptedAnd_spec (by decide +kernel)⟩

end Yk.C15
