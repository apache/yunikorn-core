/-
  C09 on the stepped Core model: the reservation invariant `ResInv` (the clauses R1–R5 of the monitor `Core.resOK`,
  CoreState.lean, in a form that is inductive over the operations), the side conditions of the operations that make
  reservations or allocate asks, and executable checkers for both.
  Preservation proofs: Core2ResOps.lean, Core2ResRel.lean, Core2ResApp.lean, Core2ResNode.lean (over the step relation of
  Core2ResStep.lean); histories: Core2ResRun.lean.
-/
import YkProofs.Core2Life
namespace Yk
open Res Core

/-- the number of reservations the live applications hold -/
def resvTotal (s : Core) : Nat := (s.liveApps.map (·.reservations.length)).sum

/-- The reservation invariant.  `appNode` / `outstanding` are R1 (application ⊆ node) and R5, `nodeApp` is R1 (node ⊆
    application, naming the owner), `queueCount` / `queueApp` are R2, `counter` is R3 (in the stronger form counter ≥
    number of reservations), `nodeExcl` is R4; `onePerAsk`, `nodeKeys`, `queueKeys`, `owner` say that the three views are
    Go maps (keyed by ask key / by application id); `quiet` says that an application that is on its way out (Failing, Completing, or — in the middle
    of a node removal — already terminated) holds no reservation (the scheduler does not reserve for it, and its reservations were released when it got there). -/
structure ResInv (s : Core) : Prop where
  appNode : ∀ a ∈ s.apps, a.live = true → ∀ r ∈ a.reservations, ∃ n, s.findNode r.2 = some n ∧ r.1 ∈ n.reservations
  outstanding : ∀ a ∈ s.apps, a.live = true → ∀ r ∈ a.reservations, ∃ i ∈ a.items, i.key = r.1 ∧ i.outstanding = true
  onePerAsk : ∀ a ∈ s.apps, a.live = true → (a.reservations.map (·.1)).Nodup
  nodeApp : ∀ n ∈ s.nodes, ∀ k ∈ n.reservations, ∃ a ∈ s.apps, a.live = true ∧ (k, n.id) ∈ a.reservations
  nodeKeys : ∀ n ∈ s.nodes, n.reservations.Nodup
  owner : ∀ a ∈ s.apps, ∀ b ∈ s.apps, a.live = true → b.live = true → ∀ r, r ∈ a.reservations → r ∈ b.reservations → a.id = b.id
  queueCount : ∀ a ∈ s.apps, a.live = true →
    match s.findQueue a.queue with
    | none => a.reservations = []
    | some _ => ∀ q ∈ s.queues, q.path = a.queue → (q.reserved.lookup a.id).getD 0 = a.reservations.length
  queueKeys : ∀ q ∈ s.queues, (q.reserved.map (·.1)).Nodup
  queueApp : ∀ q ∈ s.queues, ∀ r ∈ q.reserved, r.2 = 0 ∨ ∃ a ∈ s.apps, a.live = true ∧ a.id = r.1 ∧ a.queue = q.path
  counter : resvTotal s ≤ s.reservations
  nodeExcl : ∀ n ∈ s.nodes, n.reservations.length ≤ 1 ∨
    ∀ k ∈ n.reservations, ∃ a ∈ s.apps, a.live = true ∧ (k, n.id) ∈ a.reservations ∧ ∃ i ∈ a.items, i.key = k ∧ i.reqNode = n.id
  quiet : ∀ a ∈ s.apps, a.live = true → (a.state = "Failing" ∨ a.state = "Completing" ∨ terminated a.state = true) →
    a.reservations = []

/-- partition.reserve is called for an outstanding ask of a schedulable application that has no reservation yet, on a
    registered node that is free or — for an ask that requires this node — shared with other required-node asks only. -/
structure ReserveOK (s : Core) (app key node : String) : Prop where
  appState : ∀ a, s.findApp app = some a → a.state ≠ "Failing" ∧ a.state ≠ "Completing" ∧
    (∃ i ∈ a.items, i.key = key ∧ i.outstanding = true) ∧ (s.findQueue a.queue).isSome = true
  nodeFree : ∀ a, s.findApp app = some a → ∃ n, s.findNode node = some n ∧ key ∉ n.reservations ∧
    (n.reservations = [] ∨
     ((∃ i ∈ a.items, i.key = key ∧ i.reqNode = node) ∧
      ∀ k ∈ n.reservations, ∃ b ∈ s.apps, b.live = true ∧ (k, n.id) ∈ b.reservations ∧ ∃ i ∈ b.items, i.key = k ∧ i.reqNode = n.id))

/-- the ask a scheduling decision allocates holds no reservation (partition.allocate unreserves first) -/
def NotReserved (s : Core) (app key : String) : Prop :=
  ∀ a, s.findApp app = some a → ∀ r ∈ a.reservations, r.1 ≠ key

/-- what a step needs for `ResInv` beyond the other side conditions -/
def Op.okRes (s : Core) : Op → Prop
  | .reserve app key node => ReserveOK s app key node
  | .schedAlloc app key _ => NotReserved s app key
  | .swapStart app realKey _ _ => NotReserved s app realKey
  -- the first-part `releaseKey` (YkModel/CoreOps.lean) does not model reservations: it is the release of an ask without one
  | .releaseKey app key => NotReserved s app key
  -- a new application / a new dynamic queue starts without reservations
  | .appAdd a nq => (∀ x, a = some x → x.reservations = []) ∧ (∀ q ∈ nq, q.reserved = [])
  | _ => True

/-! ### executable checkers -/

def resInvb (s : Core) : Bool :=
  let live := s.liveApps
  live.all (fun a => a.reservations.all (fun r =>
    (s.findNode r.2).any (fun n => n.reservations.contains r.1) && a.items.any (fun i => i.key == r.1 && i.outstanding))) &&
  live.all (fun a => (a.reservations.map (·.1)).eraseDups.length == a.reservations.length) &&
  s.nodes.all (fun n => n.reservations.all (fun k => live.any (fun a => a.reservations.contains (k, n.id))) &&
    n.reservations.eraseDups.length == n.reservations.length) &&
  live.all (fun a => live.all (fun b => a.id == b.id || a.reservations.all (fun r => !(b.reservations.contains r)))) &&
  live.all (fun a => match s.findQueue a.queue with
    | none => a.reservations.isEmpty
    | some _ => s.queues.all (fun q => q.path != a.queue || (q.reserved.lookup a.id).getD 0 == a.reservations.length)) &&
  s.queues.all (fun q => (q.reserved.map (·.1)).eraseDups.length == q.reserved.length &&
    q.reserved.all (fun r => r.2 == 0 || live.any (fun a => a.id == r.1 && a.queue == q.path))) &&
  decide (resvTotal s ≤ s.reservations) &&
  s.nodes.all (fun n => n.reservations.length ≤ 1 || n.reservations.all (fun k =>
    live.any (fun a => a.reservations.contains (k, n.id) && a.items.any (fun i => i.key == k && i.reqNode == n.id)))) &&
  live.all (fun a => !(a.state == "Failing" || a.state == "Completing" || terminated a.state) || a.reservations.isEmpty)

def reserveOKb (s : Core) (app key node : String) : Bool :=
  match s.findApp app with
  | none => true
  | some a =>
    a.state != "Failing" && a.state != "Completing" && a.items.any (fun i => i.key == key && i.outstanding) &&
    (s.findQueue a.queue).isSome &&
    (match s.findNode node with
     | none => false
     | some n => !(n.reservations.contains key) &&
        (n.reservations.isEmpty ||
         (a.items.any (fun i => i.key == key && i.reqNode == node) &&
          n.reservations.all (fun k => s.liveApps.any (fun b => b.reservations.contains (k, n.id) &&
            b.items.any (fun i => i.key == k && i.reqNode == n.id))))))

def notReservedb (s : Core) (app key : String) : Bool :=
  match s.findApp app with
  | none => true
  | some a => a.reservations.all (fun r => r.1 != key)

def Op.okResb (s : Core) : Op → Bool
  | .reserve app key node => reserveOKb s app key node
  | .schedAlloc app key _ => notReservedb s app key
  | .swapStart app realKey _ _ => notReservedb s app realKey
  | .releaseKey app key => notReservedb s app key
  | .appAdd a nq => (match a with | none => true | some x => x.reservations.isEmpty) && nq.all (fun q => q.reserved.isEmpty)
  | _ => true

end Yk
