/-
  Histories with the linkage invariant: `Linked` (C03 clause I8) is preserved by every operation of the stepped model.
  With it the node-side conditions of the release operations follow from the invariant: the side condition of a step
  shrinks to `Op.ok2` — well-formed requests, new keys in Go maps, the size guard and the parking of a replacement, no
  int64 saturation where a pending total grows.
-/
import YkProofs.Core2Run
import YkProofs.Core2LinkOps
import YkProofs.Core2LinkRel
import YkProofs.Core2LinkApp
import YkProofs.Core2LinkNode
namespace Yk
open Res Core

/-- the side condition of one step when the state is `Linked`: nothing about where allocations are listed is assumed,
    except that the real half of a cross-node replacement is parked on its node when the swap is confirmed
    (`SwapLinkOK.parked`, `NodeRemoveLinkOK`) -/
def Op.ok2 (s : Core) : Op → Prop
  | .nodeCreate _ cap _ => wf cap = true
  | .nodeUpdate _ cap => wf cap = true
  | .nodeSchedulable _ _ => True
  | .nodeRemove id order => NodeRemoveOK s id order ∧ NodeRemoveLinkOK s id order
  | .foreignAdd key node res => wf res = true ∧ FreshOnNode s node key
  | .foreignRemove _ => True
  | .appAdd _ nq => FreshQueuesOK s nq
  | .appRemove _ => True
  | .ask app key res _ _ _ => AskOK s app key res
  | .schedAlloc _ key node => FreshOnNode s node key
  | .swapStart _ realKey _ node => FreshOnNode s node realKey
  | .swapConfirm app phKey => SwapLinkOK s app phKey
  | .releaseKey _ _ => True
  | .release _ _ _ => True
  | .releaseApp _ _ => True
  | .markReleased _ _ _ => True
  | .phTimeout _ _ => True
  | .stateTimeout _ => True
  | .cleanup => True
  | .reserve _ _ _ => True
  | .unreserve _ _ _ => True

theorem ok_of_ok2 (s : Core) (op : Op) (hl : Linked s) (h : op.ok2 s) : op.ok s := by
  cases op with
  | nodeRemove id order => exact h.1
  | appRemove app => exact hl.appOnNodes app
  | swapConfirm app phKey => exact SwapLinkOK.swapOK hl h
  | releaseKey app key => exact hl.releaseOK app key
  | release tt app key => exact hl.releaseOK app key
  | releaseApp tt app => exact hl.appOnNodes app
  | _ => exact h

theorem step_linked (s : Core) (op : Op) (hw : CoreWF s) (hb : Books s) (hl : Linked s) (hok : op.ok2 s) :
    Linked (op.apply s) := by
  cases op with
  | nodeCreate id cap b => exact linked_nodeCreate hl id cap b
  | nodeUpdate id cap => exact linked_nodeUpdate hl id cap
  | nodeSchedulable id b => exact linked_nodeSchedulable hl id b
  | nodeRemove id order => exact linked_nodeRemove s id order hw hb hl hok.1 hok.2
  | foreignAdd key node res => exact linked_foreignAdd hl key node res
  | foreignRemove key => exact linked_foreignRemove hw hl key
  | appAdd a nq => exact linked_appAdd hl a nq
  | appRemove app => exact linked_appRemove app hw hl
  | ask app key res ph tg reqNode => exact linked_ask hw hl app key res ph tg reqNode
  | schedAlloc app key node =>
    exact getD_keeps (P := Linked) hl (fun s' h => linked_schedAlloc hw hl app key node h)
  | swapStart app realKey phKey node =>
    exact getD_keeps (P := Linked) hl (fun s' h => linked_swapStart s s' app realKey phKey node hw hl h)
  | swapConfirm app phKey => exact linked_swapConfirm s app phKey hw hl hok
  | releaseKey app key => exact linked_releaseKey hw hl app key
  | release tt app key => exact linked_releaseKeyT s tt app key hw hl
  | releaseApp tt app => exact linked_releaseApp tt app hw hl
  | markReleased app key p => exact linked_markReleased hw hl app key p
  | phTimeout app ev => exact linked_phTimeout hw hl app ev
  | stateTimeout app => exact linked_stateTimeout hw hl app
  | cleanup => exact linked_cleanup hl
  | reserve app key node => exact linked_reserve hl app key node
  | unreserve app key node => exact linked_unreserve hl app key node

def RunOK2 : Core → List Op → Prop
  | _, [] => True
  | s, op :: t => op.ok2 s ∧ RunOK2 (op.apply s) t

/-- C03 ("an application's totals are the sums of its allocations …, every allocation an application lists is on its
    node"): from a well-formed, balanced and linked state the books stay balanced, the state well-formed and linked, along
    every history of the stepped model whose steps meet `Op.ok2` in the state they are applied to. -/
theorem reachable_linked (s : Core) (ops : List Op) (hw : CoreWF s) (hb : Books s) (hl : Linked s) (hok : RunOK2 s ops) :
    Books (run s ops) ∧ CoreWF (run s ops) ∧ Linked (run s ops) := by
  induction ops generalizing s with
  | nil => exact ⟨hb, hw, hl⟩
  | cons op t ih =>
    obtain ⟨h1, h2⟩ := hok
    obtain ⟨hb', hw'⟩ := step_props s op hw hb (ok_of_ok2 s op hl h1)
    exact ih (op.apply s) hw' hb' (step_linked s op hw hb hl h1) h2

end Yk
