/-
  The life-cycle invariants along histories of the stepped Core model: `LifeInv` (C06 "no placeholder outlives its
  application"; C10 "terminated applications leave the partition", "a Completed application holds no real allocation") is
  preserved by every operation; so is `NoPendInv` (C10 "an application with outstanding asks is not Completing /
  Completed") — also by a node removal that rolls back an in-flight swap (`LifeD.appMid_deallocAppRun`).  The side
  condition `Op.okLife` of a step does not depend on the state; its executable form is at the end.  The file opens with
  the node removal as one operation (`life_nopend_nodeRemove`: the loop, the fold and the drop of Core2LifeNode.lean with
  the sweep of Core2LifeApp.lean).
-/
import YkProofs.Core2LifeOps
import YkProofs.Core2LifeRel
import YkProofs.Core2LifeApp
import YkProofs.Core2LifeNode
namespace Yk
open Res Core

/-- partition.removeNode: the loop over the node's allocations keeps `LifeCore` and `NoPendMid` (also when it rolls a swap
    back), the sweep of the terminated applications restores `termGone` and `NoPendInv`. -/
theorem life_nopend_nodeRemove (s : Core) (id : String) (order : List (String × String)) (hw : CoreWF s) (hb : Books s)
    (hl : LifeInv s) (hok : NodeRemoveOK s id order) :
    LifeInv (s.nodeRemove id order) ∧ (NoPendInv s → NoPendInv (s.nodeRemove id order)) := by
  unfold nodeRemove
  split
  · exact ⟨hl, fun hp => hp⟩
  · rename_i n hn
    have hL := lifeCore_nodeRemove_loop s id order hw hb hl hok hn
    obtain ⟨hb0, hw0, _⟩ := unreserveFold_props id n.reservations s hw hb
    obtain ⟨hb1, hw1, _⟩ := nodeLoop_props id _ _ hw0 hb0 (hok n hn)
    exact ⟨lifeInv_dropNode _ id _ _ (life_sweepTerminated _ hw1 hb1 hL), fun hp =>
      nopend_dropNode _ id _ _ (nopend_sweepTerminated_mid _ hw1 hb1 hL (nopendMid_nodeRemove_loop s id order hw hb hl hp hok hn))⟩

/-- what a step needs for the life-cycle invariant beyond `Op.ok2`: a new application is not submitted as terminated, the
    placeholder timer announces Failing (Hard) or Resuming (Soft) or nothing -/
def Op.okLife : Op → Prop
  | .appAdd a _ => ∀ x, a = some x → terminated x.state = false
  | .phTimeout _ ev => ev = none ∨ ev = some "Failing" ∨ ev = some "Resuming"
  | _ => True

/-- a node removal does not roll back an in-flight swap: side condition of
    `C10.outstanding_ask_not_completed_partial`; `step_life_nopend` does not need it -/
def Op.okNoPend (s : Core) : Op → Prop
  | .nodeRemove id order => NoRollback s id order
  | _ => True

theorem step_life_nopend (s : Core) (op : Op) (hw : CoreWF s) (hb : Books s) (hk : Linked s) (hl : LifeInv s)
    (hok : op.ok2 s) (hol : op.okLife) : LifeInv (op.apply s) ∧ (NoPendInv s → NoPendInv (op.apply s)) := by
  have hfull := ok_of_ok2 s op hk hok
  cases op with
  | nodeCreate id cap b => exact LifeA.same_keeps (LifeA.nodeCreate_same s id cap b) hl
  | nodeUpdate id cap => exact LifeA.same_keeps (LifeA.nodeUpdate_same s id cap) hl
  | nodeSchedulable id b => exact LifeA.same_keeps (LifeA.nodeSchedulable_same s id b) hl
  | nodeRemove id order => exact life_nopend_nodeRemove s id order hw hb hl hfull
  | foreignAdd key node res => exact LifeA.same_keeps (LifeA.foreignAdd_same s key node res) hl
  | foreignRemove key => exact LifeA.same_keeps (LifeA.foreignRemove_same s key) hl
  | appAdd a nq => exact LifeA.same_keeps (LifeA.appAdd_same s a nq hol) hl
  | appRemove app => exact life_nopend_appRemove s app hl
  | ask app key res ph tg reqNode => exact life_nopend_ask s app key res ph tg reqNode hw hl hok.resWf
  | schedAlloc app key node =>
    exact getD_keeps (P := fun t => LifeInv t ∧ (NoPendInv s → NoPendInv t)) ⟨hl, id⟩
      (fun s' h => life_nopend_schedAlloc s s' app key node hw hl h)
  | swapStart app realKey phKey node =>
    exact getD_keeps (P := fun t => LifeInv t ∧ (NoPendInv s → NoPendInv t)) ⟨hl, id⟩
      (fun s' h => life_nopend_swapStart s s' app realKey phKey node hw hl h)
  | swapConfirm app phKey => exact life_nopend_swapConfirm s app phKey hw hb hl hfull
  | releaseKey app key => exact life_nopend_releaseKey s app key hw hb hl
  | release tt app key => exact life_nopend_releaseKeyT s tt app key hw hb hl
  | releaseApp tt app => exact life_nopend_releaseApp s tt app hw hb hl
  | markReleased app key p => exact life_nopend_markReleased s app key p hw hl
  | phTimeout app ev => exact life_nopend_phTimeout s app ev hw hb hl hol
  | stateTimeout app => exact life_nopend_stateTimeout s app hw hb hl
  | cleanup => exact LifeA.same_keeps (LifeA.cleanup_same s) hl
  | reserve app key node => exact LifeA.same_keeps (LifeA.reserve_same s app key node) hl
  | unreserve app key node => exact LifeA.same_keeps (LifeA.unreserve_same s app key node) hl

theorem step_life (s : Core) (op : Op) (hw : CoreWF s) (hb : Books s) (hk : Linked s) (hl : LifeInv s)
    (hok : op.ok2 s) (hol : op.okLife) : LifeInv (op.apply s) := (step_life_nopend s op hw hb hk hl hok hol).1

def RunLifeOK : Core → List Op → Prop
  | _, [] => True
  | s, op :: t => (op.ok2 s ∧ op.okLife) ∧ RunLifeOK (op.apply s) t

def RunNoRollback : Core → List Op → Prop
  | _, [] => True
  | s, op :: t => op.okNoPend s ∧ RunNoRollback (op.apply s) t

theorem reachable_life_nopend (s : Core) (ops : List Op) (h : CoreInv s) (hok : RunLifeOK s ops) :
    CoreInv (run s ops) ∧ (NoPendInv s → NoPendInv (run s ops)) := by
  induction ops generalizing s with
  | nil => exact ⟨h, id⟩
  | cons op t ih =>
    obtain ⟨⟨h1, h1'⟩, h2⟩ := hok
    obtain ⟨hb', hw'⟩ := step_props s op h.wf h.books (ok_of_ok2 s op h.linked h1)
    obtain ⟨hl', hp'⟩ := step_life_nopend s op h.wf h.books h.linked h.life h1 h1'
    obtain ⟨g1, g2⟩ := ih (op.apply s) ⟨hw', hb', step_linked s op h.wf h.books h.linked h1, hl'⟩ h2
    exact ⟨g1, fun hp => g2 (hp' hp)⟩

theorem reachable_life (s : Core) (ops : List Op) (h : CoreInv s) (hok : RunLifeOK s ops) : CoreInv (run s ops) :=
  (reachable_life_nopend s ops h hok).1

theorem reachable_nopend (s : Core) (ops : List Op) (h : CoreInv s) (hp : NoPendInv s) (hok : RunLifeOK s ops) :
    NoPendInv (run s ops) :=
  (reachable_life_nopend s ops h hok).2 hp

def Op.okLifeb : Op → Bool
  | .appAdd a _ => match a with | none => true | some x => !(terminated x.state)
  | .phTimeout _ ev => ev == none || ev == some "Failing" || ev == some "Resuming"
  | _ => true

theorem okLife_of_b (op : Op) (h : op.okLifeb = true) : op.okLife := by
  cases op with
  | appAdd a nq =>
    intro x hx
    subst hx
    simpa [Op.okLifeb] using h
  | phTimeout app ev =>
    simp only [Op.okLifeb, Bool.or_eq_true, beq_iff_eq] at h
    rcases h with (h | h) | h
    · exact Or.inl h
    · exact Or.inr (Or.inl h)
    · exact Or.inr (Or.inr h)
  | _ => trivial

theorem runLifeOK_of (s : Core) (ops : List Op) (h2 : RunOK2 s ops) (hl : ops.all Op.okLifeb = true) : RunLifeOK s ops := by
  induction ops generalizing s with
  | nil => trivial
  | cons op t ih =>
    simp only [List.all_cons, Bool.and_eq_true] at hl
    exact ⟨⟨h2.1, okLife_of_b op hl.1⟩, ih (op.apply s) h2.2 hl.2⟩

theorem RunNoRollback.append (s : Core) (l1 l2 : List Op) (h1 : RunNoRollback s l1) (h2 : RunNoRollback (run s l1) l2) :
    RunNoRollback s (l1 ++ l2) := by
  induction l1 generalizing s with
  | nil => exact h2
  | cons op t ih => exact ⟨h1.1, ih (op.apply s) h1.2 h2⟩

end Yk
