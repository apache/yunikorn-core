/-
  Proofs for C19, node score: the weighted sum of the usage shares of a node as a rational number, and the order of
  the sorted node tree.
-/
import YkProofs.Sort
namespace Yk
open Res

def Share.toRat (s : Share) : Rat := (s.num : Rat) / (s.den : Rat)

/-! ### the weighted sum as a rational number -/

theorem intCast_ne_zero_of_pos {d : Int} (h : 0 < d) : (d : Rat) ≠ 0 := by
  have : d ≠ 0 := by omega
  exact_mod_cast this

theorem fracAdd_toRat (acc : Share) (w t a : Int) (hd : 0 < acc.den) (ht : 0 < t) :
    (fracAdd acc ⟨w * (t - a), t⟩).toRat = acc.toRat + (w : Rat) * (1 - (a : Rat) / (t : Rat)) ∧
    0 < (fracAdd acc ⟨w * (t - a), t⟩).den := by
  have h1 := intCast_ne_zero_of_pos hd
  have h2 := intCast_ne_zero_of_pos ht
  refine ⟨?_, Int.mul_pos hd ht⟩
  unfold fracAdd Share.toRat
  simp only [Rat.intCast_add, Rat.intCast_mul, Rat.intCast_sub]
  grind

theorem weightedUsageSum_foldl (avail : Res) (terms : List (Int × String × Int)) (hpos : ∀ t ∈ terms, 0 < t.2.2)
    (acc : Share) (hd : 0 < acc.den) :
    (terms.foldl (fun (acc : Share) (t : Int × String × Int) =>
        fracAdd acc ⟨t.1 * (usageShare avail t.2.1 t.2.2).num, (usageShare avail t.2.1 t.2.2).den⟩) acc).toRat =
      terms.foldl (fun acc t => acc + (t.1 : Rat) * (1 - ((avail.getD t.2.1 : Int) : Rat) / (t.2.2 : Rat))) acc.toRat ∧
    0 < (terms.foldl (fun (acc : Share) (t : Int × String × Int) =>
        fracAdd acc ⟨t.1 * (usageShare avail t.2.1 t.2.2).num, (usageShare avail t.2.1 t.2.2).den⟩) acc).den := by
  induction terms generalizing acc with
  | nil => exact ⟨rfl, hd⟩
  | cons t rest ih =>
    simp only [List.foldl_cons]
    have ht := hpos t List.mem_cons_self
    obtain ⟨e, p⟩ := fracAdd_toRat acc t.1 t.2.2 (avail.getD t.2.1) hd ht
    have := ih (fun u hu => hpos u (List.mem_cons_of_mem _ hu)) _ p
    simp only [usageShare] at this ⊢
    rw [e] at this
    exact this

theorem nodeModelled_iff (weights : Res) (n : NodeKey) :
    nodeModelled weights n = true ↔ ∀ t ∈ weightedTypes weights n.cap, 0 < t.1 ∧ 0 < t.2.2 := by
  simp [nodeModelled]

theorem totalWeight_pos (weights : Res) (n : NodeKey) (hm : nodeModelled weights n = true)
    (h : ((weightedTypes weights n.cap).map (·.1)).foldl (· + ·) 0 ≠ 0) :
    0 < ((weightedTypes weights n.cap).map (·.1)).foldl (· + ·) 0 := by
  rw [nodeModelled_iff] at hm
  have hp : ∀ x ∈ (weightedTypes weights n.cap).map (·.1), 0 < x := by
    intro x hx
    obtain ⟨t, ht, rfl⟩ := List.mem_map.mp hx
    exact (hm t ht).1
  cases hl : (weightedTypes weights n.cap).map (·.1) with
  | nil => rw [hl] at h; exact absurd rfl h
  | cons x t =>
    rw [hl] at hp
    have hx := hp x List.mem_cons_self
    exact List.foldlRecOn (motive := fun acc => 0 < acc) t _ (show 0 < 0 + x by omega)
      (fun b hb a ha => by have := hp a (List.mem_cons_of_mem _ ha); omega)

theorem nodeUsage_den_pos (weights : Res) (n : NodeKey) (hm : nodeModelled weights n = true) :
    0 < (nodeUsage weights n).den := by
  unfold nodeUsage
  simp only
  split
  · decide
  next h =>
    have htw := totalWeight_pos weights n hm (by simpa using h)
    have hp : ∀ t ∈ weightedTypes weights n.cap, 0 < t.2.2 := fun t ht => ((nodeModelled_iff weights n).mp hm t ht).2
    have := (weightedUsageSum_foldl (nodeAvail n) _ hp ⟨0, 1⟩ (by decide)).2
    exact Int.mul_pos this htw

theorem nodeScore_den_pos (bin : Bool) (weights : Res) (n : NodeKey) (hm : nodeModelled weights n = true) :
    0 < (nodeScore bin weights n).den := by
  unfold nodeScore
  simp only
  split <;> exact nodeUsage_den_pos weights n hm

/-! ### the order of the node tree -/

theorem nodeBefore_iff (bin : Bool) (weights : Res) (a b : NodeKey) :
    nodeBefore bin weights a b = true ↔
      (shareLt (nodeScore bin weights a) (nodeScore bin weights b) = true ∨
       (shareEq (nodeScore bin weights a) (nodeScore bin weights b) = true ∧ a.id < b.id)) := by
  simp [nodeBefore]

theorem nodeBefore_order_on (bin : Bool) (weights : Res) (L : List NodeKey) (hm : ∀ n ∈ L, nodeModelled weights n = true) :
    (∀ a ∈ L, nodeBefore bin weights a a = false) ∧
    (∀ a ∈ L, ∀ b ∈ L, ∀ c ∈ L, nodeBefore bin weights a b = true → nodeBefore bin weights b c = true →
      nodeBefore bin weights a c = true) := by
  refine ⟨fun a _ => ?_, fun a ha b hb c hc h1 h2 => ?_⟩
  · rw [← Bool.not_eq_true, nodeBefore_iff]
    simp [shareLt_irrefl, String.lt_irrefl]
  · have da := nodeScore_den_pos bin weights a (hm a ha)
    have db := nodeScore_den_pos bin weights b (hm b hb)
    have dc := nodeScore_den_pos bin weights c (hm c hc)
    rw [nodeBefore_iff] at *
    exact share_lex_trans (nodeScore bin weights) (fun x y => x.id < y.id) a b c da db dc
      (fun _ _ => String.lt_trans) h1 h2

end Yk
