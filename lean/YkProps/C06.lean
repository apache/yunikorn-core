/-
  C06 — Gang scheduling bookkeeping (task-group counters and the replacement guard).
  Here: the per task group counters, the replacement-size guard, and — about `Core.swapConfirm`, the stepped model of
  partition.removeAllocation(PLACEHOLDER_REPLACED) / Application.ReplaceAllocation / Node.ReplaceAllocation
  (YkModel/CoreOps2.lean, compared with the real core after every confirmation) — "after the shim confirms the swap the
  placeholder is gone and node and queue usage reflect the real allocation (never more than before)".  User usage is
  tracked outside the `Core` ledgers (C05, monitored on the real core: CoreState.usageOK).
-/
import YkProofs.Reserve
import YkProofs.Core2Swap
import YkProofs.Core2Example
import YkProofs.Core2LifeProps
namespace Yk.C06
open Yk Yk.Res Yk.Core

/-- Per task group the number reported as replaced never exceeds the number of placeholders — in the stronger internal
    form replaced + timed out (+ cancelled + still pending + still allocated) = count, for every history. -/
theorem replaced_le_count (ops : List PhOp) :
    let d := ops.foldl PhData.step {}
    d.replaced + d.timedOut + d.cancelled + d.pendingAsks + d.allocated = d.count ∧ d.replaced ≤ d.count := by
  intro d
  have h : d.bal := PhData.run_bal ops {} rfl
  unfold PhData.bal at h
  exact ⟨h, by omega⟩

/-- A real ask replaces a placeholder only if it is no larger: the guard `delta.HasNegativeValue()` of
    tryPlaceholderAllocate (delta = placeholder − real, exact arithmetic) is false exactly when the real ask fits in the
    placeholder on every type the real ask names. -/
theorem swap_not_larger (ph real : Res) (hp : wf ph = true) (hr : wf real = true) :
    hasNegativeValue (some (subX ph real)) = false ↔ ∀ k, real.getD k ≤ ph.getD k := by
  have hd := subX_wf ph real hp
  have hg := subX_getD ph real hr
  generalize subX ph real = d at hd hg
  unfold hasNegativeValue
  simp only [List.any_eq_false, decide_eq_true_eq]
  constructor
  · intro h k
    have hk := hg k
    cases hget : get? d k with
    | none =>
      have : getD d k = 0 := by rw [getD_eq_get?, hget]; rfl
      omega
    | some v =>
      have hv : getD d k = v := by rw [getD_eq_get?, hget]; rfl
      have := h (k, v) (mem_of_get? hget)
      simp only at this
      omega
  · intro h p hpm
    obtain ⟨k, v⟩ := p
    have hv : getD d k = v := getD_of_mem hd hpm
    have := hg k
    have := h k
    simp only
    omega

example : hasNegativeValue (some (subX [("cpu", 4)] [("cpu", 2), ("gpu", 1)])) = true := by decide

/-! ### the confirmed swap

`SwapCase s app phKey a p r`: the confirmation names the bound placeholder `p` of application `a`, linked to the real
allocation `r`.  `SwapOK s app phKey`: the placeholder is listed by its (registered) node with the size the application
books, `r` is a proper replacement (`ReplOK`: allocated, not yet bound, not a placeholder) and not larger than `p`. -/

/-- After the confirmed swap the placeholder is gone: the application no longer lists it as an allocation and its node no
    longer lists it. -/
theorem swap_placeholder_gone (s : Core) (app phKey : String) (a : CApp) (p r : CItem) (hw : CoreWF s)
    (hok : SwapOK s app phKey) (hc : SwapCase s app phKey a p r) :
    (∀ a1, (s.swapConfirm app phKey).findApp app = some a1 → ∀ x ∈ a1.items, x.key = phKey → x.bound = false) ∧
    (∀ n', (s.swapConfirm app phKey).findNode p.node = some n' → ∀ x ∈ n'.allocs, x.key ≠ phKey) :=
  ⟨swapConfirm_placeholder_unbound s app phKey a p r hw hok hc, (swapConfirm_placeholder_gone s app phKey a p r hw hok hc).2⟩

/-- Node usage reflects the real allocation, never more than before: the placeholder's node is charged the real
    allocation instead of the placeholder (same node) or no longer charged the placeholder (the real allocation was
    parked on another node when the swap started). -/
theorem swap_node_usage (s : Core) (app phKey : String) (a : CApp) (p r : CItem) (hw : CoreWF s)
    (hok : SwapOK s app phKey) (hc : SwapCase s app phKey a p r) (n n' : CNode)
    (hn : s.findNode p.node = some n) (hn' : (s.swapConfirm app phKey).findNode p.node = some n') (k : String) :
    n'.allocated.getD k = n.allocated.getD k - p.res.getD k + (if r.node = p.node then r.res.getD k else 0) ∧
    n'.allocated.getD k ≤ n.allocated.getD k :=
  swapConfirm_node_usage s app phKey a p r hw hok hc n n' hn hn' k

/-- Queue usage reflects the real allocation, never more than before: every queue on the application's chain gives back
    the size difference, the other queues are untouched (while the application stays in the partition). -/
theorem swap_queue_usage (s : Core) (app phKey : String) (a : CApp) (p r : CItem) (hw : CoreWF s)
    (hok : SwapOK s app phKey) (hc : SwapCase s app phKey a p r) (hlive : (replApp p r a).live = true) :
    ∃ F : CQueue → CQueue, (s.swapConfirm app phKey).queues = s.queues.map F ∧ ∀ q ∈ s.queues,
      (F q).path = q.path ∧
      (under a.queue q.path = true → ∀ k,
        (F q).allocated.getD k = q.allocated.getD k - (p.res.getD k - r.res.getD k) ∧
        (F q).allocated.getD k ≤ q.allocated.getD k) ∧
      (under a.queue q.path = false → (F q).allocated = q.allocated) :=
  swapConfirm_queue_usage s app phKey a p r hw hok hc hlive

/-- … and all ledgers still agree afterwards (application = Σ items, queues = Σ applications, node = Σ allocations).
    Explicit non-goal: a placeholder that is RESIZED below its replacement while the swap is in flight (UpdateAllocation of
    the placeholder's key between tryPlaceholderAllocate and the shim's confirmation).  The code does not re-check the
    size guard at confirmation time and does not charge the queue the difference, so the books break there; that stream
    is outside the legal shim behaviour (the shim is deleting that pod) and the generator does not produce it.  It is
    exactly the case `SwapOK.notLarger` excludes. -/
theorem swap_books (s : Core) (app phKey : String) (hw : CoreWF s) (hb : Books s) (hok : SwapOK s app phKey) :
    Books (s.swapConfirm app phKey) :=
  (swapConfirm_props s app phKey hw hb hok).1

/-- Without the node-side condition the clause is false of the code: a placeholder whose node is not registered is
    "replaced" without the node and queue update (witness `swapW`). -/
theorem swap_books_refuted_without_node :
    CoreWF swapW ∧ Books swapW ∧ ¬ Books (swapW.swapConfirm "app" "ph") :=
  let ⟨h1, h2, _, h4⟩ := swapConfirm_books_refuted_without_node; ⟨h1, h2, h4⟩

/-- non-vacuity: in the example history (YkProofs/Core2Example.lean) the state before the confirmation meets `SwapOK`
    (placeholder `p1` of cpu 4 bound on `n1`, linked to the real allocation `r1` of cpu 2 on the same node), and the
    confirmation leaves cpu 2 on the node and in both queues -/
example : SwapOK Example.s6 "app" "p1" ∧ (Example.s7.nodes.map (·.allocated)) = [[("cpu", 2)]] ∧
    (Example.s7.queues.map (·.allocated)) = [[("cpu", 2)], [("cpu", 2)]] :=
  ⟨swapOK_of_b (by decide +kernel), Example.s7_node, Example.s7_queues⟩

/-! ### the placeholder timeout (application.go timeoutPlaceholderProcessing, model `Core.phTimeout`)

The gang style is not part of the dumped state; `phTimeoutOf hard s app` is `phTimeout` with the event the code raises
(FailApplication for Hard, ResumeApplication for Soft; an event that is not valid in the current state changes nothing).
The stepped model does not carry the messages to the shim: that the released placeholders are announced (TIMEOUT) is
checked on the real core by the protocol monitor (C04), not here. -/

/-- The timeout fires before the application runs (New / Accepted): a Hard application fails, a Soft one resumes. -/
theorem timeout_hard_fails_soft_resumes (s : Core) (app : String) (a : CApp) (hfind : s.findApp app = some a)
    (hst : a.state = "Accepted" ∨ a.state = "New") :
    (∃ a', (phTimeoutOf true s app).findApp app = some a' ∧ a'.state = "Failing") ∧
    (∃ a', (phTimeoutOf false s app).findApp app = some a' ∧ a'.state = "Resuming") :=
  ⟨phTimeoutOf_gang true s app a hfind hst, phTimeoutOf_gang false s app a hfind hst⟩

/-- … and when the last placeholder of the failing / resuming application is gone: a resuming application is Accepted
    again (normal scheduling); a failing one is Failed and leaves the partition — once it holds no real allocation either
    (fix 81c5cb7: its real allocations were released with the placeholders; while one of them still waits for the shim's
    confirmation the application stays Failing, and the confirmation of the last one fails it). -/
theorem last_placeholder_gone (tt : TermType) (key : String) (i : CItem) (a : CApp) (hph : i.ph = true)
    (hz : isZero (some (relAppT tt key i a).allocatedPh) = true) :
    (a.state = "Failing" → isZero (some a.allocated) = true →
      (relAppT tt key i a).state = "Failed" ∧ (relAppT tt key i a).live = false) ∧
    (a.state = "Failing" → isZero (some a.allocated) = false →
      (relAppT tt key i a).state = "Failing" ∧ (relAppT tt key i a).live = true) ∧
    (a.state = "Resuming" → (relAppT tt key i a).state = "Accepted" ∧ (relAppT tt key i a).live = true) := by
  have hz' := hz
  rw [relAppT_allocatedPh, if_pos hph] at hz'
  refine ⟨fun h hr => LifeD.relAppT_failing_ph_failed tt key i a hph h hz' hr,
    fun h hr => LifeD.relAppT_failing_ph_stays tt key i a hph h hr, fun h => ?_⟩
  have hs : (relAppT tt key i a).state = "Accepted" := by
    rw [LifeB.relAppT_state]
    unfold LifeB.relSt
    simp [hph, hz', h, Life.fireState_run]
  exact ⟨hs, by rw [LifeB.relAppT_leaves, hs]; simp [terminated]⟩

/-- the last real allocation of a failing application: Failed once the placeholders are gone as well, Failing while one
    is left -/
theorem failing_last_real_allocation (tt : TermType) (key : String) (i : CItem) (a : CApp) (hph : i.ph = false)
    (hst : a.state = "Failing") :
    (isZero (some a.pending) = true → isZero (some (relAppT tt key i a).allocated) = true → isZero (some a.allocatedPh) = true →
      (relAppT tt key i a).state = "Failed" ∧ (relAppT tt key i a).live = false) ∧
    (isZero (some a.allocatedPh) = false → (relAppT tt key i a).state = "Failing" ∧ (relAppT tt key i a).live = true) :=
  ⟨fun hp hz hzp => LifeB.relAppT_failing_real_failed tt key i a hph hst hp hz hzp,
   fun hzp => LifeD.relAppT_failing_real_stays tt key i a hph hst hzp⟩

/-- A Running / Completing application that still holds placeholders keeps its state and its asks; every bound placeholder
    that is not being preempted is marked released. -/
theorem timeout_running_keeps_state (hard : Bool) (s : Core) (app : String) (a : CApp) (hfind : s.findApp app = some a)
    (hst : a.state = "Running" ∨ a.state = "Completing") (hph : isZero (some a.allocatedPh) = false) :
    ∃ a', (phTimeoutOf hard s app).findApp app = some a' ∧ a'.state = a.state ∧ a'.pending = a.pending ∧
      ∀ i ∈ a'.items, i.bound = true → i.ph = true → i.preempted = false → i.released = true := by
  rw [phTimeoutOf_eq hard s app a hfind]
  have hc : LifeE.phCase1 a = true := by
    unfold LifeE.phCase1
    rcases hst with h | h <;> simp [h, hph]
  refine ⟨_, LifeE.phTimeout_findApp s app _ a hfind, ?_⟩
  unfold LifeE.phAppOf
  rw [if_pos hc]
  refine ⟨rfl, rfl, ?_⟩
  intro i hi
  obtain ⟨x, _, rfl⟩ := List.mem_map.mp hi
  exact LifeE.relPh_released x

/-- In every other case every placeholder ask (every ask) is released: afterwards the application lists bound items
    only, its pending total is empty, every queue on its chain gives the pending total back, and every bound allocation
    (every placeholder) that is not being preempted is marked released. -/
theorem timeout_releases_asks_and_placeholders (hard : Bool) (s : Core) (app : String) (a : CApp) (hw : CoreWF s) (hb : Books s)
    (hfind : s.findApp app = some a) (hc : LifeE.phCase1 a = false) (hreq : a.items.any (·.inReq) = true) :
    (∃ a', (phTimeoutOf hard s app).findApp app = some a' ∧
      (∀ i ∈ a'.items, i.bound = true ∧ i.inReq = false ∧ i.outstanding = false) ∧ a'.pending = []) ∧
    (∃ a', (phTimeoutOf hard s app).findApp app = some a' ∧
      ∀ i ∈ a'.items, i.bound = true → i.preempted = false → i.released = true) ∧
    (∃ F : CQueue → CQueue, (phTimeoutOf hard s app).queues = s.queues.map F ∧ ∀ q ∈ s.queues,
      (F q).path = q.path ∧ (F q).allocated = q.allocated ∧
      (under a.queue q.path = true → ∀ k, (F q).pending.getD k = q.pending.getD k - a.pending.getD k) ∧
      (under a.queue q.path = false → (F q).pending = q.pending)) := by
  rw [phTimeoutOf_eq hard s app a hfind]
  have hfa := LifeE.phTimeout_findApp s app (LifeE.phEv hard a) a hfind
  unfold LifeE.phAppOf at hfa
  rw [if_neg (by rw [hc]; exact Bool.false_ne_true)] at hfa
  refine ⟨⟨_, hfa, ?_, ?_⟩, ⟨_, hfa, LifeE.phApp2_released a _⟩, phTimeout_case2_queues s app _ a hw hb hfind hc hreq⟩
  · intro i hi
    rw [LifeE.phApp2_items, if_pos hreq] at hi
    obtain ⟨x, _, hxb, rfl⟩ := mem_boundOnly hi
    exact ⟨hxb, rfl, rfl⟩
  · rw [phApp2_pending, if_pos hreq]

/-! ### no placeholder outlives its application

`CoreInv s` = `CoreWF ∧ Books ∧ Linked ∧ LifeInv` (YkProofs/Core2Life.lean).  `LifeInv.noPhOrphan`: an application that
has terminated (Completed / Failed) or has left the partition lists no bound placeholder.  It is an invariant of every
operation of the stepped model: an application terminates or leaves only when its placeholder total is zero (then, the
books agreeing and sizes being positive, it lists no bound placeholder) or when all its allocations are released at once.
Side conditions (`RunLifeOK`): `Op.ok2` of every step, a new application is not submitted in a terminated state, the
placeholder timer announces Failing / Resuming or nothing.  (The monitor clause `C03.I7p` / `C06.placeholder-outlives-
application` never fired on the real core either; no refutation exists.) -/

theorem no_placeholder_outlives_its_application (s : Core) (ops : List Op) (h : CoreInv s) (hok : RunLifeOK s ops) :
    ∀ a ∈ (run s ops).apps, (a.live = false ∨ terminated a.state = true) → ∀ i ∈ a.items, i.bound = true → i.ph = false :=
  (reachable_life s ops h hok).life.noPhOrphan

/-- one step: the invariant is preserved by every operation -/
theorem no_placeholder_outlives_step (s : Core) (op : Op) (hw : CoreWF s) (hb : Books s) (hk : Linked s) (hl : LifeInv s)
    (hok : op.ok2 s) (hol : op.okLife) : LifeInv (op.apply s) :=
  step_life s op hw hb hk hl hok hol

/-- non-vacuity: the example histories from the empty partition (YkProofs/Core2Example*.lean; swap on the same node, on
    another node, node removed while the swap is in flight) meet the side conditions; in `exOps` the placeholder `p1`
    is bound after the 4th step and the application is gone at the end -/
example : CoreInv Example.ex0 ∧ RunLifeOK Example.ex0 Example.exOps ∧ RunLifeOK Example.ex0 Example.exOps2 ∧
    RunLifeOK Example.ex0 Example.exOps3 ∧ (Example.s4.nodes.map (·.allocated)) = [[("cpu", 4)]] :=
  ⟨Example.coreInv_ex0, Example.exOps_life, Example.exOps2_life, Example.exOps3_life, Example.s4_node.1⟩

/-- non-vacuity of the timeout theorems: the example application right after it was added (state New … Accepted after
    its first ask) -/
example : ∃ a, Example.s3.findApp "app" = some a ∧ a.state = "Accepted" ∧ LifeE.phCase1 a = false ∧
    a.items.any (·.inReq) = true := by decide +kernel

end Yk.C06
