/-
  What an elementary piece of an operation of the stepped Core model does to the state, said once for all invariants:
  `Shape s t app a a' fq fn`.  Queue and node lists are plain `List.map`s, so that trailing bookkeeping composes
  (`Shape.map`) and two pieces in a row are one (`Shape.trans`).  Each piece has one lemma `shape_<piece>` next to it,
  with its record, queue map and node map named.  `Books` and `CoreWF` have their frames over a `Shape` here; `Linked`,
  the life cycle and the reservations have theirs in their own files.
-/
import YkProofs.Core2Base
namespace Yk
open Res Core

/-! ### the maps of `updQueues` and `updNode` -/

abbrev onChain (chain : List String) (g : CQueue → CQueue) (q : CQueue) : CQueue :=
  if chain.contains q.path = true then g q else q

abbrev onNodeId (id : String) (h : CNode → CNode) (n : CNode) : CNode := if (n.id == id) = true then h n else n

theorem onChain_path {chain : List String} {g : CQueue → CQueue} (hg : ∀ q, (g q).path = q.path) (q : CQueue) :
    (onChain chain g q).path = q.path := by
  unfold onChain; split
  · exact hg q
  · rfl

theorem onNodeId_id {id : String} {h : CNode → CNode} (hh : ∀ n, (h n).id = n.id) (n : CNode) :
    (onNodeId id h n).id = n.id := by
  unfold onNodeId; split
  · exact hh n
  · rfl

theorem onChain_keeps {P : CQueue → Prop} {chain : List String} {g : CQueue → CQueue} {q : CQueue} (hP : P (g q)) (hq : P q) :
    P (onChain chain g q) := by
  unfold onChain; split
  · exact hP
  · exact hq

theorem onNodeId_keeps {P : CNode → Prop} {id : String} {h : CNode → CNode} {m : CNode} (hP : m.id = id → P (h m)) (hm : P m) :
    P (onNodeId id h m) := by
  unfold onNodeId; split
  · rename_i hd; exact hP (by simpa using hd)
  · exact hm

theorem onNodeId_found {s : Core} (hw : CoreWF s) {P : CNode → Prop} {id : String} {n : CNode} {h : CNode → CNode}
    (hn : s.findNode id = some n) (hP : n ∈ s.nodes → P n → P (h n)) : ∀ m ∈ s.nodes, P m → P (onNodeId id h m) := by
  intro m hm hmP
  refine onNodeId_keeps (fun hmid => ?_) hmP
  have : m = n := findNode_eq hw hn hm hmid
  subst this
  exact hP hm hmP

/-! ### the description of a step -/

/-- The live application `app` (record `a`) becomes `a'`, every queue is mapped by `fq`, every node by `fn`; the maps
    keep the keys of the three Go maps (application id, queue path, node id).  Of the partition's counters only
    `reservations` is read by an invariant (`ResInv`): the pieces described this way keep it. -/
structure Shape (s t : Core) (app : String) (a a' : CApp) (fq : CQueue → CQueue) (fn : CNode → CNode) : Prop where
  find : s.findApp app = some a
  apps : t.apps = updApps s.apps app (fun _ => a')
  queues : t.queues = s.queues.map fq
  nodes : t.nodes = s.nodes.map fn
  id : a'.id = a.id
  queue : a'.queue = a.queue
  path : ∀ q, (fq q).path = q.path
  nid : ∀ n, (fn n).id = n.id
  resv : t.reservations = s.reservations

namespace Shape
variable {s t : Core} {app : String} {a a' : CApp} {fq : CQueue → CQueue} {fn : CNode → CNode}

theorem mem (sh : Shape s t app a a' fq fn) : a ∈ s.apps ∧ a.live = true ∧ a.id = app := findApp_some sh.find

/-! ### where a `Shape` comes from -/

/-- the application updated by a function (`updApp`): unique application ids make that the constant update -/
theorem of_maps {f : CApp → CApp} (hw : CoreWF s) (hfind : s.findApp app = some a)
    (hta : t.apps = updApps s.apps app f) (htq : t.queues = s.queues.map fq) (htn : t.nodes = s.nodes.map fn)
    (htr : t.reservations = s.reservations)
    (hid : (f a).id = a.id) (hq : (f a).queue = a.queue) (hpath : ∀ q, (fq q).path = q.path) (hnid : ∀ n, (fn n).id = n.id) :
    Shape s t app a (f a) fq fn := by
  obtain ⟨ham, hl, haid⟩ := findApp_some hfind
  exact ⟨hfind, by rw [hta, updApps_const f hw.appIds ham hl haid], htq, htn, hid, hq, hpath, hnid, htr⟩

theorem of_lists {f : CApp → CApp} {chain : List String} {g : CQueue → CQueue} {id : String} {h : CNode → CNode}
    (hw : CoreWF s) (hfind : s.findApp app = some a)
    (hta : t.apps = updApps s.apps app f) (htq : t.queues = updQs s.queues chain g) (htn : t.nodes = updNs s.nodes id h)
    (htr : t.reservations = s.reservations)
    (hid : (f a).id = a.id) (hq : (f a).queue = a.queue) (hg : ∀ q, (g q).path = q.path) (hh : ∀ n, (h n).id = n.id) :
    Shape s t app a (f a) (onChain chain g) (onNodeId id h) :=
  of_maps hw hfind hta htq htn htr hid hq (onChain_path hg) (onNodeId_id hh)

theorem of_lists' {f : CApp → CApp} {chain : List String} {g : CQueue → CQueue}
    (hw : CoreWF s) (hfind : s.findApp app = some a)
    (hta : t.apps = updApps s.apps app f) (htq : t.queues = updQs s.queues chain g) (htn : t.nodes = s.nodes)
    (htr : t.reservations = s.reservations)
    (hid : (f a).id = a.id) (hq : (f a).queue = a.queue) (hg : ∀ q, (g q).path = q.path) :
    Shape s t app a (f a) (onChain chain g) (fun n => n) :=
  of_maps hw hfind hta htq (by rw [htn, List.map_id']) htr hid hq (onChain_path hg) (fun _ => rfl)

theorem of_updApp {f : CApp → CApp} (hw : CoreWF s) (hfind : s.findApp app = some a) (hid : (f a).id = a.id)
    (hq : (f a).queue = a.queue) : Shape s (updApp s app f) app a (f a) (fun q => q) (fun n => n) :=
  of_maps hw hfind rfl (List.map_id' _).symm (List.map_id' _).symm rfl hid hq (fun _ => rfl) (fun _ => rfl)

theorem of_eq {u : Core} (sh : Shape s t app a a' fq fn) (h : u.apps = t.apps ∧ u.queues = t.queues ∧ u.nodes = t.nodes ∧
    u.reservations = t.reservations) : Shape s u app a a' fq fn :=
  ⟨sh.find, h.1.trans sh.apps, h.2.1.trans sh.queues, h.2.2.1.trans sh.nodes, sh.id, sh.queue, sh.path, sh.nid,
    h.2.2.2.trans sh.resv⟩

/-! ### composition -/

/-- trailing bookkeeping on the queue and node lists (reservations, the root maximum) -/
theorem map {u : Core} (sh : Shape s t app a a' fq fn) (gq : CQueue → CQueue) (gn : CNode → CNode)
    (hua : u.apps = t.apps) (huq : u.queues = t.queues.map gq) (hun : u.nodes = t.nodes.map gn)
    (hur : u.reservations = t.reservations) (hgq : ∀ q, (gq q).path = q.path) (hgn : ∀ n, (gn n).id = n.id) :
    Shape s u app a a' (fun q => gq (fq q)) (fun n => gn (fn n)) :=
  ⟨sh.find, hua.trans sh.apps, by rw [huq, sh.queues, List.map_map]; rfl, by rw [hun, sh.nodes, List.map_map]; rfl,
   sh.id, sh.queue, fun q => (hgq _).trans (sh.path q), fun n => (hgn _).trans (sh.nid n), hur.trans sh.resv⟩

theorem trans {u : Core} {a'' : CApp} {gq : CQueue → CQueue} {gn : CNode → CNode} (sh : Shape s t app a a' fq fn)
    (sh' : Shape t u app a' a'' gq gn) : Shape s u app a a'' (fun q => gq (fq q)) (fun n => gn (fn n)) := by
  obtain ⟨_, hl', hid'⟩ := sh'.mem
  refine ⟨sh.find, ?_, by rw [sh'.queues, sh.queues, List.map_map]; rfl, by rw [sh'.nodes, sh.nodes, List.map_map]; rfl,
    sh'.id.trans sh.id, sh'.queue.trans sh.queue, fun q => (sh'.path _).trans (sh.path q), fun n => (sh'.nid _).trans (sh.nid n),
    sh'.resv.trans sh.resv⟩
  -- the second update hits the record the first one wrote, and only that
  rw [sh'.apps, sh.apps]
  unfold updApps
  rw [List.map_map]
  apply List.map_congr_left
  intro y _
  by_cases hc : (y.live && y.id == app) = true
  · simp only [Function.comp, if_pos hc, hl', hid', Bool.true_and, beq_self_eq_true, if_true]
  · simp only [Function.comp, if_neg hc]

theorem found_after (sh : Shape s t app a a' fq fn) (hw : CoreWF s) {a1 : CApp} (h1 : t.findApp app = some a1) : a1 = a' := by
  obtain ⟨ham, hl, hid⟩ := sh.mem
  obtain ⟨h1m, h1l, h1id⟩ := findApp_some h1
  rw [sh.apps] at h1m
  rcases mem_updApps hw.appIds ham hl hid h1m with h | ⟨_, hnd⟩
  · exact h
  · exact absurd (by simp [h1l, h1id]) hnd

theorem all {P : CApp → Prop} (sh : Shape s t app a a' fq fn) (hw : CoreWF s) (hfa : P a')
    (h : ∀ x ∈ s.apps, P x) : ∀ x ∈ t.apps, P x := by
  obtain ⟨ham, hlv, hid⟩ := sh.mem
  rw [sh.apps]
  intro x hx
  rcases mem_updApps hw.appIds ham hlv hid hx with rfl | ⟨hxs, _⟩
  · exact hfa
  · exact h x hxs

theorem find_after (sh : Shape s t app a a' fq fn) (hl : a'.live = true) : t.findApp app = some a' :=
  findApp_updApps (f := fun _ => a') sh.apps sh.find hl (sh.id.trans sh.mem.2.2)

theorem find_after_none (sh : Shape s t app a a' fq fn) (hw : CoreWF s) (hl : a'.live = false) : t.findApp app = none := by
  obtain ⟨ham, hal, hid⟩ := sh.mem
  refine findApp_eq_none (fun y hy hyl he => ?_)
  rw [sh.apps] at hy
  rcases mem_updApps hw.appIds ham hal hid hy with h | ⟨_, hnd⟩
  · rw [h, hl] at hyl; cases hyl
  · exact hnd (by simp [hyl, he])

theorem mem_after (sh : Shape s t app a a' fq fn) : a' ∈ t.apps := by
  obtain ⟨ham, hal, hid⟩ := sh.mem
  rw [sh.apps]
  exact List.mem_map.mpr ⟨a, ham, if_pos (by simp [hal, hid])⟩

/-- the second half of a two-step operation finds `a'`, and the chain of `a` is still its chain -/
theorem chain_after (sh : Shape s t app a a' fq fn) (hw : CoreWF s) :
    ∀ a1, t.findApp app = some a1 → ∀ q ∈ t.queues, ((pathChain s a.queue).contains q.path = true ↔ under a1.queue q.path = true) := by
  intro a1 h1 q1 hq1
  rw [sh.found_after hw h1, sh.queue, sh.queues] at *
  obtain ⟨q, hqm, rfl⟩ := List.mem_map.mp hq1
  rw [sh.path]
  exact chain_iff s a.queue q hqm

/-! ### the books -/

theorem books (sh : Shape s t app a a' fq fn) (hw : CoreWF s) (hb : Books s)
    (hfa : a'.live = true → AppBooks a')
    (hon : ∀ q ∈ s.queues, under a.queue q.path = true → ∀ k,
      (fq q).allocated.getD k = q.allocated.getD k - (a.allocated.getD k + a.allocatedPh.getD k)
          + (if a'.live = true then a'.allocated.getD k + a'.allocatedPh.getD k else 0) ∧
      (fq q).pending.getD k = q.pending.getD k - a.pending.getD k + (if a'.live = true then a'.pending.getD k else 0))
    (hoff : ∀ q ∈ s.queues, ¬ under a.queue q.path = true → (fq q).allocated = q.allocated ∧ (fq q).pending = q.pending)
    (hn : ∀ n ∈ s.nodes, NodeBooks n → NodeBooks (fn n)) : Books t := by
  obtain ⟨ha, hl, hid⟩ := sh.mem
  refine books_upd s t app a (fun _ => a') fq sh.apps sh.queues ?_ hw.appIds ha hl hid hb.apps hb.queues sh.queue hfa sh.path hon hoff
  rw [sh.nodes]
  intro n' hn'
  obtain ⟨n, hnm, rfl⟩ := List.mem_map.mp hn'
  exact hn n hnm (hb.nodes n hnm)

theorem books_chain {chain : List String} {g : CQueue → CQueue} {X P : String → Int}
    (sh : Shape s t app a a' (onChain chain g) fn)
    (hchain : ∀ q ∈ s.queues, (chain.contains q.path = true ↔ under a.queue q.path = true))
    (hw : CoreWF s) (hb : Books s) (hfa : a'.live = true → AppBooks a')
    (hg : ∀ q ∈ s.queues, under a.queue q.path = true → QMove q (g q) X P)
    (hX : ∀ k, X k = a.allocated.getD k + a.allocatedPh.getD k
      - (if a'.live = true then a'.allocated.getD k + a'.allocatedPh.getD k else 0))
    (hP : ∀ k, P k = a.pending.getD k - (if a'.live = true then a'.pending.getD k else 0))
    (hn : ∀ n ∈ s.nodes, NodeBooks n → NodeBooks (fn n)) : Books t := by
  refine sh.books hw hb hfa (fun q hq hun k => ?_) (fun q hq hun => ?_) hn
  · rw [onChain, if_pos ((hchain q hq).mpr hun), (hg q hq hun).allocated, (hg q hq hun).pending, hX, hP]
    constructor <;> omega
  · rw [onChain, if_neg (fun h => hun ((hchain q hq).mp h))]; exact ⟨rfl, rfl⟩

/-- The frame of the releases (`relBoundT`, `swapMain`, `releaseAppCore`, `rel1`): a queue above the application first
    loses `X` of its allocated and `P` of its pending total (`g`), then, when `a'` has left the partition, what `a'` still
    holds (`lv`: `qLeaveIf a'`, or — `rel1` — the same on path and totals).  The books stay balanced when `a'` is
    balanced and lost `X` and `P`. -/
theorem books_release {g lv : CQueue → CQueue} {X P : String → Int}
    (sh : Shape s t app a a' (onChain (pathChain s a.queue) (fun q => lv (g q))) fn)
    (hw : CoreWF s) (hb : Books s)
    (hlv : ∀ q, (lv q).path = q.path ∧ (lv q).allocated = (qLeaveIf a' q).allocated ∧ (lv q).pending = (qLeaveIf a' q).pending)
    (hn : ∀ n ∈ s.nodes, NodeBooks n → NodeBooks (fn n)) (hba : AppBooks a') (hwa : AppWF a')
    (hg : ∀ q ∈ s.queues, under a.queue q.path = true → QMove q (g q) X P)
    (hX : ∀ k, a'.allocated.getD k + a'.allocatedPh.getD k = a.allocated.getD k + a.allocatedPh.getD k - X k)
    (hP : ∀ k, a'.pending.getD k = a.pending.getD k - P k) : Books t := by
  obtain ⟨ha, hl, _⟩ := sh.mem
  refine sh.books_chain (chain_iff s a.queue) hw hb (fun _ => hba)
    (X := fun k => X k + if a'.live = true then 0 else a'.allocated.getD k + a'.allocatedPh.getD k)
    (P := fun k => P k + if a'.live = true then 0 else a'.pending.getD k) (fun q hq hun => ?_) (fun k => ?_) (fun k => ?_) hn
  · -- what `a'` still holds is counted in the queue: `qLeave` takes exactly that off
    have m := hg q hq hun
    refine (m.trans (qLeaveIf_move a' m.wf hwa.appRes (fun k => ?_))).of_totals
      ((hlv _).1.trans (qLeaveIf_path_reserved a' _).1.symm) (hlv _).2.1 (hlv _).2.2
    have := hb.pending_le hw ha hl hq hun k
    have : 0 ≤ a'.pending.getD k := by
      rw [hba.pending k]; exact itemSum_nonneg _ _ (fun i hi => (hwa.itemRes i hi).2) k
    rw [m.pending k]
    rw [hP k] at this ⊢
    omega
  · have := hX k
    split <;> omega
  · have := hP k
    split <;> omega

/-! ### well-formedness -/

theorem wf (sh : Shape s t app a a' fq fn) (hw : CoreWF s) (hfa : a'.live = true → AppWF a')
    (hq : ∀ q ∈ s.queues, QWF (fq q)) (hn : ∀ n ∈ s.nodes, NWF (fn n)) : CoreWF t := by
  obtain ⟨ha, hl, hid⟩ := sh.mem
  refine CoreWF.of_parts ?_ ?_ ?_ ?_ ?_
  · rw [sh.apps]; exact pairwise_updApps s.apps app _ (const_id (sh.id.trans hid)) hw.appIds
  · rw [sh.nodes, List.pairwise_map]
    exact hw.nodeIds.imp (fun {x y} hxy => by rw [sh.nid x, sh.nid y]; exact hxy)
  · exact sh.all (P := fun x => x.live = true → AppWF x) hw hfa (fun _ hx hxl => hw.app hx hxl)
  · rw [sh.queues]; intro q' hq'; obtain ⟨q, hqm, rfl⟩ := List.mem_map.mp hq'; exact hq q hqm
  · rw [sh.nodes]; intro n' hn'; obtain ⟨n, hnm, rfl⟩ := List.mem_map.mp hn'; exact hn n hnm

theorem wf_chain {chain : List String} {g : CQueue → CQueue} (sh : Shape s t app a a' (onChain chain g) fn)
    (hw : CoreWF s) (hfa : a'.live = true → AppWF a') (hq : ∀ q ∈ s.queues, chain.contains q.path = true → QWF (g q))
    (hn : ∀ n ∈ s.nodes, NWF n → NWF (fn n)) : CoreWF t := by
  refine sh.wf hw hfa (fun q hq' => ?_) (fun n hn' => hn n hn' (hw.node hn'))
  unfold onChain
  split
  · rename_i hc; exact hq q hq' hc
  · exact hw.queue hq'

/-! ### both at once -/

/-- one `QMove` per queue above the application gives both halves -/
theorem props_move {g : CQueue → CQueue} {X P : String → Int} (sh : Shape s t app a a' (onChain (pathChain s a.queue) g) fn)
    (hw : CoreWF s) (hb : Books s) (hfa : a'.live = true → AppBooks a' ∧ AppWF a')
    (hg : ∀ q ∈ s.queues, under a.queue q.path = true → QMove q (g q) X P)
    (hX : ∀ k, X k = a.allocated.getD k + a.allocatedPh.getD k
      - (if a'.live = true then a'.allocated.getD k + a'.allocatedPh.getD k else 0))
    (hP : ∀ k, P k = a.pending.getD k - (if a'.live = true then a'.pending.getD k else 0))
    (hn : ∀ n ∈ s.nodes, NWF (fn n) ∧ NodeBooks (fn n)) : Books t ∧ CoreWF t :=
  ⟨sh.books_chain (chain_iff s a.queue) hw hb (fun h => (hfa h).1) hg hX hP (fun n hn' _ => (hn n hn').2),
   sh.wf_chain hw (fun h => (hfa h).2) (fun q hq hc => (hg q hq ((chain_iff s a.queue q hq).mp hc)).wf)
     (fun n hn' _ => (hn n hn').1)⟩

theorem props_release {g : CQueue → CQueue} {X P : String → Int}
    (sh : Shape s t app a a' (onChain (pathChain s a.queue) (fun q => qLeaveIf a' (g q))) fn)
    (hw : CoreWF s) (hb : Books s) (hba : AppBooks a') (hwa : AppWF a')
    (hg : ∀ q ∈ s.queues, under a.queue q.path = true → QMove q (g q) X P)
    (hX : ∀ k, a'.allocated.getD k + a'.allocatedPh.getD k = a.allocated.getD k + a.allocatedPh.getD k - X k)
    (hP : ∀ k, a'.pending.getD k = a.pending.getD k - P k)
    (hn : ∀ n ∈ s.nodes, NWF (fn n) ∧ NodeBooks (fn n)) : Books t ∧ CoreWF t :=
  ⟨sh.books_release hw hb (fun q => ⟨(qLeaveIf_path_reserved a' q).1, rfl, rfl⟩) (fun n hn' _ => (hn n hn').2) hba hwa hg hX hP,
   sh.wf_chain hw (fun _ => hwa)
     (fun q hq hc => qLeaveIf_wf _ _ (hg q hq ((chain_iff s a.queue q hq).mp hc)).wf) (fun n hn' _ => (hn n hn').1)⟩

theorem props_flag {gi : CItem → CItem} (sh : Shape s t app a a' fq (fun n => n))
    (hw : CoreWF s) (hb : Books s) (hfq : QIrrel fq) (hgi : ItemIrrel gi) (hi : a'.items = a.items.map gi)
    (hl : a'.live = true) (h1 : a'.allocated = a.allocated) (h2 : a'.allocatedPh = a.allocatedPh)
    (h3 : a'.pending = a.pending) : Books t ∧ CoreWF t := by
  obtain ⟨ham, hla, _⟩ := sh.mem
  refine ⟨sh.books hw hb (fun _ => appBooks_items_irrel gi hgi hi h1 h2 h3 (hb.apps a ham hla)) (fun q _ _ k => ?_)
      (fun q _ _ => (hfq q).2) (fun _ _ h => h),
    sh.wf hw (fun _ => appWF_items_irrel gi hgi hi h1 h2 h3 (hw.app ham hla)) (fun q hq => qwf_irrel fq hfq (hw.queue hq))
      (fun n hn => hw.node hn)⟩
  rw [(hfq q).2.1, (hfq q).2.2, if_pos hl, if_pos hl, h1, h2, h3]
  constructor <;> omega

/-- trailing bookkeeping (`sh` against `sc`) that neither the books nor the well-formedness read -/
theorem props_tail {u : Core} {w : CQueue → CQueue} {v : CNode → CNode} (sc : Shape s t app a a' fq fn)
    (sh : Shape s u app a a' (fun q => w (fq q)) (fun n => v (fn n))) (hw : QIrrel w) (hv : NodeIrrel v)
    (h : Books t ∧ CoreWF t) : Books u ∧ CoreWF u :=
  irrel_props appIrrel_id hw hv (by rw [sh.apps, sc.apps, List.map_id']) (by rw [sh.queues, sc.queues, List.map_map]; rfl)
    (by rw [sh.nodes, sc.nodes, List.map_map]; rfl) h.2 h.1

end Shape

end Yk
