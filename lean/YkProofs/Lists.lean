/-
  Lists as the models use them, without any model: invariants of folds, lists whose elements have unique keys
  (`Nodup` of the keys, `Pairwise` on the keys, `AtMostOne` for one key), and `List.lookup` against membership.
-/
namespace Yk

theorem foldl_inv_parts {σ α : Type} (f : σ → α → σ) (l : List α) (I : List α → List α → σ → Prop) (s : σ) (h0 : I [] l s)
    (hstep : ∀ done a rest s, done ++ a :: rest = l → I done (a :: rest) s → I (done ++ [a]) rest (f s a)) :
    I l [] (l.foldl f s) := by
  have key : ∀ rest done s, done ++ rest = l → I done rest s → I l [] (rest.foldl f s) := by
    intro rest
    induction rest with
    | nil => intro done s e h; rw [List.append_nil] at e; rw [← e]; exact h
    | cons a rest ih =>
      intro done s e h
      exact ih (done ++ [a]) (f s a) (by rw [List.append_assoc]; exact e) (hstep done a rest s e h)
  exact key l [] s rfl h0

theorem foldl_inv {α σ : Type} {J : List α → σ → Prop} (f : σ → α → σ) (hstep : ∀ x t s, J (x :: t) s → J t (f s x))
    (l : List α) (s : σ) (h : J l s) : J [] (l.foldl f s) :=
  foldl_inv_parts f l (fun _ rest s => J rest s) s h (fun _ a rest s _ h => hstep a rest s h)

theorem foldl_hist {σ α : Type} {step : σ → α → σ} {P : σ → Prop} {Q : σ → α → Prop} {ok : σ → List α → Prop}
    (hok : ∀ s a l, ok s (a :: l) → Q s a ∧ ok (step s a) l) (hstep : ∀ s a, P s → Q s a → P (step s a))
    (l : List α) (s : σ) (h : P s) (ho : ok s l) : P (l.foldl step s) :=
  (foldl_inv (J := fun l s => P s ∧ ok s l) step
    (fun a l s h => ⟨hstep s a h.1 (hok s a l h.2).1, (hok s a l h.2).2⟩) l s ⟨h, ho⟩).1

theorem nodup_map_filter {α β : Type} (f : α → β) (p : α → Bool) {l : List α} (h : (l.map f).Nodup) :
    ((l.filter p).map f).Nodup :=
  h.sublist (List.Sublist.map f List.filter_sublist)

theorem mem_of_lookup {α β} [BEq α] [LawfulBEq α] {l : List (α × β)} {a : α} {b : β} (h : l.lookup a = some b) : (a, b) ∈ l := by
  obtain ⟨l₁, l₂, rfl, _⟩ := List.lookup_eq_some_iff.mp h
  exact List.mem_append_right _ List.mem_cons_self

theorem lookup_iff_mem {α β : Type} [BEq α] [LawfulBEq α] {m : List (α × β)} (hn : (m.map Prod.fst).Nodup) (k : α) (s : β) :
    m.lookup k = some s ↔ (k, s) ∈ m := by
  refine ⟨mem_of_lookup, fun h => ?_⟩
  obtain ⟨l₁, l₂, rfl⟩ := List.append_of_mem h
  rw [List.map_append, List.map_cons, List.nodup_append] at hn
  exact List.lookup_eq_some_iff.mpr ⟨l₁, l₂, rfl, fun p hp => bne_iff_ne.mpr fun e =>
    hn.2.2 p.1 (List.mem_map_of_mem hp) k List.mem_cons_self e.symm⟩

theorem lookup_perm {α β : Type} [BEq α] [LawfulBEq α] {y y' : List (α × β)} (hp : y.Perm y') (hn : (y.map Prod.fst).Nodup) (k : α) :
    y.lookup k = y'.lookup k := by
  have hn' : (y'.map Prod.fst).Nodup := (hp.map Prod.fst).nodup_iff.mp hn
  cases h1 : y.lookup k with
  | some s => exact ((lookup_iff_mem hn' k s).mpr (hp.mem_iff.mp ((lookup_iff_mem hn k s).mp h1))).symm
  | none =>
    cases h2 : y'.lookup k with
    | none => rfl
    | some s =>
      have := (lookup_iff_mem hn k s).mpr (hp.mem_iff.mpr ((lookup_iff_mem hn' k s).mp h2))
      rw [h1] at this; cases this

theorem head?_perm_of_all_eq {α : Type} {l l' : List α} (hp : l.Perm l') (h : ∀ a ∈ l, ∀ b ∈ l, a = b) : l.head? = l'.head? := by
  cases l with
  | nil => rw [hp.nil_eq]
  | cons a t =>
    cases l' with
    | nil => exact absurd hp.eq_nil (List.cons_ne_nil _ _)
    | cons b t' => rw [List.head?_cons, List.head?_cons, h a List.mem_cons_self b (hp.mem_iff.mpr List.mem_cons_self)]

theorem forall_mem_snoc {α} {P : α → Prop} {l : List α} {v : α} (hl : ∀ x ∈ l, P x) (hv : P v) : ∀ x ∈ l ++ [v], P x := by
  intro x hx
  rcases List.mem_append.mp hx with hx | hx
  · exact hl x hx
  · exact List.mem_singleton.mp hx ▸ hv

theorem lt_length_of_getElem? {α} {l : List α} {i : Nat} {a : α} (h : l[i]? = some a) : i < l.length :=
  (List.getElem?_eq_some_iff.mp h).1

section Keyed
variable {α : Type}

def AtMostOne (l : List α) (d : α → Bool) : Prop := l.Pairwise (fun x y => d x = true → d y = true → False)

theorem map_upd_none (l : List α) (d : α → Bool) (f : α → α) (h : ∀ x ∈ l, d x = false) :
    l.map (fun x => if d x = true then f x else x) = l := by
  induction l with
  | nil => rfl
  | cons a t ih =>
    rw [List.map_cons, ih (fun x hx => h x (List.mem_cons_of_mem _ hx)), h a List.mem_cons_self]
    simp

theorem filter_not_none (l : List α) (d : α → Bool) (h : ∀ x ∈ l, d x = false) :
    l.filter (fun x => !d x) = l := by
  rw [List.filter_eq_self]; intro x hx; simp [h x hx]

/-- The one element `a` of `l` that satisfies `d` cuts the list in two parts without any: updating "every" element
    that satisfies `d` replaces `a` in place, filtering them out removes `a`. -/
theorem AtMostOne.split {l : List α} {d : α → Bool} (hu : AtMostOne l d) {a : α} (ha : a ∈ l) (hd : d a = true) :
    ∃ l1 l2, l = l1 ++ a :: l2 ∧ (∀ f : α → α, l.map (fun x => if d x = true then f x else x) = l1 ++ f a :: l2) ∧
      l.filter (fun x => !d x) = l1 ++ l2 := by
  obtain ⟨l1, l2, rfl⟩ := List.append_of_mem ha
  obtain ⟨_, h2, h12⟩ := List.pairwise_append.mp hu
  have n1 : ∀ x ∈ l1, d x = false := fun x hx => Bool.eq_false_iff.mpr fun h => h12 x hx a List.mem_cons_self h hd
  have n2 : ∀ x ∈ l2, d x = false := fun x hx => Bool.eq_false_iff.mpr fun h => (List.pairwise_cons.mp h2).1 x hx hd h
  refine ⟨l1, l2, rfl, fun f => ?_, ?_⟩
  · rw [List.map_append, List.map_cons, map_upd_none l1 d f n1, map_upd_none l2 d f n2, if_pos hd]
  · rw [List.filter_append, List.filter_cons, filter_not_none l1 d n1, filter_not_none l2 d n2, hd]; rfl

theorem AtMostOne.eq {l : List α} {d : α → Bool} (hu : AtMostOne l d) {x y : α}
    (hx : x ∈ l) (hy : y ∈ l) (dx : d x = true) (dy : d y = true) : x = y := by
  obtain ⟨l1, l2, rfl, _, hf⟩ := hu.split hx dx
  have : y ∉ (l1 ++ x :: l2).filter (fun z => !d z) := fun h => by simp [dy] at h
  rw [hf] at this
  rcases List.mem_append.mp hy with h | h
  · exact absurd (List.mem_append_left _ h) this
  · rcases List.mem_cons.mp h with h | h
    · exact h.symm
    · exact absurd (List.mem_append_right _ h) this

theorem atMostOne_of_pairwise_ne {β : Type} [DecidableEq β] (l : List α) (key : α → β) (k : β)
    (h : l.Pairwise (fun x y => key x ≠ key y)) : AtMostOne l (fun x => key x == k) := by
  unfold AtMostOne
  refine List.Pairwise.imp ?_ h
  intro x y hne hx hy
  simp only [beq_iff_eq] at hx hy
  exact hne (hx.trans hy.symm)

theorem nodup_of_map {β : Type} (f : α → β) {l : List α} (h : (l.map f).Nodup) : l.Nodup :=
  List.Pairwise.of_map f (fun _ _ hab e => hab (e ▸ rfl)) h

theorem eq_of_map_eq {β : Type} [DecidableEq β] (f : α → β) {l : List α} (h : (l.map f).Nodup) {x y : α}
    (hx : x ∈ l) (hy : y ∈ l) (hxy : f x = f y) : x = y :=
  (atMostOne_of_pairwise_ne l f (f y) (List.pairwise_map.mp h)).eq hx hy (by simp [hxy]) (by simp)

theorem filter_ne_length [BEq α] [LawfulBEq α] (p : α → Bool) {l : List α} {x : α} (hn : l.Nodup) (hx : x ∈ l) :
    ((l.filter (fun y => y != x)).filter p).length + (if p x = true then 1 else 0) = (l.filter p).length := by
  induction l with
  | nil => cases hx
  | cons y t ih =>
    rw [List.nodup_cons] at hn
    by_cases hxy : y = x
    · subst hxy
      have : (y :: t).filter (fun z => z != y) = t := by
        rw [List.filter_cons]; simp [List.filter_bne_eq_self_of_not_mem hn.1]
      rw [this, List.filter_cons]
      by_cases hp : p y = true <;> simp [hp]
    · have hxt : x ∈ t := by
        rcases List.mem_cons.mp hx with h | h
        · exact absurd h.symm hxy
        · exact h
      have ih' := ih hn.2 hxt
      have : (y :: t).filter (fun z => z != x) = y :: t.filter (fun z => z != x) := by
        rw [List.filter_cons]; simp [hxy]
      rw [this, List.filter_cons, List.filter_cons (xs := t)]
      by_cases hp : p y = true
      · simp only [hp, if_true, List.length_cons]; omega
      · simp only [hp]; exact ih'

theorem filter_ne_length' [BEq α] [LawfulBEq α] {l : List α} {x : α} (hn : l.Nodup) (hx : x ∈ l) :
    (l.filter (fun y => y != x)).length + 1 = l.length := by
  have := filter_ne_length (fun _ => true) hn hx
  have e : ∀ m : List α, m.filter (fun _ => true) = m := fun m => List.filter_eq_self.mpr (fun _ _ => rfl)
  rw [e, e] at this
  simpa using this

theorem pairwise_snoc {α β : Type} (key : α → β) (l : List α) (x : α) (h : l.Pairwise (fun a b => key a ≠ key b))
    (hx : ∀ y ∈ l, key y ≠ key x) : (l ++ [x]).Pairwise (fun a b => key a ≠ key b) := by
  rw [List.pairwise_append]
  refine ⟨h, List.pairwise_singleton _ _, ?_⟩
  intro y hy z hz
  rw [List.mem_singleton.mp hz]
  exact hx y hy

theorem lookup_filter_ne (q : List (String × Nat)) (a a' : String) (h : a' ≠ a) :
    (q.filter (fun x => x.1 != a)).lookup a' = q.lookup a' := by
  induction q with
  | nil => rfl
  | cons x t ih =>
    obtain ⟨b, n⟩ := x
    by_cases hb : b = a
    · subst hb
      have h1 : (a' == b) = false := by simpa using h
      rw [List.filter_cons_of_neg (by simp), List.lookup_cons, h1, ih]
    · rw [List.filter_cons_of_pos (by simpa using hb), List.lookup_cons, List.lookup_cons, ih]

theorem lookup_filter_self (q : List (String × Nat)) (a : String) :
    (q.filter (fun x => x.1 != a)).lookup a = none := by
  rw [List.lookup_eq_none_iff]
  intro p hp
  rw [bne_comm]
  exact (List.mem_filter.mp hp).2

end Keyed

end Yk
