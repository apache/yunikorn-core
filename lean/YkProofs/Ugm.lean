/- One queue-tracker tree of YkModel/Ugm.lean: association lists read as Go maps, the walk along a queue hierarchy
   (`prefixes`, `ensurePath`), and what Headroom / canRunApp enforce on the trackers of one tree (C05). -/
import YkModel.Ugm
import YkProofs.Res
namespace Yk.Ugm
open Yk Yk.Res

/-! ### Go maps -/

section maps
variable {α β : Type} [DecidableEq α]

theorem aget_nil (k : α) : aget ([] : List (α × β)) k = none := rfl

theorem aget_cons (a : α) (b : β) (t : List (α × β)) (k : α) :
    aget ((a, b) :: t) k = if a = k then some b else aget t k := rfl

theorem aget_eq_lookup (l : List (α × β)) (k : α) : aget l k = l.lookup k := by
  induction l with
  | nil => rfl
  | cons e t ih =>
    rw [aget, List.lookup_cons, ih]
    by_cases h : e.1 = k
    · simp [h]
    · simp [h, show (k == e.1) = false from beq_false_of_ne (Ne.symm h)]

theorem aget_amod (l : List (α × β)) (k : α) (f : β → β) (k' : α) :
    aget (amod l k f) k' = if k = k' then (aget l k').map f else aget l k' := by
  induction l with
  | nil => simp [amod, aget]
  | cons e t ih => by_cases hak : e.1 = k <;> by_cases hk : k = k' <;> simp_all [amod, aget]

theorem aget_aset (l : List (α × β)) (k : α) (v : β) (k' : α) :
    aget (aset l k v) k' = if k = k' then some v else aget l k' := by
  induction l with
  | nil => simp [aset, aget]
  | cons e t ih => by_cases hak : e.1 = k <;> by_cases hk : k = k' <;> simp_all [aset, aget]

theorem aget_adel (l : List (α × β)) (k k' : α) :
    aget (adel l k) k' = if k = k' then none else aget l k' := by
  induction l with
  | nil => simp [adel, aget]
  | cons e t ih => by_cases hak : e.1 = k <;> by_cases hk : k = k' <;> simp_all [adel, aget]

theorem amod_of_aget_none {l : List (α × β)} {k : α} (h : aget l k = none) (f : β → β) : amod l k f = l := by
  induction l with
  | nil => rfl
  | cons e t ih =>
    obtain ⟨a, b⟩ := e
    by_cases hak : a = k
    · simp [aget, hak] at h
    · simp only [aget, hak, if_false] at h
      simp only [amod, hak, if_false, ih h]

theorem amod_id (l : List (α × β)) (k : α) : amod l k id = l := by
  induction l with
  | nil => rfl
  | cons e t ih =>
    obtain ⟨a, b⟩ := e
    by_cases hak : a = k <;> simp [amod, hak, ih]

theorem aget_append_single (l : List (α × β)) (k : α) (v : β) (k' : α) :
    aget (l ++ [(k, v)]) k' = match aget l k' with | some x => some x | none => if k = k' then some v else none := by
  induction l with
  | nil => simp [aget]
  | cons e t ih =>
    obtain ⟨a, b⟩ := e
    by_cases hk : a = k'
    · subst hk; simp [aget]
    · simp [aget, hk, ih]

theorem ahas_eq (l : List (α × β)) (k : α) : ahas l k = (aget l k).isSome := rfl

theorem aget_ensure (l : List (α × β)) (k : α) (v : β) (k' : α) :
    aget (if ahas l k then l else l ++ [(k, v)]) k' =
      match aget l k' with | some x => some x | none => if k = k' then some v else none := by
  by_cases h : ahas l k = true
  · rw [if_pos h]
    cases hh : aget l k' with
    | some x => rfl
    | none =>
      have : k ≠ k' := by intro e; subst e; rw [ahas_eq, hh] at h; cases h
      simp [this]
  · rw [if_neg h]; exact aget_append_single l k v k'

theorem ahas_amod (l : List (α × β)) (k : α) (f : β → β) (k' : α) : ahas (amod l k f) k' = ahas l k' := by
  rw [ahas_eq, ahas_eq, aget_amod]
  split
  · cases aget l k' <;> rfl
  · rfl

theorem aget_mem {l : List (α × β)} {k : α} {v : β} (h : aget l k = some v) : (k, v) ∈ l :=
  mem_of_lookup (aget_eq_lookup l k ▸ h)

def akeys {α β : Type} (l : List (α × β)) : List α := l.map Prod.fst

theorem mem_aset {l : List (α × β)} {k : α} {v : β} {e : α × β} (h : e ∈ aset l k v) :
    e ∈ l ∨ e = (k, v) := by
  induction l with
  | nil => simpa [aset] using h
  | cons a l ih =>
    unfold aset at h
    split at h
    next hk =>
      subst hk
      exact (List.mem_cons.mp h).elim Or.inr (fun h => Or.inl (List.mem_cons_of_mem _ h))
    next =>
      exact (List.mem_cons.mp h).elim (fun h => Or.inl (h ▸ List.mem_cons_self))
        (fun h => (ih h).imp_left (List.mem_cons_of_mem _))

theorem akeys_aset_nodup {l : List (α × β)} (h : (akeys l).Nodup) (k : α) (v : β) : (akeys (aset l k v)).Nodup := by
  induction l with
  | nil => simp [aset, akeys]
  | cons a l ih =>
    obtain ⟨a1, a2⟩ := a
    unfold akeys at h ih ⊢
    rw [List.map_cons, List.nodup_cons] at h
    by_cases hk : a1 = k
    · simp only [aset, hk, if_true, List.map_cons, List.nodup_cons]
      subst hk; exact h
    · simp only [aset, hk, if_false, List.map_cons, List.nodup_cons]
      refine ⟨?_, ih h.2⟩
      intro hm
      obtain ⟨e, he, he1⟩ := List.mem_map.mp hm
      rcases mem_aset he with he | he
      · exact h.1 (List.mem_map.mpr ⟨e, he, he1⟩)
      · subst he; exact hk he1.symm

theorem aget_map_vals (l : List (α × β)) (f : α → β → β) (u : α) :
    aget (l.map (fun e => (e.1, f e.1 e.2))) u = (aget l u).map (f u) := by
  induction l with
  | nil => rfl
  | cons a l ih =>
    obtain ⟨a1, a2⟩ := a
    by_cases h : a1 = u
    · subst h; simp [aget]
    · simp [aget, h, ih]

theorem aset_self {l : List (α × β)} {k : α} {v : β} (h : aget l k = some v) : aset l k v = l := by
  induction l with
  | nil => cases h
  | cons a l ih =>
    obtain ⟨a1, a2⟩ := a
    by_cases e : a1 = k
    · simp only [aget, e, if_true, Option.some.injEq] at h; simp [aset, e, h]
    · simp only [aget, e, if_false] at h; simp [aset, e, ih h]

theorem aget_of_mem_akeys_nodup {l : List (α × β)} (h : (akeys l).Nodup) {e : α × β} (he : e ∈ l) : aget l e.1 = some e.2 :=
  aget_eq_lookup l e.1 ▸ (lookup_iff_mem h e.1 e.2).mpr he

end maps

theorem aget2_aset2 {α β γ : Type} [DecidableEq α] [DecidableEq β] (l : List (α × List (β × γ))) (p : α) (u : β) (v : γ)
    (p' : α) (u' : β) : aget2 (aset2 l p u v) p' u' = if p = p' ∧ u = u' then some v else aget2 l p' u' := by
  unfold aget2 aset2
  rw [aget_aset]
  by_cases e : p = p'
  · subst e
    simp only [if_true, true_and]
    rw [aget_aset]
    cases aget l p with
    | none => simp [aget_nil]
    | some m => simp
  · simp [e]


/-! ### the walk: prefixes of a hierarchy -/

theorem mem_prefixesFrom_iff : ∀ (rest : List String) (pre p : Path),
    p ∈ prefixesFrom pre rest ↔ ∃ a, a ≠ [] ∧ a <+: rest ∧ p = pre ++ a := by
  intro rest
  induction rest with
  | nil =>
    intro pre p
    simp only [prefixesFrom, List.not_mem_nil, List.prefix_nil, false_iff]
    intro ⟨a, ha, e, _⟩
    exact ha e
  | cons c rest ih =>
    intro pre p
    simp only [prefixesFrom, List.mem_cons, ih]
    constructor
    · rintro (rfl | ⟨a, ha, hp, rfl⟩)
      · exact ⟨[c], by simp, by simp, rfl⟩
      · exact ⟨c :: a, by simp, by simpa using hp, by simp⟩
    · rintro ⟨a, ha, hp, rfl⟩
      cases a with
      | nil => exact absurd rfl ha
      | cons d a =>
        obtain ⟨rfl, hp'⟩ := List.cons_prefix_cons.mp hp
        by_cases e : a = []
        · subst e; exact Or.inl rfl
        · exact Or.inr ⟨a, e, hp', by simp⟩

theorem mem_prefixes_iff {p p' : Path} : p' ∈ prefixes p ↔ p' ≠ [] ∧ p' <+: p := by
  unfold prefixes
  rw [mem_prefixesFrom_iff]
  constructor
  · rintro ⟨a, ha, hp, rfl⟩; exact ⟨by simpa using ha, by simpa using hp⟩
  · rintro ⟨h1, h2⟩; exact ⟨p', h1, h2, by simp⟩

theorem mem_prefixesFrom_length (rest : List String) (pre p : Path) (h : p ∈ prefixesFrom pre rest) : pre.length < p.length := by
  obtain ⟨a, ha, _, rfl⟩ := (mem_prefixesFrom_iff rest pre p).mp h
  have := List.length_pos_iff.mpr ha
  rw [List.length_append]; omega

theorem mem_prefixes_self {p : Path} (h : p ≠ []) : p ∈ prefixes p := mem_prefixes_iff.mpr ⟨h, List.prefix_refl p⟩

theorem prefixesFrom_nodup : ∀ (rest : List String) (pre : Path), (prefixesFrom pre rest).Nodup := by
  intro rest
  induction rest with
  | nil => intro pre; simp [prefixesFrom]
  | cons c rest ih =>
    intro pre
    simp only [prefixesFrom, List.nodup_cons]
    refine ⟨?_, ih _⟩
    intro h
    have := mem_prefixesFrom_length _ _ _ h
    omega

theorem prefixes_nodup (h : Path) : (prefixes h).Nodup := prefixesFrom_nodup h []

/-! ### ensurePath -/

def ensureL (wild : List (Path × Limit)) (isUser : Bool) (t : Tree) (ps : List Path) : Tree :=
  ps.foldl (fun t p => if ahas t p then t else t ++ [(p, newNode wild isUser p)]) t

theorem ensurePath_eq (wild : List (Path × Limit)) (isUser : Bool) (t : Tree) (h : Path) :
    ensurePath wild isUser t h = ensureL wild isUser t (prefixes h) := rfl

theorem aget_ensureL (wild : List (Path × Limit)) (isUser : Bool) : ∀ (ps : List Path) (t : Tree) (p : Path),
    aget (ensureL wild isUser t ps) p =
      match aget t p with | some n => some n | none => if p ∈ ps then some (newNode wild isUser p) else none := by
  intro ps
  induction ps with
  | nil => intro t p; simp [ensureL]; cases aget t p <;> rfl
  | cons a ps ih =>
    intro t p
    rw [ensureL, List.foldl_cons, ← ensureL, ih, aget_ensure]
    cases aget t p with
    | some n => rfl
    | none =>
      by_cases e : a = p
      · subst e; simp
      · simp [e, Ne.symm e]

theorem aget_ensurePath (wild : List (Path × Limit)) (isUser : Bool) (t : Tree) (h p : Path) :
    aget (ensurePath wild isUser t h) p =
      match aget t p with | some n => some n | none => if p ∈ prefixes h then some (newNode wild isUser p) else none :=
  aget_ensureL wild isUser (prefixes h) t p

theorem ensurePath_has (wild : List (Path × Limit)) (isUser : Bool) (t : Tree) (h p : Path) (hp : p ∈ prefixes h) :
    ∃ n, aget (ensurePath wild isUser t h) p = some n := by
  rw [aget_ensurePath]
  cases aget t p with
  | some n => exact ⟨n, rfl⟩
  | none => simp [hp]

theorem aget_ensurePath_idem (wild wild' : List (Path × Limit)) (isUser isUser' : Bool) (t : Tree) (h p : Path) :
    aget (ensurePath wild' isUser' (ensurePath wild isUser t h) h) p = aget (ensurePath wild isUser t h) p := by
  rw [aget_ensurePath wild' isUser' _ h p]
  cases hq : aget (ensurePath wild isUser t h) p with
  | some n => rfl
  | none =>
    by_cases hp : p ∈ prefixes h
    · obtain ⟨n, hn⟩ := ensurePath_has wild isUser t h p hp
      rw [hn] at hq; cases hq
    · simp [hp]

/-! ### modifying every tracker of the walk -/

theorem aget_foldl_amod (f : Node → Node) : ∀ (ps : List Path) (t : Tree) (q : Path), ps.Nodup →
    aget (ps.foldl (fun t p => amod t p f) t) q = if q ∈ ps then (aget t q).map f else aget t q := by
  intro ps
  induction ps with
  | nil => intro t q _; simp
  | cons a ps ih =>
    intro t q hnd
    rw [List.nodup_cons] at hnd
    rw [List.foldl_cons, ih _ _ hnd.2, aget_amod]
    by_cases hq : q ∈ ps
    · have : a ≠ q := fun e => hnd.1 (e ▸ hq)
      simp [hq, this]
    · by_cases e : a = q
      · subst e; simp [hq]
      · simp [hq, e, Ne.symm e]

theorem aget_increase (wild : List (Path × Limit)) (isUser : Bool) (t : Tree) (h : Path) (app : String) (r : Res) (q : Path) :
    aget (increase wild isUser t h app r) q =
      if q ∈ prefixes h then (aget (ensurePath wild isUser t h) q).map (incNode app r) else aget (ensurePath wild isUser t h) q := by
  unfold increase
  exact aget_foldl_amod _ _ _ _ (prefixes_nodup h)

theorem ensurePath_ahas_mono (w : List (Path × Limit)) (isUser : Bool) (t : Tree) (q p : Path) (h : ahas t p = true) :
    ahas (ensurePath w isUser t q) p = true := by
  rw [ahas_eq] at h ⊢
  rw [aget_ensurePath]
  cases hh : aget t p with
  | none => rw [hh] at h; cases h
  | some x => rfl

theorem setLimit_ahas (w : List (Path × Limit)) (isUser : Bool) (t : Tree) (q : Path) (mr : ORes) (ma : Nat) (uw ck : Bool) (p : Path) :
    ahas (setLimit w isUser t q mr ma uw ck) p = ahas (ensurePath w isUser t q) p := by
  unfold setLimit
  rw [ahas_eq, ahas_eq, aget_amod]
  by_cases e : q = p
  · subst e; cases aget (ensurePath w isUser t q) q <;> simp
  · simp [e]

/-! ### well-formed trees (resource vectors are Go maps: unique keys) -/

def nodeWf (n : Node) : Bool := oresWf n.usage && oresWf n.maxRes
def TreeWf (t : Tree) : Prop := ∀ p n, aget t p = some n → nodeWf n = true
def WildWf (w : List (Path × Limit)) : Prop := ∀ p l, aget w p = some l → oresWf l.maxRes = true

theorem newNode_wf {w : List (Path × Limit)} (hw : WildWf w) (isUser : Bool) (p : Path) : nodeWf (newNode w isUser p) = true := by
  unfold newNode
  cases isUser with
  | false => rfl
  | true =>
    simp only [if_true]
    cases hl : aget w p with
    | none => rfl
    | some l =>
      have := hw p l hl
      simp only [nodeWf, Bool.and_eq_true]
      exact ⟨rfl, this⟩

theorem aget_ensurePath_cases {w : List (Path × Limit)} {isUser : Bool} {t : Tree} {h p : Path} {n : Node}
    (hn : aget (ensurePath w isUser t h) p = some n) :
    aget t p = some n ∨ (aget t p = none ∧ p ∈ prefixes h ∧ n = newNode w isUser p) := by
  rw [aget_ensurePath] at hn
  cases hp : aget t p with
  | some n' => rw [hp] at hn; exact Or.inl hn
  | none =>
    rw [hp] at hn
    by_cases hm : p ∈ prefixes h
    · simp only [hm, if_true, Option.some.injEq] at hn; exact Or.inr ⟨rfl, hm, hn.symm⟩
    · simp [hm] at hn

/-- `TreeWf` and `UsageWf` are statements of this form -/
theorem forall_ensurePath {P : Path → Node → Prop} {w : List (Path × Limit)} {isUser : Bool} {t : Tree} {h : Path}
    (ht : ∀ p n, aget t p = some n → P p n) (hnew : ∀ p ∈ prefixes h, P p (newNode w isUser p)) :
    ∀ p n, aget (ensurePath w isUser t h) p = some n → P p n := by
  intro p n hn
  rcases aget_ensurePath_cases hn with e | ⟨_, hm, e⟩
  · exact ht p n e
  · rw [e]; exact hnew p hm

theorem ensurePath_wf {w : List (Path × Limit)} (hw : WildWf w) (isUser : Bool) {t : Tree} (ht : TreeWf t) (h : Path) :
    TreeWf (ensurePath w isUser t h) :=
  forall_ensurePath ht (fun p _ => newNode_wf hw isUser p)

/-! ### headroom: the answer is at most what every tracker on the path has left -/

def LeOn (a b : ORes) : Prop :=
  ∀ mb, b = some mb → ∀ k v, get? mb k = some v → ∃ ma va, a = some ma ∧ get? ma k = some va ∧ va ≤ v

theorem leOn_iff (a b : ORes) : LeOn a b ↔ Tighter a b := Iff.rfl

theorem get?_map_val (g : String × Int → Int) (b : Res) (k : String) :
    get? (b.map (fun p => (p.1, g p))) k = (get? b k).map (fun v => g (k, v)) := by
  induction b with
  | nil => rfl
  | cons p t ih =>
    obtain ⟨a, v⟩ := p
    rw [List.map_cons, get?_cons, get?_cons, ih]
    by_cases h : k = a
    · subst h; simp
    · simp [h]

theorem nodeHeadroom_wf {n : Node} (hn : nodeWf n = true) : oresWf (nodeHeadroom n) = true := by
  unfold nodeHeadroom
  split
  · rfl
  · simp only [nodeWf, Bool.and_eq_true] at hn
    unfold subOnlyExistingX
    cases hm : n.maxRes with
    | none => rfl
    | some b =>
      have hb : wf b = true := by have := hn.2; rw [hm] at this; exact this
      cases n.usage with
      | none => exact hb
      | some d => exact map_val_wf _ b hb

theorem nodeHeadroom_get? {n : Node} {nh : Res} (h : nodeHeadroom n = some nh) (k : String) :
    ∃ mx, n.maxRes = some mx ∧ isZero n.maxRes = false ∧
      get? nh k = (get? mx k).map (fun v => v - (n.usage.getD []).getD k) := by
  unfold nodeHeadroom at h
  split at h
  · cases h
  · rename_i hz
    simp only [Bool.not_eq_true] at hz
    unfold subOnlyExistingX at h
    cases hm : n.maxRes with
    | none => rw [hm] at hz; simp [isZero] at hz
    | some b =>
      refine ⟨b, rfl, by rw [← hm]; exact hz, ?_⟩
      rw [hm] at h
      cases hu : n.usage with
      | none =>
        rw [hu] at h; simp at h; subst h
        cases get? b k with
        | none => rfl
        | some v => simp [Option.getD, getD]
      | some d =>
        rw [hu] at h; simp at h; subst h
        rw [get?_map_val]; rfl

theorem headroomStep_eq (t : Tree) (p : Path) (c : ORes) :
    headroomStep t p c = match (aget t p).bind nodeHeadroom with | some nh => componentWiseMin (some nh) c | none => c := by
  unfold headroomStep
  cases aget t p with
  | none => rfl
  | some n => simp only [Option.bind_some]; cases nodeHeadroom n <;> rfl

theorem headroom_fold_wf {t : Tree} (ht : TreeWf t) : ∀ (ps : List Path), oresWf (ps.foldr (headroomStep t) none) = true := by
  intro ps
  induction ps with
  | nil => rfl
  | cons p ps ih =>
    rw [List.foldr_cons, headroomStep_eq]
    cases hb : (aget t p).bind nodeHeadroom with
    | none => exact ih
    | some nh =>
      obtain ⟨n, hp, hh⟩ := Option.bind_eq_some_iff.mp hb
      exact cwm_wf (hh ▸ nodeHeadroom_wf (ht p n hp)) ih

theorem headroom_fold_le {t : Tree} (ht : TreeWf t) : ∀ (ps : List Path) (p : Path) (n : Node), p ∈ ps → aget t p = some n →
    LeOn (ps.foldr (headroomStep t) none) (nodeHeadroom n) := by
  intro ps
  induction ps with
  | nil => intro p n h; cases h
  | cons a ps ih =>
    intro p n hp hn
    rw [List.foldr_cons, headroomStep_eq]
    have hchild := headroom_fold_wf ht ps
    rcases List.mem_cons.mp hp with e | e
    · subst e
      rw [hn, Option.bind_some]
      cases hh : nodeHeadroom n with
      | none => exact Tighter.none _
      | some nh => exact (cwm_le (hh ▸ nodeHeadroom_wf (ht p n hn)) hchild).1
    · have ih' := ih p n e hn
      cases hb : (aget t a).bind nodeHeadroom with
      | none => exact ih'
      | some nh =>
        obtain ⟨m, hm, hh⟩ := Option.bind_eq_some_iff.mp hb
        exact Yk.Tighter.trans (cwm_le (hh ▸ nodeHeadroom_wf (ht a m hm)) hchild).2 ih'

theorem usage_getD_wf {n : Node} (h : oresWf n.usage = true) : wf (n.usage.getD []) = true := by
  cases hh : n.usage with
  | none => rfl
  | some u => rw [hh] at h; exact h

theorem incNode_usage {n : Node} (hn : oresWf n.usage = true) {r : Res} (hr : wf r = true) (app : String) (k : String) :
    ((incNode app r n).usage.getD []).getD k = (n.usage.getD []).getD k + r.getD k := by
  show (prune (addX (n.usage.getD []) r)).getD k = (n.usage.getD []).getD k + r.getD k
  have hw2 : wf (addX (n.usage.getD []) r) = true := zipFold_wf _ _ _ (usage_getD_wf hn)
  rw [prune_getD _ hw2, addX_getD _ _ hr]

/-- the ask stays within the limits of every tracker on the path (types the limit defines; provided it was within before) -/
def Within (t1 t2 : Tree) (q : Path) (r : Res) : Prop :=
  ∀ p ∈ prefixes q, ∃ n n', aget t1 p = some n ∧ aget t2 p = some n' ∧ n'.maxRes = n.maxRes ∧ n'.maxApps = n.maxApps ∧
    ∀ mx, n.maxRes = some mx → isZero n.maxRes = false → ∀ k, r.has k = true → mx.has k = true →
      (n.usage.getD []).getD k ≤ mx.getD k → (n'.usage.getD []).getD k ≤ mx.getD k

/-- ENFORCEMENT (resources), tree level.  `hro` is an answer not larger than the headroom of the walk (the manager
    hands out the minimum of the user's and the group's); the ask `r` fits in it (FitInMaxUndef, what
    Application.tryAllocate checks). -/
theorem headroom_enforces_tree (w : List (Path × Limit)) (isUser : Bool) (t : Tree) (h : Path) (app : String) (r : Res)
    (hw : WildWf w) (ht : TreeWf t) (hr : wf r = true) (hro : ORes)
    (hle : LeOn hro (headroom w isUser t h).2) (hfit : fitInMaxUndef hro (some r) = true) :
    Within (headroom w isUser t h).1 (increase w isUser (headroom w isUser t h).1 h app r) h r := by
  intro p hp
  simp only [headroom] at *
  have ht' := ensurePath_wf hw isUser ht h
  obtain ⟨n, hn⟩ := ensurePath_has w isUser t h p hp
  refine ⟨n, incNode app r n, hn, ?_, rfl, rfl, ?_⟩
  · rw [aget_increase, aget_ensurePath_idem]; simp [hp, hn]
  · intro mx hmx hz k hrk hmk hbefore
    rw [incNode_usage (Bool.and_eq_true_iff.mp (ht' p n hn)).1 hr]
    rw [has_eq_get?] at hrk hmk
    obtain ⟨rv, hrv⟩ := Option.isSome_iff_exists.mp hrk
    obtain ⟨mv, hmv⟩ := Option.isSome_iff_exists.mp hmk
    have hrd : r.getD k = rv := by rw [getD_eq_get?, hrv]; rfl
    have hmd : mx.getD k = mv := by rw [getD_eq_get?, hmv]; rfl
    have hnh : ∃ nh, nodeHeadroom n = some nh := by
      unfold nodeHeadroom; rw [hz]; simp only [Bool.false_eq_true, if_false]
      unfold subOnlyExistingX; rw [hmx]; cases n.usage <;> exact ⟨_, rfl⟩
    obtain ⟨nh, hnh⟩ := hnh
    obtain ⟨mx', hmx', _, hget⟩ := nodeHeadroom_get? hnh k
    rw [hmx] at hmx'; cases hmx'
    rw [hmv] at hget
    simp only [Option.map_some] at hget
    obtain ⟨ma, va, hma, hva, hvale⟩ := Yk.Tighter.trans hle (headroom_fold_le ht' _ p n hp hn) nh hnh k _ hget
    subst hma
    have hf := fitInMaxUndef_le hfit hrv hva
    rw [hrd, hmd]; rw [hmd] at hbefore
    omega

/-! ### canRunApp -/

/-- every tracker on the path admits at most its maximum number of applications (or the application was already there) -/
def WithinApps (t1 t2 : Tree) (q : Path) (app : String) : Prop :=
  ∀ p ∈ prefixes q, ∃ n n', aget t1 p = some n ∧ aget t2 p = some n' ∧ n'.maxApps = n.maxApps ∧
    (n.apps.contains app = true → n'.apps = n.apps) ∧
    (n.apps.contains app = false → n.maxApps ≠ 0 → n'.apps.length ≤ n.maxApps)

/-- ENFORCEMENT (applications), tree level: when canRunApp said yes, after the increase every tracker of the path with a
    maximum-applications limit runs at most that many applications, unless the application was already running there
    (then the count did not change). -/
theorem canRun_enforces_tree (w : List (Path × Limit)) (isUser : Bool) (t : Tree) (h : Path) (app : String) (r : Res)
    (hcan : (canRunApp w isUser t h app).2 = true) :
    WithinApps (canRunApp w isUser t h app).1 (increase w isUser (canRunApp w isUser t h app).1 h app r) h app := by
  intro p hp
  simp only [canRunApp] at *
  obtain ⟨n, hn⟩ := ensurePath_has w isUser t h p hp
  refine ⟨n, incNode app r n, hn, ?_, rfl, ?_, ?_⟩
  · rw [aget_increase, aget_ensurePath_idem]; simp [hp, hn]
  · intro hc; show (if n.apps.contains app then n.apps else n.apps ++ [app]) = n.apps; rw [if_pos hc]
  · intro hc hm
    have := List.all_eq_true.mp hcan p hp
    rw [hn] at this
    simp only [nodeCanRun, hc, Bool.false_or, Bool.or_eq_true, beq_iff_eq, decide_eq_true_eq] at this
    rcases this with h0 | hle
    · exact absurd h0 hm
    · show (if n.apps.contains app then n.apps else n.apps ++ [app]).length ≤ n.maxApps
      rw [hc]; simp only [Bool.false_eq_true, if_false, List.length_append, List.length_singleton]; exact hle

end Yk.Ugm
