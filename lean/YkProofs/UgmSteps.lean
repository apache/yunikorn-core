/- The steps of UpdateConfig on the manager, as equations on the queue-tracker tree of one user (`utree`) or one group
   (`gtree`): setting a limit is get-or-create then `setLimit`, a reset is `resetTree` (which may remove the tracker), the
   wildcard phases map a tree function over the user trackers.  The accounting proofs (UgmUserAcct) and the reload proofs
   (UgmReloadNamed, UgmReloadWild) both go through these. -/
import YkProofs.UgmOps
namespace Yk.Ugm
open Yk Yk.Res

/-! ### the limit fields of a tracker -/

/- a triple is (maxResources, maxRunningApps, useWildCard); `t3` is a limit set by name, `t3w` one set through the wildcard -/

abbrev Triple := ORes × Nat × Bool
def triple (n : Node) : Triple := (n.maxRes, n.maxApps, n.wild)
def dflt : Triple := (none, 0, false)
def t3 (lc : Limit) : Triple := (lc.maxRes, lc.maxApps, false)
def t3w (lc : Limit) : Triple := (lc.maxRes, lc.maxApps, true)

theorem aget_ensureGroupT (m : Mgr) (g g' : String) :
    aget (ensureGroupT m g).groups g' = match aget m.groups g' with
      | some gt => some gt | none => if g = g' then some newGT else none := by
  have e : (ensureGroupT m g).groups = if ahas m.groups g then m.groups else m.groups ++ [(g, newGT)] := by
    unfold ensureGroupT; split <;> rfl
  rw [e, aget_ensure]; cases aget m.groups g' <;> rfl

theorem setUserLimits_eq (m : Mgr) (u : String) (lc : Limit) (p : Path) :
    setUserLimits m u lc p =
      { m with users := amod (if ahas m.users u then m.users else m.users ++ [(u, newUT m)]) u
                 (fun ut => { ut with qt := setLimit m.userWild true ut.qt p lc.maxRes lc.maxApps false false }) } := by
  unfold setUserLimits updUser ensureUser; split <;> rfl

theorem setGroupLimits_eq (m : Mgr) (g : String) (lc : Limit) (p : Path) :
    setGroupLimits m g lc p =
      { m with groups := amod (if ahas m.groups g then m.groups else m.groups ++ [(g, newGT)]) g
                 (fun gt => { gt with qt := setLimit [] false gt.qt p lc.maxRes lc.maxApps false false }) } := by
  unfold setGroupLimits updGroup ensureGroupT; split <;> rfl

theorem aget_setGroupLimits (m : Mgr) (g : String) (lc : Limit) (p : Path) (g' : String) :
    aget (setGroupLimits m g lc p).groups g' =
      if g = g' then some { ((aget m.groups g').getD newGT) with qt := setLimit [] false ((aget m.groups g').getD newGT).qt p lc.maxRes lc.maxApps false false }
      else aget m.groups g' := by
  unfold setGroupLimits updGroup
  simp only
  rw [aget_amod, aget_ensureGroupT]
  by_cases e : g = g'
  · subst e
    cases aget m.groups g <;> simp
  · cases hh : aget m.groups g' <;> simp [e]

theorem users_setGroupLimits (m : Mgr) (g : String) (lc : Limit) (p : Path) : (setGroupLimits m g lc p).users = m.users := by
  unfold setGroupLimits updGroup ensureGroupT; split <;> rfl

def utree (m : Mgr) (u : String) : Option Tree := (aget m.users u).map (·.qt)
def gtree (m : Mgr) (g : String) : Option Tree := (aget m.groups g).map (·.qt)

theorem bind_utree (m : Mgr) (u : String) (p : Path) :
    (aget m.users u).bind (fun ut => aget ut.qt p) = (utree m u).bind (fun t => aget t p) := by
  unfold utree; cases aget m.users u <;> rfl

theorem bind_gtree (m : Mgr) (g : String) (p : Path) :
    (aget m.groups g).bind (fun gt => aget gt.qt p) = (gtree m g).bind (fun t => aget t p) := by
  unfold gtree; cases aget m.groups g <;> rfl

section
variable (m : Mgr) (u g : String) (lc : Limit) (p : Path)

theorem utree_setUserLimits (u' : String) :
    utree (setUserLimits m u lc p) u' =
      if u = u' then some (setLimit m.userWild true ((utree m u).getD (newTree m.userWild true)) p lc.maxRes lc.maxApps false false)
      else utree m u' := by
  unfold utree setUserLimits
  rw [aget_updUser, aget_ensureUser]
  by_cases e : u = u'
  · subst e
    cases aget m.users u with
    | none => simp [newUT]
    | some ut => simp
  · cases hh : aget m.users u' <;> simp [e]

theorem gtree_setGroupLimits (g' : String) :
    gtree (setGroupLimits m g lc p) g' =
      if g = g' then some (setLimit [] false ((gtree m g).getD (newTree [] false)) p lc.maxRes lc.maxApps false false)
      else gtree m g' := by
  unfold gtree
  rw [aget_setGroupLimits]
  by_cases e : g = g'
  · subst e
    cases aget m.groups g with
    | none => simp [newGT]
    | some gt => simp
  · simp [e]

theorem utree_setGroupLimits (u : String) :
    utree (setGroupLimits m g lc p) u = utree m u := by unfold utree; rw [users_setGroupLimits]

theorem gtree_setUserLimits (g : String) : gtree (setUserLimits m u lc p) g = gtree m g := by rw [setUserLimits_eq]; rfl

theorem setUserLimits_frame :
    (setUserLimits m u lc p).userWild = m.userWild ∧ (setUserLimits m u lc p).userLimits = m.userLimits ∧
    (setUserLimits m u lc p).groupLimits = m.groupLimits := by
  rw [setUserLimits_eq]; exact ⟨rfl, rfl, rfl⟩

theorem setGroupLimits_frame :
    (setGroupLimits m g lc p).userWild = m.userWild ∧ (setGroupLimits m g lc p).userLimits = m.userLimits ∧
    (setGroupLimits m g lc p).groupLimits = m.groupLimits := by
  rw [setGroupLimits_eq]; exact ⟨rfl, rfl, rfl⟩

end

def resetT2 (w : List (Path × Limit)) (b : Bool) (t1 : Tree) (pd : Path) : Tree :=
  if unlinkRequired (setLimit w b t1 pd none 0 false false) pd then unlink (setLimit w b t1 pd none 0 false false) pd
  else setLimit w b t1 pd none 0 false false

/-- resetUserEarlierUsage / resetGroupEarlierUsage on the tree of the tracker: none = the tracker is removed -/
def resetTree (w : List (Path × Limit)) (b : Bool) (pre : Tree → Tree) (t : Tree) (pd : Path) : Option Tree :=
  if tracked t pd = true then (if canBeRemoved (resetT2 w b (pre t) pd) = true then none else some (resetT2 w b (pre t) pd))
  else some t

/-! ### the resets on the manager: each replaces, or removes, the tracker of one name -/

def resetIn {β : Type} (l : List (String × β)) (k : String) (f : β → Option β) : List (String × β) :=
  match aget l k with
  | none => l
  | some b => match f b with | none => adel l k | some b' => aset l k b'

theorem aget_resetIn {β : Type} (l : List (String × β)) (k : String) (f : β → Option β) (k' : String) :
    aget (resetIn l k f) k' = if k = k' then (aget l k).bind f else aget l k' := by
  unfold resetIn
  cases h : aget l k with
  | none =>
    by_cases e : k = k'
    · rw [if_pos e, ← e, h]; rfl
    · rw [if_neg e]
  | some b =>
    simp only [Option.bind_some]
    cases f b with
    | none => exact aget_adel l k k'
    | some b' => exact aget_aset l k b' k'

theorem map_qt_resetIn {β : Type} (qt : β → Tree) (set : β → Tree → β) (hq : ∀ b t, qt (set b t) = t) (l : List (String × β))
    (k : String) (r : Tree → Option Tree) (k' : String) :
    (aget (resetIn l k (fun b => (r (qt b)).map (set b))) k').map qt =
      if k = k' then ((aget l k).map qt).bind r else (aget l k').map qt := by
  rw [aget_resetIn]
  split
  · cases aget l k with
    | none => rfl
    | some b => simp [Option.map_map, Function.comp_def, hq]
  · rfl

section
variable (m : Mgr) (u g : String) (pd : Path)

theorem resetUser_eq :
    resetUserEarlierUsage m u pd =
      { m with users := resetIn m.users u (fun ut => (resetTree m.userWild true id ut.qt pd).map (fun t => { ut with qt := t })) } := by
  unfold resetUserEarlierUsage resetIn resetTree
  cases hu : aget m.users u with
  | none => rfl
  | some ut =>
    simp only [id]
    by_cases h : tracked ut.qt pd = true
    · simp only [h, Bool.not_true, Bool.false_eq_true, if_false, if_true]
      show (if canBeRemoved (resetT2 m.userWild true ut.qt pd) = true then _ else _) = _
      cases canBeRemoved (resetT2 m.userWild true ut.qt pd) <;> rfl
    · have h' : tracked ut.qt pd = false := by simpa using h
      simp only [h', Bool.not_false, if_true, Bool.false_eq_true, if_false, Option.map_some]
      rw [aset_self hu]

theorem utree_resetUser (u' : String) :
    utree (resetUserEarlierUsage m u pd) u' =
      if u = u' then (utree m u).bind (fun t => resetTree m.userWild true id t pd) else utree m u' := by
  rw [resetUser_eq]
  exact map_qt_resetIn UT.qt (fun ut t => { ut with qt := t }) (fun _ _ => rfl) m.users u (fun t => resetTree m.userWild true id t pd) u'

theorem resetUser_frame :
    (resetUserEarlierUsage m u pd).userWild = m.userWild ∧ (resetUserEarlierUsage m u pd).userLimits = m.userLimits ∧
    (resetUserEarlierUsage m u pd).groups = m.groups := by
  rw [resetUser_eq]; exact ⟨rfl, rfl, rfl⟩

theorem gtree_resetUser (g : String) : gtree (resetUserEarlierUsage m u pd) g = gtree m g := by
  unfold gtree; rw [(resetUser_frame m u pd).2.2]

/-- the users after resetGroupEarlierUsage broke the application → group links -/
def unlinkApps (gapps : List (String × String)) (apps : List String) (us : List (String × UT)) : List (String × UT) :=
  apps.foldl (fun us app =>
    match aget gapps app with
    | some u => amod us u (fun ut => { ut with appGroups := adel ut.appGroups app })
    | none => us) us

theorem utree_unlinkApps (gapps : List (String × String)) : ∀ (apps : List String) (us : List (String × UT)) (u : String),
    (aget (unlinkApps gapps apps us) u).map (·.qt) = (aget us u).map (·.qt) := by
  intro apps
  induction apps with
  | nil => intro us u; rfl
  | cons a apps ih =>
    intro us u
    unfold unlinkApps at ih ⊢
    rw [List.foldl_cons, ih]
    cases aget gapps a with
    | none => rfl
    | some ua =>
      simp only
      rw [aget_amod]
      by_cases e : ua = u
      · subst e; cases aget us ua <;> simp
      · simp [e]

theorem resetGroup_eq :
    resetGroupEarlierUsage m g pd =
      { m with
        users := (match aget m.groups g with
          | some gt => if tracked gt.qt pd = true then unlinkApps gt.apps (decreaseDownwards gt.qt pd).2 m.users else m.users
          | none => m.users)
        groups := resetIn m.groups g (fun gt =>
          (resetTree [] false (fun t => (decreaseDownwards t pd).1) gt.qt pd).map (fun t => { gt with qt := t })) } := by
  unfold resetGroupEarlierUsage resetIn resetTree unlinkApps
  cases hg : aget m.groups g with
  | none => rfl
  | some gt =>
    simp only
    by_cases h : tracked gt.qt pd = true
    · simp only [h, Bool.not_true, Bool.false_eq_true, if_false, if_true]
      show (if canBeRemoved (resetT2 [] false (decreaseDownwards gt.qt pd).1 pd) = true then _ else _) = _
      cases canBeRemoved (resetT2 [] false (decreaseDownwards gt.qt pd).1 pd) <;> rfl
    · have h' : tracked gt.qt pd = false := by simpa using h
      simp only [h', Bool.not_false, if_true, Bool.false_eq_true, if_false, Option.map_some]
      rw [aset_self hg]

theorem gtree_resetGroup (g' : String) :
    gtree (resetGroupEarlierUsage m g pd) g' =
      if g = g' then (gtree m g).bind (fun t => resetTree [] false (fun t => (decreaseDownwards t pd).1) t pd) else gtree m g' := by
  rw [resetGroup_eq]
  exact map_qt_resetIn GT.qt (fun gt t => { gt with qt := t }) (fun _ _ => rfl) m.groups g
    (fun t => resetTree [] false (fun t => (decreaseDownwards t pd).1) t pd) g'

theorem utree_resetGroup (u : String) : utree (resetGroupEarlierUsage m g pd) u = utree m u := by
  rw [resetGroup_eq]
  unfold utree
  cases aget m.groups g with
  | none => rfl
  | some gt =>
    simp only
    split
    · exact utree_unlinkApps gt.apps _ m.users u
    · rfl

theorem resetGroup_frame :
    (resetGroupEarlierUsage m g pd).userWild = m.userWild ∧ (resetGroupEarlierUsage m g pd).userLimits = m.userLimits := by
  rw [resetGroup_eq]; exact ⟨rfl, rfl⟩

end

theorem aget_mapUsers (m : Mgr) (f : String → UT → UT) (u : String) :
    aget (mapUsers m f).users u = (aget m.users u).map (f u) := aget_map_vals m.users f u

theorem utree_mapUsers (m : Mgr) (f : String → UT → UT) (u : String) :
    utree (mapUsers m f) u = (aget m.users u).map (fun ut => (f u ut).qt) := by
  unfold utree; rw [aget_mapUsers]; cases aget m.users u <;> rfl

/-! ### clearEarlierSetUserWildCardLimits: one queue of the old wildcard configuration -/

def wildNew (n : NewCfg) (p : Path) : Triple :=
  match aget n.userWild p with | none => dflt | some nl => t3w nl

def wildFires (L1 : List (Path × List (String × Limit))) (n : NewCfg) (e : Path × Limit) : Bool :=
  (!ahas L1 e.1 || !ahas n.userLimits e.1) &&
    match aget n.userWild e.1 with
    | none => true
    | some nl => e.2.maxApps != nl.maxApps || !equals e.2.maxRes nl.maxRes false

section
variable (n : NewCfg) (m : Mgr) (e : Path × Limit)

/-- both branches of the step are one wildcard-only limit change -/
theorem wildStep_eq :
    wildStep n m e =
      if wildFires m.userLimits n e = true then
        mapUsers m (fun u ut => if notNamedInBoth m n e.1 u = true
          then { ut with qt := setLimit m.userWild true ut.qt e.1 (wildNew n e.1).1 (wildNew n e.1).2.1 (wildNew n e.1).2.2 true } else ut)
      else m := by
  unfold wildStep wildFires wildNew
  simp only
  cases aget n.userWild e.1 with
  | none => simp only [Bool.and_true]; rfl
  | some nl => rfl

def wildTree (w : List (Path × Limit)) (L1 : List (Path × List (String × Limit))) (n : NewCfg) (e : Path × Limit) (u : String) (t : Tree) : Tree :=
  if (wildFires L1 n e && (!(aget2 n.userLimits e.1 u).isSome || !(aget2 L1 e.1 u).isSome)) = true
  then setLimit w true t e.1 (wildNew n e.1).1 (wildNew n e.1).2.1 (wildNew n e.1).2.2 true else t

theorem utree_wildStep (u : String) :
    utree (wildStep n m e) u = (utree m u).map (wildTree m.userWild m.userLimits n e u) := by
  rw [wildStep_eq]
  unfold wildTree
  cases wildFires m.userLimits n e with
  | false => simp
  | true =>
    rw [if_pos rfl, utree_mapUsers]
    unfold utree notNamedInBoth
    cases aget m.users u with
    | none => rfl
    | some ut => simp only [Option.map_some, Bool.true_and]; split <;> rfl

theorem wildStep_frame :
    (wildStep n m e).userWild = m.userWild ∧ (wildStep n m e).userLimits = m.userLimits ∧ (wildStep n m e).groups = m.groups := by
  rw [wildStep_eq]; split <;> exact ⟨rfl, rfl, rfl⟩

end

/-! ### applyWildCardUserLimits -/

def wildStepFn (n : NewCfg) (m : Mgr) (e : Path × Limit) : Mgr :=
  mapUsers m (fun u ut => if (aget2 n.userLimits e.1 u).isSome then ut
                          else { ut with qt := setLimit m.userWild true ut.qt e.1 e.2.maxRes e.2.maxApps true false })

theorem applyWild_frame (n : NewCfg) (l : List (Path × Limit)) (m : Mgr) :
    (l.foldl (wildStepFn n) m).groups = m.groups ∧ (∀ u, ahas (l.foldl (wildStepFn n) m).users u = ahas m.users u) ∧
    ∀ u app, linkOf (l.foldl (wildStepFn n) m) u app = linkOf m u app := by
  induction l generalizing m with
  | nil => exact ⟨rfl, fun _ => rfl, fun _ _ => rfl⟩
  | cons e l ih =>
    obtain ⟨i1, i2, i3⟩ := ih (wildStepFn n m e)
    refine ⟨i1, fun u => (i2 u).trans ?_, fun u app => (i3 u app).trans ?_⟩
    · unfold wildStepFn
      rw [ahas_eq, ahas_eq, aget_mapUsers]
      cases aget m.users u <;> rfl
    · unfold linkOf wildStepFn
      rw [aget_mapUsers]
      cases aget m.users u with
      | none => rfl
      | some ut => simp only [Option.map_some]; split <;> rfl

theorem applyWild_eq (m : Mgr) (n : NewCfg) : applyWildCardUserLimits m n = n.userWild.foldl (wildStepFn n) m := rfl

theorem utree_wildStepFn (n : NewCfg) (m : Mgr) (e : Path × Limit) (u : String) :
    utree (wildStepFn n m e) u = (utree m u).map (fun t =>
      if (aget2 n.userLimits e.1 u).isSome then t else setLimit m.userWild true t e.1 e.2.maxRes e.2.maxApps true false) := by
  unfold wildStepFn
  rw [utree_mapUsers]; unfold utree
  cases aget m.users u with
  | none => rfl
  | some ut => simp only [Option.map_some]; split <;> rfl

end Yk.Ugm
