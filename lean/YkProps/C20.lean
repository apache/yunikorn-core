/-
  C20 — Event history returns exactly the requested, gap-free range.
  Property theorems only.  `Ring` is the field-for-field model of eventRingBuffer, `Hist` the abstract
  specification (the list of all events ever added; ids [lowest, length) available).
-/
import YkProofs.Ring
import YkProofs.Stream
namespace Yk.C20
open Yk

/-- every run of adds and resizes (capacity > 0, as getRingBufferCapacity guarantees) -/
def run (cap : Nat) (ops : List RingOp) : Ring × Hist :=
  (ops.foldl Ring.step (Ring.new cap), ops.foldl Hist.step (Hist.new cap))

def validOps (ops : List RingOp) : Prop := ∀ n, RingOp.resize n ∈ ops → 0 < n

/-- Every recorded event gets the next consecutive id; the buffer and the specification agree on the id
    counter, the lowest available id and the capacity after every history. -/
theorem ids_consecutive (cap : Nat) (hc : 0 < cap) (ops : List RingOp) (hv : validOps ops) :
    (run cap ops).1.id = (run cap ops).2.all.length ∧
    (run cap ops).1.lowestId = (run cap ops).2.lowest ∧
    (run cap ops).1.capacity = (run cap ops).2.cap := by
  have h := ring_rel_run cap hc ops hv
  exact ⟨h.id_eq, h.lowest_eq, h.cap_eq⟩

/-- The history always holds the most recent events up to its capacity, also across resizes:
    the available ids are a suffix of all ids, never more than the capacity, and an `add` or `resize`
    drops only what exceeds the capacity in force. -/
theorem holds_most_recent (cap : Nat) (hc : 0 < cap) (ops : List RingOp) (hv : validOps ops) :
    let h := (run cap ops).2
    h.lowest ≤ h.all.length ∧ h.all.length - h.lowest ≤ h.cap ∧
    (∀ ev, (h.add ev).all.length - (h.add ev).lowest = min (h.all.length - h.lowest + 1) h.cap) ∧
    (∀ n, 0 < n → (h.resize n).all.length - (h.resize n).lowest = min (h.all.length - h.lowest) n) := by
  intro h
  have r := ring_rel_run cap hc ops hv
  have h1 : h.lowest ≤ h.all.length := by
    have := r.lo_le; rw [r.id_eq, r.lowest_eq] at this; exact this
  have h2 : h.all.length - h.lowest ≤ h.cap := by
    have := r.win; rw [r.id_eq, r.lowest_eq, r.cap_eq] at this; exact this
  refine ⟨h1, h2, ?_, ?_⟩
  · intro ev
    simp only [Hist.add, List.length_append, List.length_singleton]
    split <;> omega
  · intro n _
    exact sub_max_sub _ _ _

/-- A query (start, count) on the buffer returns exactly what the specification says: nothing plus the
    available id range when start is outside it, otherwise the events start, start+1, … up to
    min(count, capacity) or the newest, in id order without gaps or repeats. -/
theorem get_refines (cap : Nat) (hc : 0 < cap) (ops : List RingOp) (hv : validOps ops) (start count : Nat) :
    (run cap ops).1.getEventsFromID start count =
      (((run cap ops).2.get start count).1.map some, ((run cap ops).2.get start count).2) :=
  ring_get_refines (ring_rel_run cap hc ops hv) start count

/-- the specification answer is gap-free: element i is the event with id start+i -/
theorem spec_get_gap_free (h : Hist) (start count i : Nat) (hi : i < (h.get start count).1.length) :
    (h.get start count).1[i]? = h.all[start + i]? := by
  unfold Hist.get at hi ⊢
  split
  · rename_i hc; rw [if_pos hc] at hi; simp at hi
  · rename_i hc; rw [if_neg hc] at hi
    simp only [List.length_take, List.length_drop] at hi
    simp only [List.getElem?_take, List.getElem?_drop]
    rw [if_pos (by omega)]

/-- GetRecentEvents returns the last min(count, available) events -/
theorem recent_refines (cap : Nat) (hc : 0 < cap) (ops : List RingOp) (hv : validOps ops) (count : Nat) :
    let h := (run cap ops).2
    (run cap ops).1.getRecentEvents count =
      ((h.all.drop (h.all.length - min count (h.all.length - h.lowest)))).map some :=
  ring_recent_refines (ring_rel_run cap hc ops hv) count

/-- Event store: a batch never exceeds the size in force when the batch was started, and nothing is dropped
    while fewer than that are stored. -/
theorem store_bound (s : Store) (hs : s.idx ≤ s.events.length) (ev : Ev) :
    (s.store ev).idx ≤ (s.store ev).events.length ∧ (s.store ev).events.length = s.events.length ∧
    (s.idx < s.events.length → (s.store ev).idx = s.idx + 1) ∧
    (s.collect.1.length = s.idx) := by
  have hc : s.collect.1.length = s.idx := by simp [Store.collect]; omega
  unfold Store.store
  split
  next hfull =>
    rw [beq_iff_eq] at hfull
    exact ⟨hs, rfl, fun h => by omega, hc⟩
  next hfull =>
    rw [beq_iff_eq] at hfull
    have hlt : s.idx + 1 ≤ (s.events.set s.idx (some ev)).length := by rw [List.length_set]; omega
    exact ⟨hlt, List.length_set .., fun _ => rfl, hc⟩

/-- Stream set-up, every interleaving of the event loop (add; publish per event) with CreateEventStream
    (register; read history): the subscriber receives the history followed by every later event once and in
    order — PROVIDED no event published to the new stream is older than the oldest history event that was read
    (always true when no history is requested).  `stream_order_partial` because the unrestricted statement is
    false for the code: see `stream_order_refuted` and KNOWN_FINDINGS (C20 stream-order). -/
theorem stream_order_partial (count cap : Nat) (sch : List SStep) (s : SState)
    (h : srun count cap {} sch = some s)
    (hc : min count cap = 0 ∨ ∀ e ∈ s.localQ, s.histLen < e + min count cap) :
    streamOK s = true :=
  streamOK_of_inv count cap s (sinv_run count cap sch {} s (sinv_init count cap) h) hc

/-- The unrestricted statement fails: register; two events added and published; history of 1 read:
    the subscriber gets event 2, then 1, then 2 again (replayed on the real code through the yield hook). -/
theorem stream_order_refuted :
    ∃ sch s, srun 1 10 {} sch = some s ∧ consumerOut s = [2, 1, 2] ∧ streamOK s = false :=
  ⟨[.reg, .add, .pub, .add, .pub, .hist], _, rfl, by decide, by decide⟩

example : validOps [.add 1, .resize 3, .add 2] := by
  intro n h; simp at h; omega
example : ((run 2 [.add 1, .add 2, .add 3]).1.getEventsFromID 1 5).1 = [some 2, some 3] := by decide

end Yk.C20
