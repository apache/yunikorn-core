/-
  C04 — Allocation protocol seen by the shim is exactly-once and well-formed.
  `ShimView.step` (YkModel/Shim.lean) is the monitor the driver runs on the SI traffic recorded from the real core;
  a trace is well-formed iff `ShimView.run {} trace` is `some _`.  The theorems say what acceptance by the monitor
  guarantees, for every trace.
-/
import YkProofs.Shim
namespace Yk.C04
open Yk Yk.ShimView

/-- An allocation key is bound at most once until it is released, and never outstanding and bound at once:
    in every view reached by an accepted trace the bound keys are pairwise distinct, the outstanding keys are
    pairwise distinct, and no key is both. -/
theorem exactly_once (trace : List ShimMsg) (v : ShimView) (h : run {} trace = some v) :
    (v.bound.map (·.1)).Nodup ∧ (v.asks.map (·.1)).Nodup ∧ ∀ k, k ∈ v.asks.map (·.1) → k ∉ v.bound.map (·.1) :=
  (run_inv step_inv ⟨KInv.nil, List.nodup_nil, List.nodup_nil⟩ h).1

/-- Every new allocation the core announces is for an ask the shim submitted that is still outstanding, whose
    application is accepted and not removed, on a node the shim registered and has not removed, with a key that is not
    bound — or it is the one echo of an allocation the shim itself reported as bound. -/
theorem newAlloc_accepted_iff (v : ShimView) (key app node : String) :
    (v.step (.newAlloc key app node)).isSome = true ↔
      ((key, node) ∈ v.reported ∨
       ((key, app) ∈ v.asks ∧ app ∈ v.apps ∧ node ∈ v.nodes ∧ key ∉ v.bound.map (·.1))) := by
  simp only [step, isSome_ite_some, isSome_ite_none, Option.isSome_some, and_true, Bool.not_eq_true', Bool.not_eq_false,
    any_ask_iff, any_fst_iff, List.contains_iff_mem]

/-- Every release the core announces names an allocation still bound or an ask still outstanding; a release that needs
    the shim's confirmation may be repeated (it leaves the allocation bound until the shim confirms). -/
theorem release_accepted_iff (v : ShimView) (key : String) (c : Bool) :
    (v.step (.release key c)).isSome = true ↔ (key ∈ v.asks.map (·.1) ∨ key ∈ v.bound.map (·.1)) :=
  by simp only [step, isSome_ite_some, isSome_ite_none, Option.isSome_some, and_true, or_true, Bool.not_eq_true',
    Bool.not_eq_false, keyKnown_iff]

theorem release_needing_confirmation_repeatable (v v' : ShimView) (key : String) (h : v.step (.release key true) = some v') :
    (v'.step (.release key true)).isSome = true ∧ v'.bound = v.bound ∧ v'.asks = v.asks := by
  have hk := (release_accepted_iff v key true).mp (by rw [h]; rfl)
  simp only [step, (keyKnown_iff v key).mpr hk, Bool.not_true, Bool.false_eq_true, if_false, if_true, Option.some.injEq] at h
  subst h
  exact ⟨(release_accepted_iff _ key true).mpr hk, rfl, rfl⟩

/-- Every submitted application and node receives at most one answer per submission: an answer is accepted only
    while a submission is waiting for one, and it consumes exactly that one. -/
theorem one_answer_per_submission (v v' : ShimView) (app : String) :
    (v.step (.appAccepted app) = some v' ∨ v.step (.appRejected app) = some v') →
      app ∈ v.appsSubmitted ∧ v'.appsSubmitted.length + 1 = v.appsSubmitted.length := by
  intro h
  have hm : app ∈ v.appsSubmitted := by
    apply Decidable.by_contra
    intro hm
    rcases h with h | h <;> simp [step, hm] at h
  have hl : (v.appsSubmitted.erase app).length + 1 = v.appsSubmitted.length := by
    have := List.length_pos_of_mem hm
    rw [List.length_erase_of_mem hm]; omega
  rcases h with h | h
  all_goals
    simp only [step, List.contains_eq_mem, hm, decide_true, Bool.not_true, Bool.false_eq_true, if_false, Option.some.injEq] at h
    subst h
    exact ⟨hm, hl⟩

/-- A rejected item leaves no trace. -/
theorem rejected_leaves_no_trace (v v' : ShimView) (app : String) (h : v.step (.appRejected app) = some v') :
    v'.apps = v.apps ∧ v'.asks = v.asks ∧ v'.bound = v.bound ∧ v'.nodes = v.nodes := by
  simp only [step] at h
  split at h
  · cases h
  · cases h; exact ⟨rfl, rfl, rfl, rfl⟩

/-- In every view reached by an accepted trace an application and a node are registered at most once, however often
    they are submitted, answered, removed and submitted again. -/
theorem registered_once (trace : List ShimMsg) (v : ShimView) (h : run {} trace = some v) :
    v.apps.Nodup ∧ v.nodes.Nodup :=
  (run_inv step_inv ⟨KInv.nil, List.nodup_nil, List.nodup_nil⟩ h).2

/-- An allocation the core announces on its own (not the echo of one the shim reported) is bound, in the view that
    accepts it, to an application and a node that are registered there, and its ask is no longer outstanding. -/
theorem newAlloc_lands_on_registered (v v' : ShimView) (key app node : String)
    (hr : v.reported.contains (key, node) = false) (hs : v.step (.newAlloc key app node) = some v') :
    (key, app, node) ∈ v'.bound ∧ app ∈ v'.apps ∧ node ∈ v'.nodes ∧ key ∉ v'.asks.map (·.1) := by
  obtain hrep | ⟨hk, ha, hn, hb⟩ := (newAlloc_accepted_iff v key app node).mp (by rw [hs]; rfl)
  · simp [hrep] at hr
  · rw [← any_fst_iff, Bool.not_eq_true] at hb
    simp only [step, hr, (any_ask_iff _ _ _).mpr hk, List.contains_iff_mem.mpr ha, List.contains_iff_mem.mpr hn, hb,
      Bool.not_true, Bool.false_eq_true, if_false, Option.some.injEq] at hs
    subst hs
    exact ⟨List.mem_cons_self, ha, hn, not_mem_map_filter_ne _ _ _⟩

/-- non-vacuity: a well-formed conversation, and three ill-formed ones -/
example : (run {} [.nodeCreate "n1", .nodeAccepted "n1", .appAdd "a", .appAccepted "a", .ask "k1" "a",
                   .newAlloc "k1" "a" "n1", .release "k1" true, .release "k1" true, .releaseKey "k1"]).isSome = true := by decide +kernel
example : run {} [.nodeCreate "n1", .nodeAccepted "n1", .appAdd "a", .appAccepted "a", .ask "k1" "a",
                  .newAlloc "k1" "a" "n1", .newAlloc "k1" "a" "n1"] = none := by decide +kernel
example : run {} [.nodeCreate "n1", .nodeAccepted "n1", .appAdd "a", .appAccepted "a", .newAlloc "k1" "a" "n1"] = none := by decide +kernel
example : run {} [.appAdd "a", .appAccepted "a", .appAccepted "a"] = none := by decide +kernel

end Yk.C04
