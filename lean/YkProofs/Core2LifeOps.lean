/-
  `LifeInv` and `NoPendInv` (Core2Life.lean) are preserved by the node requests and foreign allocations, the
  reservations, `cleanup`, `queuesAdd`, `appAdd` — they touch nothing the invariants read: `AppsSame`, `NodesSame` —, by
  `markReleased`, `ask`, `schedAlloc`, and by `releaseKey`, the release without a termination type (`rel1` then `rel2`),
  whose record function `relApp` moves the state as `relAppT .stopped` does (`LifeB.relSt`).
-/
import YkProofs.Core2LifeRel
namespace Yk
open Res Core Life

namespace LifeA

/-! ### states that differ in nothing the life-cycle invariants look at -/

def ItemSame (i j : CItem) : Prop :=
  j.res = i.res ∧ j.ph = i.ph ∧ j.bound = i.bound ∧ j.inReq = i.inReq ∧ j.allocated = i.allocated

theorem ItemSame.refl (i : CItem) : ItemSame i i := ⟨rfl, rfl, rfl, rfl, rfl⟩

theorem ItemSame.outstanding {i j : CItem} (h : ItemSame i j) : j.outstanding = i.outstanding := by
  obtain ⟨_, _, _, h4, h5⟩ := h
  unfold CItem.outstanding; rw [h4, h5]

/-- application `b` is application `a` with some items dropped, the others changed in irrelevant fields only -/
def AppSame (a b : CApp) : Prop :=
  b.live = a.live ∧ b.state = a.state ∧ ∀ j ∈ b.items, ∃ i ∈ a.items, ItemSame i j

theorem AppSame.refl (a : CApp) : AppSame a a := ⟨rfl, rfl, fun j hj => ⟨j, hj, ItemSame.refl j⟩⟩

theorem AppSame.life {a b : CApp} (h : AppSame a b) (ha : AppLife a) : AppLife b :=
  ha.of_items h.1 h.2.1 (fun j hj => by
    obtain ⟨i, hi, hr, hp, hb, _⟩ := h.2.2 j hj
    exact ⟨i, hi, hr, hp, fun hjb => hb ▸ hjb⟩)

theorem AppSame.nopend {a b : CApp} (h : AppSame a b) (ha : AppNoPend a) : AppNoPend b :=
  ha.of_items h.1 h.2.1 (fun j hj => by
    obtain ⟨i, hi, hs⟩ := h.2.2 j hj
    exact ⟨i, hi, fun ho => hs.outstanding ▸ ho⟩)

def AppsSame (s t : Core) : Prop :=
  ∀ b ∈ t.apps, (∃ a ∈ s.apps, AppSame a b) ∨ (b.items = [] ∧ (b.live = true → terminated b.state = false))

/-- of the nodes the invariants read one thing, and `t` has it when `s` has -/
def NodesSame (s t : Core) : Prop := PosNodes s.nodes → PosNodes t.nodes

/-- `LifeInv` reads `live`, `state`, the items' `res`, `ph`, `bound` and the sizes of the non-foreign node entries;
    `NoPendInv` reads `live`, `state` and the items' `inReq`, `allocated` -/
theorem life_of_same {s t : Core} (h : AppsSame s t ∧ NodesSame s t) (hl : LifeInv s) : LifeInv t := by
  refine lifeInv_of (fun b hb => ?_) (h.2 hl.posNode)
  rcases h.1 b hb with ⟨a, ham, hs⟩ | ⟨he, ht⟩
  · exact hs.life (appLife_of hl ham)
  · exact (AppLife.of_no_items (by simp [he]) ht).1

theorem nopend_of_same {s t : Core} (h : AppsSame s t ∧ NodesSame s t) (hp : NoPendInv s) : NoPendInv t := by
  refine noPendInv_of (fun b hb => ?_)
  rcases h.1 b hb with ⟨a, ham, hs⟩ | ⟨he, ht⟩
  · exact hs.nopend (appNoPend_of hp ham)
  · exact (AppLife.of_no_items (by simp [he]) ht).2

theorem same_keeps {s t : Core} (h : AppsSame s t ∧ NodesSame s t) (hl : LifeInv s) :
    LifeInv t ∧ (NoPendInv s → NoPendInv t) :=
  ⟨life_of_same h hl, nopend_of_same h⟩

theorem AppsSame.of_eq {s t : Core} (h : t.apps = s.apps) : AppsSame s t := by
  intro b hb; rw [h] at hb; exact Or.inl ⟨b, hb, AppSame.refl b⟩

theorem AppsSame.of_map {s t : Core} (g : CApp → CApp) (h : t.apps = s.apps.map g) (hg : ∀ a, AppSame a (g a)) :
    AppsSame s t := by
  intro b hb; rw [h] at hb
  obtain ⟨a, ha, rfl⟩ := List.mem_map.mp hb
  exact Or.inl ⟨a, ha, hg a⟩

theorem NodesSame.of_eq {s t : Core} (h : t.nodes = s.nodes) : NodesSame s t := fun hp => h ▸ hp

theorem NodesSame.of_map {s t : Core} (g : CNode → CNode) (h : t.nodes = s.nodes.map g) (hg : AddsPos g) : NodesSame s t :=
  fun hp => h ▸ hp.map hg

theorem NodesSame.of_upd {s t : Core} (id : String) (f : CNode → CNode) (h : t.nodes = updNs s.nodes id f) (hf : AddsPos f) :
    NodesSame s t :=
  .of_map _ h hf.onNodeId

theorem same_of_eq {s t : Core} (ha : t.apps = s.apps) (hn : t.nodes = s.nodes) : AppsSame s t ∧ NodesSame s t :=
  ⟨AppsSame.of_eq ha, NodesSame.of_eq hn⟩

/-! ### node requests, foreign allocations -/

theorem nodeCreate_same (s : Core) (id : String) (cap : Res) (b : Bool) :
    AppsSame s (s.nodeCreate id cap b) ∧ NodesSame s (s.nodeCreate id cap b) := by
  unfold nodeCreate
  split
  · exact same_of_eq rfl rfl
  · refine ⟨AppsSame.of_eq rfl, fun hp n hn x hx => ?_⟩
    have hn' : n ∈ s.nodes ++ [_] := hn
    rcases List.mem_append.mp hn' with h | h
    · exact hp n h x hx
    · rw [List.mem_singleton] at h; subst h; cases hx

theorem nodeUpdate_same (s : Core) (id : String) (cap : Res) :
    AppsSame s (s.nodeUpdate id cap) ∧ NodesSame s (s.nodeUpdate id cap) := by
  unfold nodeUpdate
  split
  · exact same_of_eq rfl rfl
  · split
    · exact same_of_eq rfl rfl
    · exact ⟨AppsSame.of_eq rfl, NodesSame.of_upd id _ rfl (.of_sub (fun _ _ hx => hx))⟩

theorem nodeSchedulable_same (s : Core) (id : String) (b : Bool) :
    AppsSame s (s.nodeSchedulable id b) ∧ NodesSame s (s.nodeSchedulable id b) :=
  ⟨AppsSame.of_eq rfl, NodesSame.of_upd id _ rfl (.of_sub (fun _ _ hx => hx))⟩

theorem foreignAdd_same (s : Core) (key node : String) (res : Res) :
    AppsSame s (s.foreignAdd key node res) ∧ NodesSame s (s.foreignAdd key node res) := by
  unfold foreignAdd
  split
  · exact same_of_eq rfl rfl
  · split
    · exact same_of_eq rfl rfl
    · refine ⟨AppsSame.of_eq rfl, NodesSame.of_upd node _ rfl (fun n x hx hf => ?_)⟩
      rcases List.mem_append.mp hx with h | h
      · exact Or.inl h
      · rw [List.mem_singleton] at h; rw [h] at hf; cases hf

theorem foreignRemove_same (s : Core) (key : String) :
    AppsSame s (s.foreignRemove key) ∧ NodesSame s (s.foreignRemove key) := by
  unfold foreignRemove
  split
  · exact same_of_eq rfl rfl
  · split
    · exact same_of_eq rfl rfl
    · split
      · exact same_of_eq rfl rfl
      · exact ⟨AppsSame.of_eq rfl, NodesSame.of_upd _ _ rfl (.of_sub (fun _ _ hx => (List.mem_filter.mp hx).1))⟩

/-! ### reservations -/

theorem resv_same {s t : Core} (app node : String) (fa : List (String × String) → List (String × String))
    (fn : CNode → List String)
    (ha : t.apps = s.apps.map (fun x => if (x.live && x.id == app) = true then { x with reservations := fa x.reservations } else x))
    (hn : t.nodes = s.nodes.map (fun n => if (n.id == node) = true then { n with reservations := fn n } else n)) :
    AppsSame s t ∧ NodesSame s t := by
  refine ⟨AppsSame.of_map _ ha ?_, NodesSame.of_upd node _ hn (.of_sub (fun _ _ hx => hx))⟩
  intro a; split
  · exact ⟨rfl, rfl, fun j hj => ⟨j, hj, ItemSame.refl j⟩⟩
  · exact AppSame.refl a

theorem reserve_same (s : Core) (app key node : String) :
    AppsSame s (s.reserve app key node) ∧ NodesSame s (s.reserve app key node) := by
  unfold reserve
  cases s.findApp app with
  | none => exact same_of_eq rfl rfl
  | some a =>
    by_cases hr : (a.reservations.any (·.1 == key)) = true
    · simp only [hr, if_true]; exact same_of_eq rfl rfl
    · simp only [hr]
      exact resv_same app node (fun r => r ++ [(key, node)]) (fun n => n.reservations ++ [key]) rfl rfl

theorem unreserve_same (s : Core) (app key node : String) :
    AppsSame s (s.unreserve app key node) ∧ NodesSame s (s.unreserve app key node) := by
  unfold unreserve
  cases s.findApp app with
  | none => exact same_of_eq rfl rfl
  | some a =>
    by_cases hr : (!(a.reservations.contains (key, node))) = true
    · simp only [hr, if_true]; exact same_of_eq rfl rfl
    · simp only [hr]
      exact resv_same app node (fun r => r.filter (· != (key, node))) (fun n => n.reservations.filter (· != key)) rfl rfl

/-! ### `cleanup`, `queuesAdd`, `appAdd` -/

theorem cleanup_same (s : Core) : AppsSame s s.cleanup ∧ NodesSame s s.cleanup :=
  ⟨fun b hb => Or.inl ⟨b, (List.mem_filter.mp hb).1, AppSame.refl b⟩, NodesSame.of_eq rfl⟩

/-- side condition of `appAdd`: the new application is not submitted in a terminated state -/
theorem appAdd_same (s : Core) (a : Option CApp) (nq : List CQueue) (hst : ∀ x, a = some x → terminated x.state = false) :
    AppsSame s (s.appAdd a nq) ∧ NodesSame s (s.appAdd a nq) := by
  unfold appAdd
  dsimp only
  split
  · exact same_of_eq rfl rfl
  · rename_i x
    split
    · exact same_of_eq rfl rfl
    · refine ⟨?_, NodesSame.of_eq rfl⟩
      intro b hb
      have hb' : b ∈ s.apps ++ [_] := hb
      rcases List.mem_append.mp hb' with h | h
      · exact Or.inl ⟨b, h, AppSame.refl b⟩
      · rw [List.mem_singleton] at h; subst h
        exact Or.inr ⟨rfl, fun _ => hst x rfl⟩

end LifeA

open LifeA

theorem life_queuesAdd (s : Core) (nq : List CQueue) (h : LifeInv s) : LifeInv (s.queuesAdd nq) :=
  life_of_same (s := s) (t := s.queuesAdd nq) (same_of_eq rfl rfl) h

theorem nopend_queuesAdd (s : Core) (nq : List CQueue) (h : NoPendInv s) : NoPendInv (s.queuesAdd nq) :=
  nopend_of_same (s := s) (t := s.queuesAdd nq) (same_of_eq rfl rfl) h

/-- the shim asks for a release, or the scheduler preempts: flags only -/
theorem life_nopend_markReleased (c : Core) (app key : String) (preempted : Bool) (hw : CoreWF c) (h : LifeInv c) :
    LifeInv (c.markReleased app key preempted) ∧ (NoPendInv c → NoPendInv (c.markReleased app key preempted)) := by
  have hg : ItemIrrel (fun x : CItem => if preempted = true then { x with preempted := true } else { x with released := true }) := by
    cases preempted
    · exact itemIrrel_released
    · exact itemIrrel_preempted
  rcases shape_markReleased c app key preempted hw with e | ⟨a, i, _, _, sh⟩
  · rw [e]; exact ⟨h, id⟩
  · exact sh.life_flag hw h (itemIrrel_ite (·.key == key) _ hg) rfl rfl rfl

namespace LifeA

/-! ### a new ask -/

theorem fire_run_completed {st : String} (h : fireState st .run = "Completed") : st = "Completed" :=
  run_completed st h

theorem askState_safe {st : String} (hnt : terminated st = false) :
    askState st ≠ "Completing" ∧ terminated (askState st) = false := by
  unfold askState
  by_cases h : (st == "New" || st == "Completing") = true
  · rw [if_pos h]
    refine ⟨run_ne_completing st, ?_⟩
    cases ht : terminated (fireState st .run) with
    | false => rfl
    | true => rw [run_terminated st ht] at hnt; exact hnt
  · rw [if_neg h]
    refine ⟨?_, hnt⟩
    intro hc; subst hc; exact h (by decide)

end LifeA

/-- side condition `hr`: the requested resource is a Go map (unique keys) -/
theorem life_nopend_ask (s : Core) (app key : String) (res : Res) (ph : Bool) (tg reqNode : String) (hw : CoreWF s)
    (h : LifeInv s) (hr : wf res = true) :
    LifeInv (s.ask app key res ph tg reqNode).1 ∧ (NoPendInv s → NoPendInv (s.ask app key res ph tg reqNode).1) := by
  rcases shape_ask s app key res ph tg reqNode hw with he | ⟨a, t, he, sh⟩
  · rw [he]; exact ⟨h, id⟩
  · have hz := ask_true_sgtz he
    rw [he]
    obtain ⟨ham, hl, _⟩ := sh.mem
    obtain ⟨hnc, hnt⟩ := askState_safe (h.termGone a ham hl)
    have hpos : Pos (askedApp a key res ph tg reqNode a).items := by
      intro j hj
      rcases List.mem_append.mp hj with hj | hj
      · exact h.pos a ham hl j hj
      · rw [List.mem_singleton] at hj; rw [hj]; exact posRes_of_sgtz hr hz
    have hst : Life.Step a (askedApp a key res ph tg reqNode a) := .safe hnc hnt
    exact sh.life hw h (hst.life_kept (appLife_of h ham) hl hpos hl hnt) .self

/-! ### the scheduler binds an ask -/

namespace LifeA

theorem bindApp_terminated {key node : String} {i : CItem} {a : CApp}
    (h : terminated (bindApp key node i a).state = true) : terminated a.state = true := by
  rcases bindApp_state key node i a with ⟨h1, _⟩ | h1
  · rw [← h1]; exact h
  · rw [h1] at h; exact run_terminated _ h

/-- a real allocation fires RunApplication; a placeholder may keep a Completing application Completing, and a bound
    placeholder is not a real allocation (so `stay` carries implications, not `Loses`) -/
theorem bindApp_step (key node : String) (i : CItem) (a : CApp) (hwa : AppWF a) (hnt : terminated a.state = false)
    (him : i ∈ a.items) (hik : i.key = key) : Life.Step a (bindApp key node i a) := by
  rcases bindApp_state key node i a with ⟨h1, hph⟩ | h1
  · refine .stay h1 (fun hr y hy hyb => ?_) (fun ht => by rw [hnt] at ht; cases ht) (fun hk y hy => ?_)
    · rw [bindApp_items] at hy
      obtain ⟨x, hx, hc | hc⟩ := mem_updItem hy
      · rw [hc.2, itemKeys_eq hwa.itemKeys hx him (hc.1.trans hik.symm)]; exact hph
      · rw [hc.2] at hyb ⊢; exact hr x hx hyb
    · rw [bindApp_items] at hy
      obtain ⟨x, hx, hc | hc⟩ := mem_updItem hy
      · rw [hc.2]; unfold CItem.outstanding; simp
      · rw [hc.2]; exact hk x hx
  · exact .ofRun h1 hnt

theorem bindApp_life {key node : String} {i : CItem} {a : CApp} (hwa : AppWF a) (hla : AppLife a) (hlv : a.live = true)
    (him : i ∈ a.items) (hik : i.key = key) :
    AppLife (bindApp key node i a) ∧ (AppNoPend a → AppNoPend (bindApp key node i a)) := by
  have hnt : terminated (bindApp key node i a).state = false := by
    cases ht : terminated (bindApp key node i a).state with
    | false => rfl
    | true => have := bindApp_terminated ht; rw [hla.termGone hlv] at this; cases this
  refine (bindApp_step key node i a hwa (hla.termGone hlv) him hik).life_kept hla hlv ?_ ((bindApp_live ..).trans hlv) hnt
  intro y hy
  rw [bindApp_items] at hy
  obtain ⟨x, hx, hc | hc⟩ := mem_updItem hy <;> rw [hc.2] <;> exact hla.pos hlv x hx

end LifeA

theorem life_nopend_schedAlloc (s s' : Core) (app key node : String) (hw : CoreWF s) (h : LifeInv s)
    (hs : s.schedAlloc app key node = some s') : LifeInv s' ∧ (NoPendInv s → NoPendInv s') := by
  obtain ⟨a, n, i, hfind, _, hitem, _, rfl⟩ := schedAlloc_some hs
  have sh := shape_bindAsk s app key node a i hw hfind
  obtain ⟨ham, hl, _⟩ := sh.mem
  obtain ⟨him, hik, _, _⟩ := find_outstanding hitem
  have hn : AddsPos (addAllocNode { key := key, app := app, res := i.res, foreign := false, ph := i.ph }) :=
    LifeB.addsPos_addAllocNode (h.pos a ham hl i him)
  exact sh.life hw h (bindApp_life (hw.app ham hl) (appLife_of h ham) hl him hik) hn.onNodeId

/-! ### `releaseKey` (`rel1` then `rel2`) -/

namespace LifeA

theorem relApp_live (key : String) (i : CItem) (a : CApp) :
    (relApp key i a).live = !(terminated (relApp key i a).state) := by
  unfold relApp
  cases i.ph <;> rfl

/-- `relApp` moves the state as `relAppT` does for a release that is not a replacement -/
theorem relApp_state (key : String) (i : CItem) (a : CApp) : (relApp key i a).state = LifeB.relSt .stopped i a := by
  unfold relApp LifeB.relSt
  cases i.ph <;> simp

theorem relApp_relAppT (key : String) (i : CItem) (a : CApp) :
    (relApp key i a).state = (relAppT .stopped key i a).state ∧
    (relApp key i a).pending = (relAppT .stopped key i a).pending ∧
    (relApp key i a).allocated = (relAppT .stopped key i a).allocated ∧
    (relApp key i a).allocatedPh = (relAppT .stopped key i a).allocatedPh := by
  rw [relApp_state, LifeB.relAppT_state, relApp_pending, relAppT_pending, relApp_allocated, relAppT_allocated,
    relApp_allocatedPh, relAppT_allocatedPh]
  exact ⟨rfl, rfl, rfl, rfl⟩

/-- A Failing application whose last placeholder goes is Failed (and leaves the partition) when it holds no real
    allocation; with a real allocation left it stays Failing and live. -/
theorem relApp_failing_ph (key : String) (i : CItem) (a : CApp) (hph : i.ph = true) (hst : a.state = "Failing")
    (hz : isZero (some (relApp key i a).allocatedPh) = true) :
    (isZero (some a.allocated) = true → (relApp key i a).state = "Failed" ∧ (relApp key i a).live = false) ∧
    (isZero (some a.allocated) = false → (relApp key i a).state = "Failing" ∧ (relApp key i a).live = true) := by
  obtain ⟨e1, _, _, e4⟩ := relApp_relAppT key i a
  have hs := LifeB.relAppT_failing_ph .stopped key i a hph hst
  rw [← e1, ← e4, hz] at hs
  constructor <;> intro hal <;> rw [hal] at hs
  · exact left_of_failed (relApp_live key i a) (by simpa using hs)
  · exact live_of_failing (relApp_live key i a) (by simpa using hs)

theorem relApp_failing_ph_left (key : String) (i : CItem) (a : CApp) (hph : i.ph = true) (hst : a.state = "Failing")
    (hz : isZero (some (relApp key i a).allocatedPh) = false) :
    (relApp key i a).state = "Failing" ∧ (relApp key i a).live = true := by
  obtain ⟨e1, _, _, e4⟩ := relApp_relAppT key i a
  have hs := LifeB.relAppT_failing_ph .stopped key i a hph hst
  rw [← e1, ← e4, hz] at hs
  exact live_of_failing (relApp_live key i a) (by simpa using hs)

/-- The last real allocation of a Failing application (nothing pending) makes it Failed, and not live, when it holds no
    placeholder; with a placeholder left it stays Failing and live. -/
theorem relApp_failing_real (key : String) (i : CItem) (a : CApp) (hph : i.ph = false) (hst : a.state = "Failing")
    (hp : isZero (some a.pending) = true) (hz : isZero (some (relApp key i a).allocated) = true) :
    (isZero (some a.allocatedPh) = true → (relApp key i a).state = "Failed" ∧ (relApp key i a).live = false) ∧
    (isZero (some a.allocatedPh) = false → (relApp key i a).state = "Failing" ∧ (relApp key i a).live = true) := by
  obtain ⟨e1, _, e3, _⟩ := relApp_relAppT key i a
  have hs := LifeB.relAppT_failing_real .stopped key i a hph hst
  rw [← e1, ← e3, hp, hz] at hs
  constructor <;> intro hal <;> rw [hal] at hs
  · exact left_of_failed (relApp_live key i a) (by simpa using hs)
  · exact live_of_failing (relApp_live key i a) (by simpa using hs)

theorem relApp_loses (key : String) (i : CItem) (a : CApp) : Loses a.items (relApp key i a).items := by
  rw [relApp_items]
  exact (Loses.refl _).map (itemLoses_unbind.ite _)

theorem relApp_life (key : String) (i : CItem) (a : CApp) (hba : AppBooks a) (hwa : AppWF a) (hla : AppLife a)
    (hlv : a.live = true) (him : i ∈ a.items) (hkey : i.key = key) (hbd : i.bound = true) :
    AppBooks (relApp key i a) ∧ AppLife (relApp key i a) ∧ (AppNoPend a → AppNoPend (relApp key i a)) := by
  have hba' := appBooks_relApp key i a hba hwa.itemKeys him hkey hbd hwa.appRes.2.1 hwa.appRes.2.2 (hwa.itemRes i him).1
  have hpos := (relApp_loses key i a).pos (hla.pos hlv)
  exact ⟨hba', (LifeB.relSt_step .stopped i (relApp_state key i a) (relApp_loses key i a) hba' (appWF_relApp key i a hwa) hpos
    (relApp_pending key i a) (relApp_allocated key i a) (relApp_allocatedPh key i a)
    (not_completing_of_real hla.toAppCore hlv him hbd)).life hla hlv hpos (relApp_live key i a)⟩

theorem life_nopend_rel1 (s : Core) (app key : String) (a : CApp) (i : CItem) (hw : CoreWF s) (hb : Books s) (h : LifeInv s)
    (hfind : s.findApp app = some a) (hitem : a.items.find? (·.key == key) = some i) :
    (∀ b ∈ (rel1 s app key a i).apps, b.live = true → AppBooks b) ∧ LifeInv (rel1 s app key a i) ∧
    (NoPendInv s → NoPendInv (rel1 s app key a i)) := by
  cases hbd : i.bound with
  | false => rw [rel1_unbound s app key a i hbd]; exact ⟨hb.apps, h, id⟩
  | true =>
    have sh := shape_rel1 s app key a i hfind hbd
    obtain ⟨ham, hl, _⟩ := sh.mem
    obtain ⟨him, hkey⟩ := find_key_some hitem
    obtain ⟨g1, g2⟩ := relApp_life key i a (hb.apps a ham hl) (hw.app ham hl) (appLife_of h ham) hl him hkey hbd
    exact ⟨sh.all (P := fun b => b.live = true → AppBooks b) hw (fun _ => g1) hb.apps,
      sh.life hw h g2 (AddsPos.of_sub (fun _ _ hx => (List.mem_filter.mp hx).1)).onNodeId⟩

theorem askApp_pending (key : String) (x : CItem) (a : CApp) (hwa : AppWF a) (hba : AppBooks a)
    (hitem : a.items.find? (fun x => x.key == key && x.inReq) = some x) (k : String) :
    (askApp key x a).pending.getD k = itemSum (askApp key x a).items (fun i => i.inReq && !i.allocated) k := by
  obtain ⟨hxm, hxk, hxreq⟩ := find_request hitem
  obtain ⟨hwr, _⟩ := hwa.itemRes x hxm
  show (if x.allocated = true then a.pending else prune (subX a.pending x.res)).getD k =
    itemSum (a.items.filter (fun y => y.key != key)) _ k
  rw [itemSum_rm _ hwa.itemKeys key x hxm hxk, ← hba.pending k]
  cases hal : x.allocated
  · simp [hxreq, prune_subX_getD _ _ hwa.appRes.1 hwr]
  · simp

theorem askApp_loses (key : String) (x : CItem) (a : CApp) : Loses a.items (askApp key x a).items :=
  (Loses.refl _).filter _

theorem askApp_state_eq (key : String) (x : CItem) (a : CApp) :
    (askApp key x a).state =
      if (isZero (some (askApp key x a).pending) && isZero (some a.allocated) && a.state != "Failing" && a.state != "Completing" &&
          !((askApp key x a).items.any (fun y => y.bound && y.ph))) = true
      then fireState a.state .complete else a.state := by
  unfold askApp; rfl

theorem askApp_moves (key : String) (x : CItem) (a : CApp) : Moves a.state (askApp key x a).state := by
  rw [askApp_state_eq]
  exact .ite_complete _

/-- `askApp` drops the item whether or not it is bound, so the new record has its books for the pending total only; that
    and the books of the old record are what the test of CompleteApplication needs -/
theorem askApp_step (key : String) (x : CItem) (a : CApp) (hba : AppBooks a) (hwa : AppWF a) (hpos : Pos a.items)
    (hitem : a.items.find? (fun x => x.key == key && x.inReq) = some x) : Life.Step a (askApp key x a) := by
  have hi := askApp_loses key x a
  have hst := askApp_state_eq key x a
  split at hst
  · rename_i hc
    simp only [Bool.and_eq_true, bne_iff_ne, ne_eq] at hc
    refine .ofCompleteItems hst hi (fun _ => ⟨hi.noReal ((hba.none_of_zero hwa hpos).1 hc.1.1.1.2), ?_⟩)
      (fun h => absurd h hc.1.2)
    exact no_item_of_sum_zero _ (fun i => i.inReq && !i.allocated) (fun j hj => (hwa.itemRes j (List.mem_filter.mp hj).1).2) (hi.pos hpos)
      (fun k => by rw [← askApp_pending key x a hwa hba hitem k]; exact isZero_getD hc.1.1.1.1 k)
  · exact .stay_of_loses hst hi

theorem askApp_not_terminated (key : String) (x : CItem) (a : CApp) (hnt : terminated a.state = false) :
    terminated (askApp key x a).state = false := by
  rw [askApp_state_eq]
  exact ite_complete_not_terminated (fun hc => by simp only [Bool.and_eq_true, bne_iff_ne, ne_eq] at hc; exact hc.1.2) hnt

theorem life_nopend_rel2 (s1 : Core) (app key : String) (chain : List String) (hw : CoreWF s1)
    (hb : ∀ b ∈ s1.apps, b.live = true → AppBooks b) (h : LifeInv s1) :
    LifeInv (rel2 s1 app key chain) ∧ (NoPendInv s1 → NoPendInv (rel2 s1 app key chain)) := by
  rcases shape_rel2 s1 app key chain hw with he | ⟨a1, x, hitem, sh⟩
  · rw [he]; exact ⟨h, id⟩
  · obtain ⟨ham, hl, _⟩ := sh.mem
    exact sh.life hw h ((askApp_step key x a1 (hb a1 ham hl) (hw.app ham hl) (h.pos a1 ham hl) hitem).life_kept (appLife_of h ham)
      hl ((askApp_loses key x a1).pos (h.pos a1 ham hl)) hl (askApp_not_terminated key x a1 (h.termGone a1 ham hl)))
      .self

end LifeA

/-- No side condition.  The release of a real allocation cannot complete an application (a Completing application holds
    none); it can fail one: a Failing application without placeholders whose last real allocation goes is Failed and
    leaves the partition, and it then has no bound placeholder. -/
theorem life_nopend_releaseKey (s : Core) (app key : String) (hw : CoreWF s) (hb : Books s) (h : LifeInv s) :
    LifeInv (s.releaseKey app key) ∧ (NoPendInv s → NoPendInv (s.releaseKey app key)) := by
  rcases releaseKey_cases s app key with e | ⟨a, i, hfind, hitem, e⟩
  · rw [e]; exact ⟨h, id⟩
  · rw [e]
    obtain ⟨hb1, hl1, hp1⟩ := life_nopend_rel1 s app key a i hw hb h hfind hitem
    obtain ⟨hl2, hp2⟩ := life_nopend_rel2 _ app key (pathChain s a.queue) (wf_rel1 s app key a i hw hfind) hb1 hl1
    exact ⟨hl2, fun hp => hp2 (hp1 hp)⟩

end Yk
