/- The two marking loops of the preemption model (YkModel/Preempt.lean): TryPreemption marks its final victims and rolls
   back when one was released in the meantime; quota preemption skips such a victim. -/
import YkProofs.PreemptRes
namespace Yk
namespace Pre
open Res

/-! ### the marking loop of TryPreemption: rollback when a final victim was released in the meantime -/

@[simp] theorem mark_key (a : PAlloc) (b : Bool) : (a.mark b).key = a.key := rfl
@[simp] theorem mark_mark (a : PAlloc) (b c : Bool) : (a.mark b).mark c = a.mark c := rfl
@[simp] theorem mark_released (a : PAlloc) (b : Bool) : (a.mark b).released = a.released := rfl
@[simp] theorem mark_preempted (a : PAlloc) (b : Bool) : (a.mark b).preempted = b := rfl

theorem setPreempted_markMap (k : String) (b : Bool) (ks : List String) (allocs : List PAlloc) :
    setPreempted k b (markMap ks b allocs) = markMap (ks ++ [k]) b allocs := by
  unfold setPreempted markMap
  rw [List.map_map]
  apply List.map_congr_left
  intro a _
  simp only [Function.comp, List.contains_append, List.contains_cons, List.contains_nil, Bool.or_false]
  cases h1 : ks.contains a.key <;> cases h2 : (a.key == k) <;>
    simp only [h2, mark_key, mark_mark, if_true, if_false, Bool.false_eq_true, Bool.or_true, Bool.or_false, Bool.or_self]

theorem markMap_nil (b : Bool) (allocs : List PAlloc) : markMap [] b allocs = allocs := by
  unfold markMap
  simp

theorem unmarkAll_markMap (ds : List String) : ∀ (done : List String) (allocs : List PAlloc),
    unmarkAll ds (markMap done false allocs) = markMap (done ++ ds) false allocs := by
  induction ds with
  | nil => intro done allocs; rw [List.append_nil]; rfl
  | cons d t ih =>
    intro done allocs
    rw [unmarkAll, List.foldl_cons, setPreempted_markMap, ← unmarkAll, ih, List.append_assoc, List.singleton_append]

theorem markMap_false_true (ks : List String) (allocs : List PAlloc) :
    markMap ks false (markMap ks true allocs) = markMap ks false allocs := by
  unfold markMap
  rw [List.map_map]
  apply List.map_congr_left
  intro a _
  simp only [Function.comp]
  cases h : ks.contains a.key <;> simp only [h, mark_key, mark_mark, if_true, if_false, Bool.false_eq_true]

theorem isReleased_markMap (ks : List String) (b : Bool) (allocs : List PAlloc) (k : String) :
    isReleased (markMap ks b allocs) k = isReleased allocs k := by
  have hf : ∀ a : PAlloc, (if ks.contains a.key then a.mark b else a).key = a.key ∧
      (if ks.contains a.key then a.mark b else a).released = a.released := fun a => by split <;> exact ⟨rfl, rfl⟩
  unfold isReleased markMap
  rw [List.find?_map]
  simp only [Function.comp_def, (hf _).1]
  cases List.find? (fun a : PAlloc => a.key == k) allocs with
  | none => rfl
  | some a => exact (hf a).2

/-- generalised over the keys `done` marked so far; when a victim still to mark is released, the roll-back clears the
    flag of a prefix of `done ++ todo` and nothing else differs from `allocs0` -/
theorem markLoop_spec (allocs0 : List PAlloc) : ∀ (todo done : List String),
    ((∀ k ∈ todo, isReleased allocs0 k = false) ∧
      markLoop (markMap done true allocs0) done todo = (markMap (done ++ todo) true allocs0, true)) ∨
    ((∃ k ∈ todo, isReleased allocs0 k = true) ∧
      ∃ un, un <+: done ++ todo ∧ markLoop (markMap done true allocs0) done todo = (markMap un false allocs0, false)) := by
  intro todo
  induction todo with
  | nil => intro done; exact Or.inl ⟨fun _ hk => (nomatch hk), by rw [List.append_nil]; rfl⟩
  | cons k t ih =>
    intro done
    unfold markLoop
    rw [isReleased_markMap]
    cases hr : isReleased allocs0 k with
    | true =>
      refine Or.inr ⟨⟨k, List.mem_cons_self, hr⟩, done, List.prefix_append _ _, ?_⟩
      rw [if_pos rfl, ← markMap_nil false (markMap done true allocs0), unmarkAll_markMap, List.nil_append,
        markMap_false_true]
    | false =>
      rw [if_neg Bool.false_ne_true, setPreempted_markMap]
      have := ih (done ++ [k])
      rw [List.append_assoc, List.singleton_append] at this
      rcases this with ⟨h1, h2⟩ | ⟨⟨k', hk', hrel⟩, hun⟩
      · exact Or.inl ⟨List.forall_mem_cons.mpr ⟨hr, h1⟩, h2⟩
      · exact Or.inr ⟨⟨k', List.mem_cons_of_mem _ hk', hrel⟩, hun⟩

def releaseOne (late : List String) (a : PAlloc) : PAlloc :=
  if late.contains a.key && !a.preempted then { a with released := true } else a

def markOne (ks : List String) (b : Bool) (a : PAlloc) : PAlloc := if ks.contains a.key then a.mark b else a

theorem releaseLate_eq_map (late : List String) (allocs : List PAlloc) :
    releaseLate late allocs = allocs.map (releaseOne late) := rfl

theorem markMap_eq_map (ks : List String) (b : Bool) (allocs : List PAlloc) : markMap ks b allocs = allocs.map (markOne ks b) := rfl

theorem releaseOne_fields (late : List String) (a : PAlloc) :
    (releaseOne late a).key = a.key ∧ (releaseOne late a).preempted = a.preempted ∧ (releaseOne late a).q = a.q ∧
      (releaseOne late a).res = a.res := by
  unfold releaseOne
  cases (late.contains a.key && !a.preempted) <;> exact ⟨rfl, rfl, rfl, rfl⟩

theorem releaseLate_preempted {late : List String} {allocs : List PAlloc} {a : PAlloc}
    (h : a ∈ releaseLate late allocs) (hp : a.preempted = true) : a ∈ allocs := by
  obtain ⟨b, hb, rfl⟩ := List.mem_map.mp h
  by_cases hc : (late.contains b.key && !b.preempted) = true
  · rw [if_pos hc] at hp
    rw [Bool.and_eq_true, Bool.not_eq_true', show b.preempted = true from hp] at hc
    cases hc.2
  · rw [if_neg hc]; exact hb

theorem markMap_false_preempted {ks : List String} {allocs : List PAlloc} {a : PAlloc}
    (h : a ∈ markMap ks false allocs) (hp : a.preempted = true) : a ∈ allocs := by
  obtain ⟨b, hb, rfl⟩ := List.mem_map.mp h
  by_cases hc : ks.contains b.key = true
  · rw [if_pos hc] at hp; cases hp
  · rw [if_neg hc]; exact hb

/-- the end of TryPreemption: committed with exactly the final victims marked, or — a final victim being released —
    abandoned with the flags of a prefix of them cleared -/
theorem finishTry_cases (w : World) (late : List String) (r : TryResult) :
    ((∀ v ∈ r.victims, isReleased (releaseLate late w.allocs) v.key = false) ∧
      finishTry w late (some r) = { allocs := markMap (r.victims.map (·.key)) true (releaseLate late w.allocs),
                                    result := some r, released := false, triggered := true }) ∨
    ((∃ v ∈ r.victims, isReleased (releaseLate late w.allocs) v.key = true) ∧
      ∃ un, un <+: r.victims.map (·.key) ∧
        finishTry w late (some r) = { allocs := markMap un false (releaseLate late w.allocs),
                                      result := none, released := true, triggered := w.ask.triggered }) := by
  have spec := markLoop_spec (releaseLate late w.allocs) (r.victims.map (·.key)) []
  rw [markMap_nil, List.nil_append] at spec
  unfold finishTry
  rcases spec with ⟨h1, h2⟩ | ⟨⟨k, hk, hrel⟩, un, hun, h2⟩
  · exact Or.inl ⟨fun v hv => h1 v.key (List.mem_map_of_mem hv), by simp only [h2, if_true]⟩
  · obtain ⟨v, hv, rfl⟩ := List.mem_map.mp hk
    exact Or.inr ⟨⟨v, hv, hrel⟩, un, hun, by simp only [h2, Bool.false_eq_true, if_false]⟩

theorem mark_self (a : PAlloc) : a.mark a.preempted = a := by cases a; rfl

theorem markMap_false_id {ks : List String} {allocs : List PAlloc}
    (h : ∀ a ∈ allocs, ks.contains a.key = true → a.preempted = false) : markMap ks false allocs = allocs := by
  unfold markMap
  conv => rhs; rw [← List.map_id allocs]
  apply List.map_congr_left
  intro a ha
  cases hc : ks.contains a.key with
  | false => simp only [Bool.false_eq_true, if_false, id]
  | true =>
    simp only [if_true, id]
    have := mark_self a
    rw [h a ha hc] at this
    exact this

theorem releaseLate_mem {late : List String} {allocs : List PAlloc} {a : PAlloc} (h : a ∈ releaseLate late allocs) :
    ∃ b ∈ allocs, b.key = a.key ∧ b.preempted = a.preempted := by
  obtain ⟨b, hb, rfl⟩ := List.mem_map.mp h
  exact ⟨b, hb, (releaseOne_fields late b).1.symm, (releaseOne_fields late b).2.1.symm⟩

theorem preemptingOf_map (w : World) (f : PAlloc → PAlloc) (hq : ∀ a, (f a).q = a.q) (hr : ∀ a, (f a).res = a.res) (i : Nat) :
    preemptingOf { w with allocs := w.allocs.map f } i =
      sumRes ((w.allocs.filter (fun a => (f a).preempted && inSubtree w i a.q)).map (·.res)) := by
  show sumRes (((w.allocs.map f).filter (fun a => a.preempted && inSubtree w i a.q)).map (·.res)) = _
  rw [List.filter_map, List.map_map]
  simp only [Function.comp_def, hq, hr]

theorem preemptingOf_releaseLate (w : World) (late : List String) (i : Nat) :
    preemptingOf { w with allocs := releaseLate late w.allocs } i = preemptingOf w i := by
  rw [releaseLate_eq_map, preemptingOf_map w _ (fun a => (releaseOne_fields late a).2.2.1) (fun a => (releaseOne_fields late a).2.2.2)]
  simp only [(releaseOne_fields late _).2.1]
  rfl

/-! ### the marking loop of quota preemption: a victim released in the meantime is skipped, not booked -/

theorem quotaMarkLoop_spec (allocs0 : List PAlloc) : ∀ (todo done : List String),
    quotaMarkLoop (markMap done true allocs0) todo = markMap (done ++ quotaMarked allocs0 todo) true allocs0 := by
  intro todo
  induction todo with
  | nil => intro done; rw [quotaMarked, List.filter_nil, List.append_nil]; rfl
  | cons k t ih =>
    intro done
    rw [quotaMarkLoop, isReleased_markMap, quotaMarked, List.filter_cons, ← quotaMarked]
    cases isReleased allocs0 k with
    | true => exact ih done
    | false =>
      rw [if_neg Bool.false_ne_true, setPreempted_markMap, ih, List.append_assoc]
      rfl

theorem quotaPreemptLate_eq (w : World) (late sel : List String) :
    quotaPreemptLate w late sel = markMap (quotaMarked (releaseLate late w.allocs) sel) true (releaseLate late w.allocs) := by
  unfold quotaPreemptLate
  have := quotaMarkLoop_spec (releaseLate late w.allocs) sel []
  rw [markMap_nil, List.nil_append] at this
  exact this

theorem quotaMarked_mem {allocs : List PAlloc} {sel : List String} {k : String} (h : k ∈ quotaMarked allocs sel) :
    k ∈ sel ∧ isReleased allocs k = false := by
  simpa [quotaMarked] using h

theorem sum_filter_or (f : PAlloc → Int) (p q : PAlloc → Bool) : ∀ (l : List PAlloc), (∀ a ∈ l, ¬ (p a = true ∧ q a = true)) →
    ((l.filter (fun a => p a || q a)).map f).sum = ((l.filter p).map f).sum + ((l.filter q).map f).sum := by
  intro l
  induction l with
  | nil => intro _; rfl
  | cons a t ih =>
    intro h
    have ht := ih (fun x hx => h x (List.mem_cons_of_mem _ hx))
    have ha := h a List.mem_cons_self
    simp only [List.filter_cons]
    cases hp : p a <;> cases hq : q a
    · simp only [Bool.or_self, Bool.false_eq_true, if_false]; exact ht
    · simp only [Bool.or_true, Bool.false_eq_true, if_true, if_false, List.map_cons, List.sum_cons, ht]; omega
    · simp only [Bool.or_false, Bool.false_eq_true, if_true, if_false, List.map_cons, List.sum_cons, ht]; omega
    · exact absurd ⟨hp, hq⟩ ha

theorem preemptingOf_markMap_getD (w : World) (hres : ∀ a ∈ w.allocs, wf a.res = true) (late marked : List String)
    (i : Nat) (k : String) :
    (preemptingOf { w with allocs := markMap marked true (releaseLate late w.allocs) } i).getD k =
      (preemptingOf w i).getD k + (sumRes ((newlyMarked w marked i).map (·.res))).getD k := by
  have hf : ∀ a : PAlloc, ((markOne marked true ∘ releaseOne late) a).preempted = (a.preempted || marked.contains a.key) ∧
      ((markOne marked true ∘ releaseOne late) a).q = a.q ∧ ((markOne marked true ∘ releaseOne late) a).res = a.res := by
    intro a
    obtain ⟨e1, e2, e3, e4⟩ := releaseOne_fields late a
    simp only [Function.comp, markOne, e1]
    cases marked.contains a.key
    · exact ⟨e2.trans (Bool.or_false _).symm, e3, e4⟩
    · exact ⟨(Bool.or_true _).symm, e3, e4⟩
  rw [markMap_eq_map, releaseLate_eq_map, List.map_map, preemptingOf_map w _ (fun a => (hf a).2.1) (fun a => (hf a).2.2)]
  simp only [(hf _).1]
  unfold preemptingOf newlyMarked
  rw [sumRes_map_getD _ (fun a ha => hres a (List.mem_filter.mp ha).1),
    sumRes_map_getD _ (fun a ha => hres a (List.mem_filter.mp ha).1),
    sumRes_map_getD _ (fun a ha => hres a (List.mem_filter.mp ha).1)]
  -- an allocation counts as marked before or as newly marked, not both
  have hsplit : ∀ a : PAlloc, ((a.preempted || marked.contains a.key) && inSubtree w i a.q) =
      ((a.preempted && inSubtree w i a.q) || ((marked.contains a.key && !a.preempted) && inSubtree w i a.q)) := by
    intro a; cases a.preempted <;> cases marked.contains a.key <;> cases inSubtree w i a.q <;> rfl
  simp only [hsplit]
  apply sum_filter_or
  intro a _ ⟨hp, hq⟩
  simp only [Bool.and_eq_true, Bool.not_eq_true'] at hp hq
  rw [hp.1] at hq; exact absurd hq.1.2 (by decide)

end Pre
end Yk
