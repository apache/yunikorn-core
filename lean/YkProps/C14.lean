/-
  C14 — concurrency: the clause a theorem can carry is "no lock-order inversion, hence no deadlock of the lock
  discipline". (Data races, goroutine leaks and the settled-state clause are properties of the Go runtime / of whole
  executions; they are covered by replays and the thorough tier's stress run as evidence only.)

  What is proved, over the table `Yk.Gen.LockOrder.edges` that translator T4 (extract/lockorder.go) REGENERATES from the
  current source on every run (held ⟶ acquired between lock classes, interprocedural, one witness chain per edge):

    1. `lock_order_ranked`      there is a rank of the lock classes (Queue instances: child before parent) such that
                                every edge of the table outside the documented exclusion list goes strictly upwards
                                (`in_scope_iff`: there is no known finding left, the scope is "not excluded");
    2. `Yk.Lock.deadlock_free`  (YkProofs/Lock.lean) generic: a lock machine with RWMutex semantics incl. writer
                                preference whose threads acquire in strictly increasing rank has no wait-for cycle,
                                no deadlocked set and is never stuck, for any number of threads and locks;
    3. `deadlock_free_of_table` 1 + 2: threads whose (held, acquired) pairs are all covered by in-scope edges of the
                                table never deadlock.
  The hazards the discipline rules out are deadlocks of the machine (`relock_is_a_deadlock`, `recursive_rlock_is_modelled`).
  History: the table of the original tree contained ClusterContext ⟶ ClusterContext (partition removal under cc.Lock),
  which no rank can order; it was replayed on the real code and repaired (d47df11); the replay stays as a regression
  scenario of `ykh -c lock`. A new call under a lock that creates an unrankable edge makes the evaluation `table_eval`
  (of which `table_ranked` is a projection) fail; the driver then names the edge and its witness chain (class
  C14.unranked-edge…).
-/
import YkModel.LockPolicy
import YkProofs.Lock
namespace Yk.C14
open Yk.Gen.LockOrder Yk.LockPolicy Yk.Lock

/-! ### the regenerated table against the hand-written policy -/

/-- The three facts about the table that need its strings compared, in one kernel evaluation: the kernel then looks up
    the rank of a class and decides the scope of an edge once, not once per fact. -/
theorem table_eval :
    unknownClasses = [] ∧ (∀ e ∈ edges, inScope e = true → rankOK e = true) ∧ (edges.filter inScope).length > 100 := by
  decide +kernel

/-- every lock class the translator found in the source has a rank -/
theorem classes_ranked : unknownClasses = [] := table_eval.1

/-- the translator's own assumptions hold on the current source: no function returns while holding a lock it took
    (locks are released in the function that takes them), and every Lock/RLock call was attributed to a class -/
theorem translator_assumptions : leaks = [] ∧ unresolved = [] := by decide

/-- **Rank theorem (table form).** Every edge of the regenerated table that is not a known finding or a documented
    exclusion respects the rank: class rank strictly increasing, or Queue ⟶ ancestor Queue. -/
theorem table_ranked : ∀ e ∈ edges, inScope e = true → rankOK e = true := table_eval.2.1

/-- the scope of the rank theorem is exactly "not on the exclusion list": no known finding is left out -/
theorem in_scope_iff (e : Edge) : inScope e = true ↔ isExcluded e = false := by
  simp [inScope, isKnownBad, knownBad]

theorem ranked {e : Edge} (he : e ∈ edges) (hs : inScope e = true) :
    rank e.held < rank e.acq ∨ (e.held = e.acq ∧ e.rel = .up) := by
  have h := table_ranked e he hs
  simp only [rankOK, Bool.or_eq_true, Bool.and_eq_true, decide_eq_true_eq, beq_iff_eq] at h
  exact h.imp_right (·.1)

/-- **Rank theorem.** Some rank orders every edge of the regenerated table outside the documented exclusions. -/
theorem lock_order_ranked :
    ∃ r : Cls → Nat, ∀ e ∈ edges, inScope e = true → r e.held < r e.acq ∨ (e.held = e.acq ∧ e.rel = .up) :=
  ⟨rank, fun _ => ranked⟩

/-- what is left out of the rank theorem is exactly what the exclusion patterns match -/
theorem out_of_scope_iff (e : Edge) : inScope e = false ↔ isExcluded e = true := by
  cases h : isExcluded e <;> simp [inScope, isKnownBad, knownBad, h]

/-! ### from the table to lock instances and the lock machine -/

/-- a lock instance: its class, its depth in the tree of its class (queues; 0 elsewhere) and an identity -/
structure Inst where
  cls : Cls
  depth : Nat
  id : Nat
  deriving DecidableEq

/-- rank of an instance for trees of depth ≤ D: class rank first, then deeper = lower -/
def irank (D : Nat) (i : Inst) : Nat := rank i.cls * (D + 1) + (D - i.depth)

/-- what an edge of the table says about a pair (held instance, acquired instance): the classes, and for an `up`
    edge that the acquired queue is a proper ancestor of the held one (the translator emits `up` only when the
    acquired object is reached through `.parent` from the held one) -/
def Sem (e : Edge) (h a : Inst) : Prop :=
  e.held = h.cls ∧ e.acq = a.cls ∧ (e.rel = .up → a.depth < h.depth)

instance (e : Edge) (h a : Inst) : Decidable (Sem e h a) := by unfold Sem; exact inferInstance

/-- a thread follows the table: whenever it asks for a lock, every lock it holds is paired with the new one by an
    in-scope edge of the table -/
def Follows (D : Nat) (H : List (Inst × Mode)) (a : Inst) (_ : Mode) : Prop :=
  a.depth ≤ D ∧ ∀ p ∈ H, p.1.depth ≤ D ∧ ∃ e ∈ edges, inScope e = true ∧ Sem e p.1 a

/-- following the table implies the rank discipline of the generic theorem -/
theorem follows_ordered (D : Nat) : Ordered (irank D) (Follows D) := by
  intro H a m hf p hp
  obtain ⟨haD, hall⟩ := hf
  obtain ⟨hpD, e, he, hs, hh, hacq, hup⟩ := hall p hp
  unfold irank
  rcases ranked he hs with h | ⟨h1, h2⟩
  · rw [hh, hacq] at h
    have h1 : (rank p.1.cls + 1) * (D + 1) ≤ rank a.cls * (D + 1) := Nat.mul_le_mul_right _ h
    rw [Nat.succ_mul] at h1
    generalize rank p.1.cls * (D + 1) = A at *
    generalize rank a.cls * (D + 1) = B at *
    omega
  · have hlt := hup h2
    have hc : p.1.cls = a.cls := by rw [← hh, ← hacq, h1]
    rw [hc]
    omega

/-- **Deadlock freedom of the lock discipline.** In every reachable state of the lock machine whose threads
    follow the in-scope part of the regenerated table (any number of threads, any number of instances per class, trees
    of any bounded depth D): no wait-for cycle, no deadlocked set, and never stuck while somebody waits. -/
theorem deadlock_free_of_table (D : Nat) {s : State Inst} (hr : Reach (Follows D) s) :
    ¬ Cycle s ∧ ¬ Deadlocked s ∧ ((∃ t, s.want t ≠ none) → ∃ t, Grantable s t ∨ RunningHolder s t) :=
  deadlock_free (follows_ordered D) hr

/-- machine fact: a thread that holds a lock for writing and asks for the same instance again waits for
    itself — the shape of the repaired ClusterContext self edge; such an edge can never pass `table_eval` -/
theorem relock_is_a_deadlock (s : State Inst) (t : Tid) (i : Inst) (m : Mode)
    (hh : (i, Mode.W) ∈ s.held t) (hw : s.want t = some (i, m)) : Cycle s :=
  ⟨t, Chain.single ⟨i, m, hw, Or.inl ⟨.W, hh, Or.inr rfl⟩⟩⟩

/-- no rank can order an edge from a class to itself whose instances are not parent/child: should the translator find
    one again (as ClusterContext ⟶ ClusterContext before d47df11) the rank theorem fails whatever the rank table says -/
theorem self_edge_never_ranked (r : Cls → Nat) (e : Edge) (h1 : e.held = e.acq) (h2 : e.rel ≠ .up) :
    ¬ (r e.held < r e.acq ∨ (e.held = e.acq ∧ e.rel = .up)) := by
  rintro (h | ⟨_, h⟩)
  · rw [h1] at h
    exact Nat.lt_irrefl _ h
  · exact h2 h

/-- the hazard of recursive read locks is in the model: without a discipline a reachable state has a wait-for cycle
    made of one thread re-entering RLock and one waiting writer -/
theorem recursive_rlock_is_modelled : ∃ s : State Nat, Reach (fun _ _ _ => True) s ∧ Cycle s := by
  let ok : List (Nat × Mode) → Nat → Mode → Prop := fun _ _ _ => True
  let s0 : State Nat := State.init
  have r0 : Reach ok s0 := Reach.init
  have r1 := Reach.step r0 (Step.request s0 0 7 .R rfl trivial)
  have r2 := Reach.step r1 (Step.grant _ 0 7 .R (by simp [upd]) (by
    intro u hc
    rcases hc with ⟨m', hmem, _⟩ | ⟨_, _, hw⟩
    · simp [s0, State.init] at hmem
    · by_cases h : u = 0 <;> simp [upd, h, s0, State.init] at hw))
  have r3 := Reach.step r2 (Step.request _ 1 7 .W (by simp [upd, s0, State.init]) trivial)
  have r4 := Reach.step r3 (Step.request _ 0 7 .R (by simp [upd]) trivial)
  exact ⟨_, r4, recursive_rlock_deadlock _ 0 1 7 (by decide) (by simp [upd]) (by simp [upd]) (by simp [upd])⟩

/-! ### non-vacuity -/

set_option maxRecDepth 100000 in
/-- the table is not empty and most of it is in scope -/
example : edges.length > 100 ∧ (edges.filter inScope).length > 100 := ⟨by decide +kernel, table_eval.2.2⟩

set_option maxRecDepth 100000 in
/-- `Follows` is satisfiable where it should be: holding a queue at depth 2 (write), its parent at depth 1 may be taken -/
example : Follows 3 [(⟨.objects_Queue, 2, 7⟩, .W)] ⟨.objects_Queue, 1, 3⟩ .W := by
  -- `Sem` before `inScope`: the search then compares strings only for the few Queue ⟶ Queue edges
  have h : ∃ e ∈ edges, Sem e ⟨.objects_Queue, 2, 7⟩ ⟨.objects_Queue, 1, 3⟩ ∧ inScope e = true := by decide +kernel
  obtain ⟨e, he, hsem, hs⟩ := h
  refine ⟨by decide, fun p hp => ?_⟩
  rw [List.mem_singleton.mp hp]
  exact ⟨by decide, e, he, hs, hsem⟩

/-- …and refuses the reverse order: holding the parent, the child is not covered by any in-scope edge -/
example : ¬ Follows 3 [(⟨.objects_Queue, 1, 3⟩, .W)] ⟨.objects_Queue, 2, 7⟩ .W := by
  rintro ⟨_, h⟩
  obtain ⟨_, e, he, hs, hh, hacq, hup⟩ := h _ (List.mem_singleton.mpr rfl)
  rcases ranked he hs with hr | ⟨_, h2⟩
  · rw [hh, hacq] at hr
    exact Nat.lt_irrefl _ hr
  · exact absurd (hup h2) (by decide)

/-- an application lock may be followed by a node lock, not the other way round -/
example : rank .objects_Application < rank .objects_Node ∧ rank .scheduler_PartitionContext < rank .objects_Application ∧
    rank .objects_Node < rank .objects_Queue := by decide +kernel

end Yk.C14
