/-
  C12 — Restart recovery rebuilds the same accounting.
  The core keeps no state.  `Core.replay` (YkModel/Recover.lean) is the rebuilt state after the shim replayed a list of
  items on a restarted core `Core.fresh qs` (`qs` = the queue tree of the restarted core, any configuration): nodes
  (`Core.nodeCreate`), applications after placement (`Core.appSub` = partition.AddApplication), bound allocations
  (`Core.recAlloc` = the "new allocation already assigned" branch of partition.UpdateAllocation: IncAllocatedResource
  without limit, Node.AddAllocation forced, RecoverAllocationAsk, AddAllocation), foreign allocations, outstanding asks.
  `replay` also returns the items the core accepted.  The driver replays on this model what the harness replayed on a
  real restarted ClusterContext and compares every answer and every ledger; `Core.totalsOK` / `Core.agreeOK` are the
  statements below in executable form, evaluated on the dumps of the two real cores.
  Helper lemmas: YkProofs/Recover.lean (the replay invariant) and YkProofs/RecoverAgree.lean.  `Books` (YkProofs/Core.lean) = the conservation invariants of C03.
-/
import YkProofs.RecoverAgree
namespace Yk.C12
open Yk Yk.Core Yk.Res

/-- **The rebuilt state satisfies the conservation invariants** — for every queue tree, every list of items (any order,
    also orders the core partly refuses), whatever the queue maxima, node capacities and limits are: every application's
    totals are the sums over its allocations and asks, every queue's allocated / pending is the sum over the applications
    at or below it, every node's allocated is the sum of its allocations and available = capacity − allocated − occupied. -/
theorem replay_books (qs : List CQueue) (items : List RItem) (hi : ∀ it ∈ items, it.wfRes) :
    Books ((Core.fresh qs).replay items).1 :=
  (replay_fresh qs items hi).books

/-- **Per-application and per-node totals are the totals recomputed from the accepted items** (`totApp…`, `totNode…`:
    plain sums over the replayed allocation set): allocated = Σ bound real allocations of the application, placeholder =
    Σ bound placeholders, pending = Σ outstanding asks; node allocated = Σ bound allocations on the node, node occupied =
    Σ foreign allocations on it. -/
theorem replay_totals (qs : List CQueue) (items : List RItem) (hi : ∀ it ∈ items, it.wfRes) :
    let b := ((Core.fresh qs).replay items).1
    let acc := ((Core.fresh qs).replay items).2
    (∀ a ∈ b.apps, ∀ k, a.allocated.getD k = (totAppAllocated acc a.id).getD k ∧
        a.allocatedPh.getD k = (totAppPlaceholder acc a.id).getD k ∧ a.pending.getD k = (totAppPending acc a.id).getD k) ∧
    (∀ n ∈ b.nodes, ∀ k, n.allocated.getD k = (totNodeAllocated acc n.id).getD k ∧
        n.occupied.getD k = (totNodeOccupied acc n.id).getD k) := by
  intro b acc
  have ht := replay_fresh qs items hi
  have hacc : ∀ it ∈ acc, it.wfRes := fun it h => hi it (replay_acc_sub _ _ it h)
  constructor
  · intro a ha k
    obtain ⟨h1, h2, h3⟩ := ht.app_totals a ha k
    obtain ⟨e1, e2, e3, _, _⟩ := tot_getD acc hacc a.id k
    rw [h1, h2, h3, e1, e2, e3]; exact ⟨rfl, rfl, rfl⟩
  · intro n hn k
    obtain ⟨h1, h2⟩ := ht.node_totals n hn k
    obtain ⟨_, _, _, e4, e5⟩ := tot_getD acc hacc n.id k
    rw [h1, h2, e4, e5]; exact ⟨rfl, rfl⟩

/-- **Per-queue totals**: allocated (pending) of every queue of the rebuilt state is the sum, over the applications the
    restarted core placed at or below the queue, of their recomputed allocation (ask) totals. -/
theorem replay_queue_totals (qs : List CQueue) (items : List RItem) (hi : ∀ it ∈ items, it.wfRes) :
    let b := ((Core.fresh qs).replay items).1
    let acc := ((Core.fresh qs).replay items).2
    ∀ q ∈ b.queues, ∀ k,
      q.allocated.getD k = qsum b.apps q.path (fun a => (totAppAllocated acc a.id).getD k + (totAppPlaceholder acc a.id).getD k) ∧
      q.pending.getD k = qsum b.apps q.path (fun a => (totAppPending acc a.id).getD k) := by
  intro b acc q hq k
  have hb := replay_books qs items hi
  obtain ⟨hA, _⟩ := replay_totals qs items hi
  have hqb := hb.queues q hq
  constructor
  · rw [hqb.allocated k]; unfold qsum; apply sumIf_congr; intro a ha
    obtain ⟨h1, h2, _⟩ := hA a ha k; rw [h1, h2]
  · rw [hqb.pending k]; unfold qsum; apply sumIf_congr; intro a ha
    obtain ⟨_, _, h3⟩ := hA a ha k; rw [h3]

/-- **The order of the replay does not matter**: two replays of the same items in different orders that were both
    accepted completely give every application and every node the same totals. -/
theorem replay_order_irrelevant (qs : List CQueue) (items items' : List RItem) (hp : items.Perm items')
    (hi : ∀ it ∈ items, it.wfRes)
    (h1 : ((Core.fresh qs).replay items).2 = items) (h2 : ((Core.fresh qs).replay items').2 = items') :
    (∀ a ∈ ((Core.fresh qs).replay items).1.apps, ∀ a' ∈ ((Core.fresh qs).replay items').1.apps, a'.id = a.id → ∀ k,
      a'.allocated.getD k = a.allocated.getD k ∧ a'.allocatedPh.getD k = a.allocatedPh.getD k ∧ a'.pending.getD k = a.pending.getD k) ∧
    (∀ n ∈ ((Core.fresh qs).replay items).1.nodes, ∀ n' ∈ ((Core.fresh qs).replay items').1.nodes, n'.id = n.id → ∀ k,
      n'.allocated.getD k = n.allocated.getD k ∧ n'.occupied.getD k = n.occupied.getD k) := by
  have hi' : ∀ it ∈ items', it.wfRes := fun it h => hi it (hp.mem_iff.mpr h)
  have t1 := replay_fresh qs items hi
  have t2 := replay_fresh qs items' hi'
  rw [h1] at t1; rw [h2] at t2
  constructor
  · intro a ha a' ha' hid k
    obtain ⟨x1, x2, x3⟩ := t1.app_totals a ha k
    obtain ⟨y1, y2, y3⟩ := t2.app_totals a' ha' k
    obtain ⟨e1, e2, e3, _, _⟩ := sums_perm hp a.id k
    rw [x1, x2, x3, y1, y2, y3, hid, e1, e2, e3]; exact ⟨rfl, rfl, rfl⟩
  · intro n hn n' hn' hid k
    obtain ⟨x1, x2⟩ := t1.node_totals n hn k
    obtain ⟨y1, y2⟩ := t2.node_totals n' hn' k
    obtain ⟨_, _, _, e4, e5⟩ := sums_perm hp n.id k
    rw [x1, x2, y1, y2, hid, e4, e5]; exact ⟨rfl, rfl⟩

/-- **Accepted regardless of quotas** (`forced_accepts`): a bound allocation whose application and node are registered,
    with a valid resource and a key the application does not know, is accepted; a foreign allocation whose node is
    registered; an ask whose application is registered.  No hypothesis mentions a queue maximum, the node's free
    capacity or a user limit: the model of these branches does not read them (the correspondence checks that the code
    does not either, with tightened configurations). -/
theorem registered_items_accepted (s : Core) :
    (∀ x a, s.findApp x.app = some a → (s.findNode x.node).isSome = true → isZero (some x.res) = false →
        strictlyGreaterThanZero (some x.res) = true → a.items.any (·.key == x.key) = false → (s.recAlloc x).2 = true) ∧
    (∀ key node res, (s.findNode node).isSome = true → s.foreign.contains key = false → (s.recForeign key node res).2 = true) ∧
    (∀ x a, s.findApp x.app = some a → isZero (some x.res) = false → strictlyGreaterThanZero (some x.res) = true →
        a.items.any (·.key == x.key) = false → (s.recAsk x).2 = true) ∧
    (∀ id cap sched, s.findNode id = none → (s.recNode id cap sched).2 = true) :=
  ⟨fun x a => recAlloc_accepts s x a, fun key node res => recForeign_accepts s key node res,
   fun x a => recAsk_accepts s x a, fun id cap sched => recNode_accepts s id cap sched⟩

/-- A replay in which every item finds its node / application registered and its key unused (`Legal`, YkProofs/RecoverAgree:
    the order the shim guarantees — nodes are accepted before anything is placed on them, a task is only sent once its
    application was accepted) is accepted completely. -/
theorem legal_replay_accepted (s : Core) (items : List RItem) (h : Legal s items) : (s.replay items).2 = items := by
  induction items generalizing s with
  | nil => rfl
  | cons it rest ih =>
    obtain ⟨h1, h2⟩ := h
    rw [(replay_acc_cons s it rest).2, ready_accepted s it h1, ih _ h2]; rfl

/-- **A legal order is accepted completely, whatever the quotas** (`LegalFrom`, a condition on the item list alone: every
    node id / application id / allocation key is used once, every allocation and foreign pod comes after its node, every
    allocation and ask after its application, resources are positive, applications are placed in a leaf of the queue tree
    and are force-created or carry no task-group request).  No maximum, capacity or limit occurs in the hypotheses. -/
theorem legal_order_accepted (qs : List CQueue) (items : List RItem) (hl : LegalFrom qs [] [] [] items) :
    ((Core.fresh qs).replay items).2 = items :=
  legal_replay_accepted _ _ (legal_of_legalFrom qs _ [] [] [] items (reg_fresh qs) hl)

/-- **A key replayed as an ask and reported as bound later** (a shim that learns about the binding during the replay, or
    places the pod itself afterwards), possibly WITH ANOTHER SIZE than the ask the core holds, goes through two blocks of
    UpdateAllocation in one update (`Core.recBind`): the resource change of the pending ask (`Core.resizePending`: the
    ask takes the new size, application and queue pending move by the delta, nothing is booked on a node — a pending ask
    has none) and then the "ask → allocation" transition with the new size (`Core.bindHeld`: AllocateAsk,
    IncAllocatedResource without limit, forced Node.AddAllocation of the application's own object, AddAllocation).
    It keeps the books of any well-formed state balanced: in particular the node's allocated stays the sum of its
    allocations (the new size once, not new size + delta).  No capacity or quota hypothesis; `NoSatResize`: no queue
    pending total leaves the int64 range. -/
theorem bound_later_keeps_books (s : Core) (x : RAlloc) (hw : CoreWF s) (hb : Books s) (hr : wf x.res = true)
    (hnn : NonNeg x.res) (hsat : NoSatResize s x.res) : Books (s.recBind x).1 := by
  unfold recBind
  split
  · rename_i a n hfind hnode
    obtain ⟨ham, hl, _⟩ := findApp_some hfind
    split
    · exact hb
    · rename_i i hitem
      split
      · exact hb
      · obtain ⟨him, _, hreq, hnal⟩ := find_outstanding hitem
        exact books_bindHeld _ x (coreWF_resizePending s a i x.res hw hr hnn hsat ham hl him)
          (books_resizePending s a i x.res hw hb ham hl him hreq hnal hr)
  · exact hb

/-- … and the two blocks separately: the resize of a pending ask, the transition with the size the application holds. -/
theorem pending_resize_keeps_books (s : Core) (a : CApp) (i : CItem) (res : Res) (hw : CoreWF s) (hb : Books s)
    (ham : a ∈ s.apps) (hl : a.live = true) (him : i ∈ a.items) (hreq : i.inReq = true) (hnal : i.allocated = false)
    (hr : wf res = true) : Books (s.resizePending a i res) :=
  books_resizePending s a i res hw hb ham hl him hreq hnal hr

theorem transition_keeps_books (s : Core) (x : RAlloc) (hw : CoreWF s) (hb : Books s) : Books (s.bindHeld x).1 :=
  books_bindHeld s x hw hb

/-- The order assumption is needed: an allocation replayed before its node and application is refused (and stays
    refused: nothing is booked for it). -/
theorem illegal_order_refused :
    ((Core.fresh []).replay [.alloc { app := "app-1", key := "k1", node := "n1", res := [("cpu", 1)], ph := false, tg := "", reqNode := "" },
                             .node "n1" [("cpu", 4)] true]).2 = [.node "n1" [("cpu", 4)] true] := by decide +kernel

/-- **A force-created application is accepted** whenever its id is new and the queue the placement chose exists as a
    leaf — whatever it asks for as task groups, whatever the queue maxima and the sort policy are (partition.AddApplication
    skips the task-group checks for a forced application; repaired by the fix recorded in KNOWN_FINDINGS `fixed:`). -/
theorem forced_app_accepted (s : Core) (a : RApp) (q : CQueue) (hf : a.forced = true) (hn : s.findApp a.id = none)
    (hq : s.findQueue a.queue = some q) (hl : q.leaf = true) : (s.appSub a).2 = true :=
  appSub_accepts s a q hn hq hl (Or.inl hf)

/-- … and so is an application that is not forced and carries no task-group request. -/
theorem plain_app_accepted (s : Core) (a : RApp) (q : CQueue) (hn : s.findApp a.id = none)
    (hq : s.findQueue a.queue = some q) (hl : q.leaf = true) (hg : isZero (some a.phAsk) = true) : (s.appSub a).2 = true :=
  appSub_accepts s a q hn hq hl (Or.inr hg)

/-- the former witness: queue root.a with max {cpu:1}; a running gang application that asked for {cpu:2} of placeholders -/
def exTree : List CQueue :=
  [ { path := "root", parent := none, leaf := false, managed := true, max := none, guaranteed := none, allocated := [], pending := [],
      preempting := [], maxApps := 0, running := 0, allocating := [], apps := [], reserved := [] },
    { path := "root.a", parent := some "root", leaf := true, managed := true, max := some [("cpu", 1)], guaranteed := none, allocated := [],
      pending := [], preempting := [], maxApps := 0, running := 0, allocating := [], apps := [], reserved := [] } ]
def exGang : RApp := { id := "app-1", queue := "root.a", user := "bob", phAsk := [("cpu", 2)], fifo := true, forced := true }

/-- regression (was the refutation of the unrepaired code): the forced gang application is accepted over the queue maximum,
    also in a queue that does not sort FIFO … -/
example : ((Core.fresh exTree).appSub exGang).2 = true := by decide +kernel
example : ((Core.fresh exTree).appSub { exGang with fifo := false }).2 = true := by decide +kernel
/-- … its bound placeholder is accepted with it … -/
example :
    ((Core.fresh exTree).replay [.node "n1" [("cpu", 4)] true, .app exGang,
        .alloc { app := "app-1", key := "p1", node := "n1", res := [("cpu", 2)], ph := true, tg := "tg", reqNode := "" }]).2.length = 3 := by decide +kernel
/-- … while the same submission WITHOUT the force-create tag is still refused (the task-group checks remain for new work). -/
example : ((Core.fresh exTree).appSub { exGang with forced := false }).2 = false := by decide +kernel

/-- **Old core and restarted core agree, per application.**  `A` = the old core with balanced books (C03); the shim
    replayed — in any legal order (`LegalFrom`) — exactly the bound allocations (`snapAllocs A`) and the asks it
    holds (`snapAsks A`: the unallocated asks, and the real halves of placeholder replacements in flight, which the old
    core counts as allocated but has not announced).  Then for every live application of `A` the restarted core books the
    same allocated and placeholder totals, and pending = old pending + the replacements in flight. -/
theorem recover_agrees_app (A : Core) (qs : List CQueue) (items : List RItem) (hw : CoreWF A) (hb : Books A)
    (hi : ∀ it ∈ items, it.wfRes) (hlegal : LegalFrom qs [] [] [] items)
    (hallocs : (allocsOf items).Perm (snapAllocs A)) (hasks : (asksOf items).Perm (snapAsks A))
    (a : CApp) (ha : a ∈ A.apps) (hl : a.live = true) (b : CApp) (hbm : b ∈ ((Core.fresh qs).replay items).1.apps)
    (hid : b.id = a.id) (k : String) :
    b.allocated.getD k = a.allocated.getD k ∧ b.allocatedPh.getD k = a.allocatedPh.getD k ∧
    b.pending.getD k = a.pending.getD k + (inflightOfApp a).getD k :=
  agree_app A qs items hw hb hi (legal_order_accepted qs items hlegal) hallocs hasks a ha hl b hbm hid k

/-- **… per queue**, for the queues that exist in both, when the restarted core placed the applications where they were
    (`happs`: same (id, queue) pairs — same configuration; with a changed configuration `replay_queue_totals` says what
    each queue holds): same allocated; pending = old pending + the replacements in flight at or below the queue. -/
theorem recover_agrees_queue (A : Core) (qs : List CQueue) (items : List RItem) (hw : CoreWF A) (hb : Books A)
    (hi : ∀ it ∈ items, it.wfRes) (hlegal : LegalFrom qs [] [] [] items)
    (hallocs : (allocsOf items).Perm (snapAllocs A)) (hasks : (asksOf items).Perm (snapAsks A))
    (happs : ((appsOf items).map rappSig).Perm (A.liveApps.map appSig))
    (q : CQueue) (hq : q ∈ A.queues) (r : CQueue) (hr : r ∈ ((Core.fresh qs).replay items).1.queues) (hp : r.path = q.path) (k : String) :
    r.allocated.getD k = q.allocated.getD k ∧
    r.pending.getD k = q.pending.getD k + qsum A.apps q.path (fun a => (inflightOfApp a).getD k) :=
  agree_queue A qs items hw hb hi (legal_order_accepted qs items hlegal) hallocs hasks happs q hq r hr hp k

/-- **… per node**, for a node of the old core whose ledger is the sum of what its live applications bound there plus
    the replacement halves in flight on it (`hview`: clauses I7 / I8 of C03 in sum form) and whose occupied is the sum of
    its foreign allocations (`hocc`): the restarted core books allocated = old allocated − in flight, and the same
    occupied. -/
theorem recover_agrees_node (A : Core) (qs : List CQueue) (items : List RItem)
    (hi : ∀ it ∈ items, it.wfRes) (hlegal : LegalFrom qs [] [] [] items)
    (hallocs : (allocsOf items).Perm (snapAllocs A)) (hforeign : (foreignOf items).Perm (snapForeign A))
    (n : CNode) (m : CNode) (hm : m ∈ ((Core.fresh qs).replay items).1.nodes) (hid : m.id = n.id) (k : String)
    (hview : n.allocated.getD k = sumIf (snapAllocs A) (fun x => x.node == n.id) (fun x => x.res.getD k) + (inflightOnNode A n).getD k)
    (hocc : n.occupied.getD k = sumIf (snapForeign A) (fun f => f.2.1 == n.id) (fun f => f.2.2.getD k)) :
    n.allocated.getD k = m.allocated.getD k + (inflightOnNode A n).getD k ∧ n.occupied.getD k = m.occupied.getD k :=
  agree_node A qs items hi (legal_order_accepted qs items hlegal) hallocs hforeign n m hm hid k hview hocc

/-! ### non-vacuity -/

/-- a replay in a legal order: node, application, a bound allocation, an ask — everything is accepted although the queue
    maximum is {cpu:1} and the allocation takes {cpu:3} -/
def exApp : RApp := { id := "app-2", queue := "root.a", user := "bob", phAsk := [], fifo := true, forced := true }
def exItems : List RItem :=
  [.node "n1" [("cpu", 4)] true, .app exApp,
   .alloc { app := "app-2", key := "k1", node := "n1", res := [("cpu", 3)], ph := false, tg := "", reqNode := "" },
   .ask { app := "app-2", key := "k2", node := "", res := [("cpu", 2)], ph := false, tg := "", reqNode := "" }]

example : ((Core.fresh exTree).replay exItems).2 = exItems := by decide +kernel
example : LegalFrom exTree [] [] [] exItems := by
  simp [LegalFrom, exItems, exApp, exTree, validRes, isZero, strictlyGreaterThanZero]
/-- a forced gang application over the queue maximum with its placeholder: a legal replay -/
example : LegalFrom exTree [] [] [] [.node "n1" [("cpu", 4)] true, .app exGang,
    .alloc { app := "app-1", key := "p1", node := "n1", res := [("cpu", 2)], ph := true, tg := "tg", reqNode := "" }] := by
  simp [LegalFrom, exGang, exTree, validRes, isZero, strictlyGreaterThanZero]
example : ∀ it ∈ exItems, it.wfRes := by
  intro it h
  simp only [exItems, List.mem_cons, List.mem_nil_iff, or_false] at h
  rcases h with rfl | rfl | rfl | rfl
  · show wf _ = true; decide
  · trivial
  · show wf _ = true; decide
  · show wf _ = true; decide
example : (((Core.fresh exTree).replay exItems).1.apps.map (fun a => (a.id, a.state, a.allocated, a.pending))) =
    [("app-2", "Running", [("cpu", 3)], [("cpu", 2)])] := by decide +kernel
example : (((Core.fresh exTree).replay exItems).1.nodes.map (fun n => (n.id, n.allocated, n.available))) =
    [("n1", [("cpu", 3)], [("cpu", 1)])] := by decide +kernel
/-- ask first, bound later: the application and the node end with the totals of the direct recovery -/
example :
    let x : RAlloc := { app := "app-2", key := "k1", node := "n1", res := [("cpu", 3)], ph := false, tg := "", reqNode := "" }
    let viaAsk := (((Core.fresh exTree).replay [exItems[0], exItems[1], .ask { x with node := "" }]).1.recPlaced x).1
    let direct := ((Core.fresh exTree).replay [exItems[0], exItems[1], .alloc x]).1
    viaAsk.apps.map (fun a => (a.state, a.allocated, a.pending)) = direct.apps.map (fun a => (a.state, a.allocated, a.pending)) ∧
    viaAsk.nodes.map (fun n => (n.allocated, n.available, n.allocs)) = direct.nodes.map (fun n => (n.allocated, n.available, n.allocs)) := by
  decide +kernel
/-- ask first with size {cpu:1, mem:2}, bound later with size {cpu:3}: application, node and ask end exactly as in the
    direct recovery of the {cpu:3} allocation (the node books {cpu:3} once) -/
def exBound : RAlloc := { app := "app-2", key := "k1", node := "n1", res := [("cpu", 3)], ph := false, tg := "", reqNode := "" }
def exViaAsk : Core :=
  (((Core.fresh exTree).replay [exItems[0], exItems[1], .ask { exBound with node := "", res := [("cpu", 1), ("mem", 2)] }]).1.recPlaced exBound).1
def exDirect : Core := ((Core.fresh exTree).replay [exItems[0], exItems[1], .alloc exBound]).1
example : exViaAsk.apps.map (fun a => (a.state, a.allocated, a.pending)) = exDirect.apps.map (fun a => (a.state, a.allocated, a.pending)) := by decide +kernel
example : exViaAsk.apps.map (fun a => a.items.map (fun i => (i.key, prune i.res, i.bound))) =
    exDirect.apps.map (fun a => a.items.map (fun i => (i.key, prune i.res, i.bound))) := by decide +kernel
example : exViaAsk.nodes.map (fun n => (n.allocated, n.available, n.allocs)) =
    exDirect.nodes.map (fun n => (n.allocated, n.available, n.allocs)) := by decide +kernel
/-- the same items, the ask before the allocation -/
example : ((Core.fresh exTree).replay [exItems[0], exItems[1], exItems[3], exItems[2]]).2 = [exItems[0], exItems[1], exItems[3], exItems[2]] := by decide +kernel

end Yk.C12
