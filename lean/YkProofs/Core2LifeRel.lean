/-
  Life-cycle invariants (`LifeInv`, `NoPendInv`: YkProofs/Core2Life.lean) are preserved by the release of one allocation
  (`releaseKeyT` = `relBoundT` then `askRemoveT`), by the start of a placeholder swap (`swapStart`) and by its
  confirmation (`swapConfirm`).
-/
import YkProofs.Core2Life
namespace Yk
open Res Core Life

namespace LifeB


theorem terminated_completed : terminated "Completed" = true := by simp [terminated]
theorem terminated_completing : terminated "Completing" = false := by simp [terminated]

/-! ### the node functions of these operations -/

theorem addsPos_nodeRm (key : String) (r : Res) : AddsPos (nodeRm key r) :=
  .of_sub (fun _ _ hx => (List.mem_filter.mp hx).1)

theorem addsPos_addAllocNode {e : CNodeAlloc} (he : PosRes e.res) : AddsPos (addAllocNode e) :=
  .of_add he (fun _ _ hx => (List.mem_append.mp hx).imp id List.mem_singleton.mp)

theorem addsPos_nodeSwap (app : String) (p r : CItem) (hr : PosRes r.res) : AddsPos (nodeSwap app p r) :=
  .of_add (e := { key := r.key, app := app, res := r.res, foreign := false, ph := false }) hr
    (fun _ _ hx => (List.mem_append.mp hx).imp (fun h => (List.mem_filter.mp h).1) List.mem_singleton.mp)

/-! ### `relAppT` -/

/-- The state `relAppT tt key i a` computes: the two `let st := if …` of the model (YkModel/CoreOps2.lean, one per kind of
    allocation) copied out, so that the branches are analysed for a name and not under the record update; a change of
    the `if` in `relAppT` is to be made here as well.  `relAppT_state` is the equation. -/
def relSt (tt : TermType) (i : CItem) (a : CApp) : String :=
  if i.ph = true then
    (if (isZero (some (prune (subX a.allocatedPh i.res))) &&
         ((a.state == "Completing" && !a.stateTimer && !(tt == .replaced && i.release.isSome)) ||
          (a.state == "Failing" && isZero (some a.allocated)) ||
          a.state == "Resuming" ||
          (isZero (some a.pending) && isZero (some a.allocated) && !(tt == .replaced && i.release.isSome) &&
           a.state != "Failing"))) = true then
      (if (a.state == "Failing") = true then fireState a.state .fail
       else if (a.state == "Resuming") = true then fireState a.state .run
       else fireState a.state .complete)
    else a.state)
  else
    (if (isZero (some a.pending) && isZero (some (prune (subX a.allocated i.res)))) = true then
      (if (a.state == "Failing") = true then
        (if isZero (some a.allocatedPh) = true then fireState a.state .fail else a.state)
       else fireState a.state .complete)
     else a.state)

theorem relAppT_state (tt : TermType) (key : String) (i : CItem) (a : CApp) : (relAppT tt key i a).state = relSt tt i a := by
  unfold relAppT relSt
  cases i.ph <;> simp only [Bool.false_eq_true, if_false, if_true, setState_state]

theorem relAppT_live (tt : TermType) (key : String) (i : CItem) (a : CApp) :
    (relAppT tt key i a).live = !(terminated (relSt tt i a)) := by
  unfold relAppT relSt
  cases i.ph <;> rfl

theorem relAppT_leaves (tt : TermType) (key : String) (i : CItem) (a : CApp) :
    (relAppT tt key i a).live = !(terminated (relAppT tt key i a).state) := by
  rw [relAppT_live, relAppT_state]

/-- `relSt` branch by branch, once: which event the release fires and what the model has just tested (on the totals of
    the new record): FailApplication from Failing when no placeholder is left, RunApplication from Resuming,
    CompleteApplication — from Accepted / Running only with nothing pending and no real allocation, from Completing by the
    release of a placeholder only when it was the last —, or nothing. -/
theorem relSt_fires (tt : TermType) (i : CItem) (a : CApp) :
    relSt tt i a = a.state ∨
    (a.state = "Failing" ∧ relSt tt i a = fireState a.state .fail ∧
      isZero (some (if i.ph = true then prune (subX a.allocatedPh i.res) else a.allocatedPh)) = true) ∨
    (a.state = "Resuming" ∧ relSt tt i a = fireState a.state .run) ∨
    (relSt tt i a = fireState a.state .complete ∧
      (a.state = "Accepted" ∨ a.state = "Running" → isZero (some a.pending) = true ∧
        isZero (some (if i.ph = true then a.allocated else prune (subX a.allocated i.res))) = true) ∧
      (a.state = "Completing" → i.ph = true → isZero (some (prune (subX a.allocatedPh i.res))) = true)) := by
  unfold relSt
  cases hph : i.ph with
  | false =>
    simp only [Bool.false_eq_true, if_false]
    split
    · rename_i hc
      simp only [Bool.and_eq_true] at hc
      split
      · rename_i hF
        split
        · rename_i hz; exact Or.inr (Or.inl ⟨by simpa using hF, rfl, hz⟩)
        · exact Or.inl rfl
      · exact Or.inr (Or.inr (Or.inr ⟨rfl, fun _ => hc, fun _ h => by cases h⟩))
    · exact Or.inl rfl
  | true =>
    simp only [if_true]
    split
    · rename_i hc
      simp only [Bool.and_eq_true, Bool.or_eq_true, beq_iff_eq] at hc
      split
      · rename_i hF; exact Or.inr (Or.inl ⟨by simpa using hF, rfl, hc.1⟩)
      · split
        · rename_i hR; exact Or.inr (Or.inr (Or.inl ⟨by simpa using hR, rfl⟩))
        · refine Or.inr (Or.inr (Or.inr ⟨rfl, fun hAR => ?_, fun _ _ => hc.1⟩))
          -- from Accepted / Running only the fourth reason is left: everything at zero
          rcases hc.2 with ((h | h) | h) | h
          · rcases hAR with e | e <;> simp [e] at h
          · rcases hAR with e | e <;> simp [e] at h
          · rcases hAR with e | e <;> simp [e] at h
          · exact ⟨h.1.1.1, h.1.1.2⟩
    · exact Or.inl rfl

theorem relSt_moves (tt : TermType) (i : CItem) (a : CApp) : Moves a.state (relSt tt i a) := by
  rcases relSt_fires tt i a with e | ⟨hF, e, _⟩ | ⟨_, e⟩ | ⟨e, _⟩ <;> rw [e]
  · exact .stay _
  · rw [hF]; exact .fail
  · exact .run _
  · exact .complete _

theorem relAppT_loses (tt : TermType) (key : String) (i : CItem) (a : CApp) : Loses a.items (relAppT tt key i a).items := by
  rw [relAppT_items]
  exact ((Loses.refl _).updItem key itemLoses_unbind).filter _

/-- The state computed by `relAppT` / `relApp`, for any record `b` with that state whose totals are the released ones.
    `hreal`: a Completing application holds no real allocation, so only the release of a placeholder completes it. -/
theorem relSt_step {a b : CApp} (tt : TermType) (i : CItem) (hs : b.state = relSt tt i a) (hi : Loses a.items b.items)
    (hbb : AppBooks b) (hwb : AppWF b) (hpos : Pos b.items) (hp : b.pending = a.pending)
    (hal : b.allocated = if i.ph = true then a.allocated else prune (subX a.allocated i.res))
    (haph : b.allocatedPh = if i.ph = true then prune (subX a.allocatedPh i.res) else a.allocatedPh)
    (hreal : i.ph = false → a.state ≠ "Completing") : Life.Step a b := by
  rcases relSt_fires tt i a with e | ⟨hF, e, hz⟩ | ⟨hR, e⟩ | ⟨e, hidle, hdone⟩
  · exact .stay_of_loses (hs.trans e) hi
  · exact .ofFail hbb hwb hpos hF (hs.trans e) (haph ▸ hz)
  · exact .ofRun (hs.trans e) (by rw [hR]; rfl)
  · refine .ofComplete hbb hwb hpos (hs.trans e) hi (fun h => ⟨hp ▸ (hidle h).1, hal ▸ (hidle h).2⟩) (fun hC => ?_)
    cases hph : i.ph with
    | false => exact absurd hC (hreal hph)
    | true => rw [haph, hph, if_pos rfl]; exact hdone hC hph

theorem relAppT_step (tt : TermType) (key : String) (i : CItem) (a : CApp) (hba : AppBooks a) (hwa : AppWF a)
    (hca : AppCore a) (hlv : a.live = true) (him : i ∈ a.items) (hkey : i.key = key) (hbd : i.bound = true) :
    Life.Step a (relAppT tt key i a) :=
  relSt_step tt i (relAppT_state tt key i a) (relAppT_loses tt key i a) (appBooks_relAppT tt key i a hba hwa him hkey hbd)
    (appWF_relAppT tt key i a hwa) ((relAppT_loses tt key i a).pos (hca.pos hlv)) (relAppT_pending tt key i a)
    (relAppT_allocated tt key i a) (relAppT_allocatedPh tt key i a) (not_completing_of_real hca hlv him hbd)

theorem relAppT_failing_ph (tt : TermType) (key : String) (i : CItem) (a : CApp) (hph : i.ph = true)
    (hF : a.state = "Failing") :
    (relAppT tt key i a).state =
      if (isZero (some (relAppT tt key i a).allocatedPh) && isZero (some a.allocated)) = true then "Failed" else "Failing" := by
  rw [relAppT_state, relAppT_allocatedPh]
  unfold relSt
  simp only [hph, if_true, hF]
  cases isZero (some (prune (subX a.allocatedPh i.res))) <;> cases isZero (some a.allocated) <;> simp [fail_failing]

theorem relAppT_failing_ph_stays (tt : TermType) (key : String) (i : CItem) (a : CApp) (hph : i.ph = true)
    (hF : a.state = "Failing") (hreal : isZero (some a.allocated) = false) :
    (relAppT tt key i a).state = "Failing" ∧ (relAppT tt key i a).live = true := by
  have hs := relAppT_failing_ph tt key i a hph hF
  rw [hreal] at hs
  exact live_of_failing (relAppT_leaves tt key i a) (by simpa using hs)

theorem relAppT_failing_real (tt : TermType) (key : String) (i : CItem) (a : CApp) (hph : i.ph = false)
    (hF : a.state = "Failing") :
    (relAppT tt key i a).state =
      if (isZero (some a.pending) && isZero (some (relAppT tt key i a).allocated) && isZero (some a.allocatedPh)) = true
      then "Failed" else "Failing" := by
  rw [relAppT_state, relAppT_allocated]
  unfold relSt
  simp only [hph, Bool.false_eq_true, if_false, hF]
  cases isZero (some a.pending) <;> cases isZero (some (prune (subX a.allocated i.res))) <;>
    cases isZero (some a.allocatedPh) <;> simp [fail_failing]

theorem relAppT_failing_real_failed (tt : TermType) (key : String) (i : CItem) (a : CApp) (hph : i.ph = false)
    (hF : a.state = "Failing") (hp : isZero (some a.pending) = true)
    (hreal : isZero (some (relAppT tt key i a).allocated) = true) (hz : isZero (some a.allocatedPh) = true) :
    (relAppT tt key i a).state = "Failed" ∧ (relAppT tt key i a).live = false := by
  have hs := relAppT_failing_real tt key i a hph hF
  rw [hp, hreal, hz] at hs
  exact left_of_failed (relAppT_leaves tt key i a) (by simpa using hs)

end LifeB

/-! the four outcomes for a Failing application (fix 81c5cb7: Failed only when neither placeholders nor real allocations
  are left), case by case with the tests on the totals as YkProps/C06.lean states them -/
namespace LifeD

/-- a placeholder of a Failing application that still holds a real allocation goes: it stays Failing and live -/
theorem relAppT_failing_ph_stays (tt : TermType) (key : String) (i : CItem) (a : CApp) (hph : i.ph = true)
    (hF : a.state = "Failing") (hreal : isZero (some a.allocated) = false) :
    (relAppT tt key i a).state = "Failing" ∧ (relAppT tt key i a).live = true :=
  LifeB.relAppT_failing_ph_stays tt key i a hph hF hreal

/-- the last placeholder of a Failing application without real allocations goes: Failed and not live -/
theorem relAppT_failing_ph_failed (tt : TermType) (key : String) (i : CItem) (a : CApp) (hph : i.ph = true)
    (hF : a.state = "Failing") (hz : isZero (some (prune (subX a.allocatedPh i.res))) = true)
    (hreal : isZero (some a.allocated) = true) :
    (relAppT tt key i a).state = "Failed" ∧ (relAppT tt key i a).live = false := by
  have hs : (relAppT tt key i a).state = "Failed" := by
    rw [LifeB.relAppT_failing_ph tt key i a hph hF, relAppT_allocatedPh, if_pos hph, hz, hreal]; rfl
  exact ⟨hs, by rw [LifeB.relAppT_leaves, hs]; decide⟩

/-- a real allocation of a Failing application that still holds placeholders goes: it stays Failing and live -/
theorem relAppT_failing_real_stays (tt : TermType) (key : String) (i : CItem) (a : CApp) (hph : i.ph = false)
    (hF : a.state = "Failing") (hphs : isZero (some a.allocatedPh) = false) :
    (relAppT tt key i a).state = "Failing" ∧ (relAppT tt key i a).live = true := by
  have hs : (relAppT tt key i a).state = "Failing" := by
    rw [LifeB.relAppT_failing_real tt key i a hph hF, hphs, Bool.and_false]; rfl
  exact ⟨hs, by rw [LifeB.relAppT_leaves, hs]; decide⟩

/-- the last real allocation of a Failing application without placeholders and without pending asks goes: Failed and
    not live -/
theorem relAppT_failing_real_failed (tt : TermType) (key : String) (i : CItem) (a : CApp) (hph : i.ph = false)
    (hF : a.state = "Failing") (hp : isZero (some a.pending) = true)
    (hz : isZero (some (prune (subX a.allocated i.res))) = true) (hphs : isZero (some a.allocatedPh) = true) :
    (relAppT tt key i a).state = "Failed" ∧ (relAppT tt key i a).live = false :=
  LifeB.relAppT_failing_real_failed tt key i a hph hF hp
    (by rw [relAppT_allocated, if_neg (by rw [hph]; exact Bool.false_ne_true)]; exact hz) hphs

end LifeD

namespace LifeB

/-- for `nodeRmApp` (the record kept listed as live): from `AppCore`, not `AppLife`, since `a` may have terminated earlier
    in the same node removal -/
theorem relAppT_core (tt : TermType) (key : String) (i : CItem) (a : CApp) (hba : AppBooks a) (hwa : AppWF a)
    (hca : AppCore a) (hlv : a.live = true) (him : i ∈ a.items) (hkey : i.key = key) (hbd : i.bound = true) :
    AppCore { relAppT tt key i a with live := true } :=
  ((relAppT_step tt key i a hba hwa hca hlv him hkey hbd).setLive true).core hca hlv
    ((relAppT_loses tt key i a).pos (hca.pos hlv)) (fun h => by cases h)

theorem relAppT_life (tt : TermType) (key : String) (i : CItem) (a : CApp) (hba : AppBooks a) (hwa : AppWF a)
    (hla : AppLife a) (hlv : a.live = true) (him : i ∈ a.items) (hkey : i.key = key) (hbd : i.bound = true) :
    AppLife (relAppT tt key i a) ∧ (AppNoPend a → AppNoPend (relAppT tt key i a)) :=
  (relAppT_step tt key i a hba hwa hla.toAppCore hlv him hkey hbd).life hla hlv
    ((relAppT_loses tt key i a).pos (hla.pos hlv)) (relAppT_leaves tt key i a)

/-! ### `askAppT` -/

theorem askAppT_state_eq (key : String) (x : CItem) (a : CApp) :
    (askAppT key x a).state =
      if (isZero (some (askAppT key x a).pending) && isZero (some a.allocated) && a.state != "Failing" && a.state != "Completing" &&
          !((askAppT key x a).items.any (fun y => y.bound && y.ph))) = true
      then fireState a.state .complete else a.state := by
  rw [askAppT_pending, askAppT_items]
  exact setState_state _ _

theorem askAppT_moves (key : String) (x : CItem) (a : CApp) : Moves a.state (askAppT key x a).state := by
  rw [askAppT_state_eq]
  exact .ite_complete _

theorem askAppT_loses (key : String) (x : CItem) (a : CApp) : Loses a.items (askAppT key x a).items := by
  rw [askAppT_items]
  exact ((Loses.refl _).updItem key itemLoses_unreq).filter _

theorem askAppT_step (key : String) (x : CItem) (a : CApp) (hba : AppBooks a) (hwa : AppWF a) (hpos : Pos a.items)
    (hxm : x ∈ a.items) (hxk : x.key = key) (hxreq : x.inReq = true) : Life.Step a (askAppT key x a) := by
  have hi := askAppT_loses key x a
  have hst := askAppT_state_eq key x a
  split at hst
  · rename_i hc
    simp only [Bool.and_eq_true, bne_iff_ne, ne_eq] at hc
    exact .ofComplete (appBooks_askAppT key x a hba hwa hxm hxk hxreq) (appWF_askAppT key x a hwa) (hi.pos hpos) hst hi
      (fun _ => ⟨hc.1.1.1.1, by rw [askAppT_allocated]; exact hc.1.1.1.2⟩) (fun h => absurd h hc.1.2)
  · exact .stay_of_loses hst hi

theorem askAppT_not_terminated (key : String) (x : CItem) (a : CApp) (hnt : terminated a.state = false) :
    terminated (askAppT key x a).state = false := by
  rw [askAppT_state_eq]
  exact ite_complete_not_terminated (fun hc => by simp only [Bool.and_eq_true, bne_iff_ne, ne_eq] at hc; exact hc.1.2) hnt

theorem askAppT_life (key : String) (x : CItem) (a : CApp) (hba : AppBooks a) (hwa : AppWF a) (hla : AppLife a)
    (hlv : a.live = true) (hxm : x ∈ a.items) (hxk : x.key = key) (hxreq : x.inReq = true) :
    AppLife (askAppT key x a) ∧ (AppNoPend a → AppNoPend (askAppT key x a)) :=
  (askAppT_step key x a hba hwa (hla.pos hlv) hxm hxk hxreq).life_kept hla hlv ((askAppT_loses key x a).pos (hla.pos hlv))
    ((askAppT_live key x a).trans hlv) (askAppT_not_terminated key x a (hla.termGone hlv))

/-! ### `swapStartApp` -/

theorem swapStartApp_loses (realKey phKey node : String) (r : CItem) (a : CApp) :
    Loses a.items (swapStartApp realKey phKey node r a).items :=
  have g1 : ItemLoses (fun x : CItem => { x with allocated := true, node := node, release := some phKey }) :=
    fun _ => ⟨rfl, rfl, id, fun h => (by simp [CItem.outstanding] at h)⟩
  have g2 : ItemLoses (fun x : CItem => { x with released := true, release := some realKey }) := fun _ => ⟨rfl, rfl, id, id⟩
  ((Loses.refl _).updItem realKey g1).updItem phKey g2

theorem swapStartApp_step (realKey phKey node : String) (r : CItem) (a : CApp) :
    Life.Step a (swapStartApp realKey phKey node r a) :=
  .stay_of_loses rfl (swapStartApp_loses realKey phKey node r a)

/-! ### `replApp` -/

/-- the state after the placeholder left (first half of `replApp`) -/
def replSt1 (p : CItem) (a : CApp) : String :=
  if (isZero (some (prune (subX a.allocatedPh p.res))) &&
      ((a.state == "Failing" && isZero (some a.allocated)) || a.state == "Resuming")) = true then
    (if (a.state == "Failing") = true then fireState a.state .fail else fireState a.state .run)
  else a.state

theorem replApp_live (p r : CItem) (a : CApp) : (replApp p r a).live = !(terminated (replSt1 p a)) := by
  unfold replApp replSt1; simp

theorem replApp_state (p r : CItem) (a : CApp) :
    (replApp p r a).state =
      if (!(isZero (some a.allocated)) || replSt1 p a == "Completing") = true then fireState (replSt1 p a) .run else replSt1 p a := by
  unfold replApp replSt1; simp [setState_state]

theorem replApp_ne_completing (p r : CItem) (a : CApp) : (replApp p r a).state ≠ "Completing" := by
  rw [replApp_state]
  split
  · exact run_ne_completing _
  · rename_i hc
    intro h
    apply hc
    rw [h]; simp

theorem replApp_terminated (p r : CItem) (a : CApp) (h : terminated (replApp p r a).state = true) :
    terminated (replSt1 p a) = true := by
  rw [replApp_state] at h
  split at h
  · exact run_terminated _ h
  · exact h

theorem replSt1_terminated (p r : CItem) (a : CApp) (hnt : terminated a.state = false) (h : terminated (replSt1 p a) = true) :
    isZero (some (replApp p r a).allocatedPh) = true := by
  rw [replApp_allocatedPh]
  unfold replSt1 at h
  split at h
  · rename_i hc
    simp only [Bool.and_eq_true] at hc
    exact hc.1
  · rw [hnt] at h; cases h

/-- fix 81c5cb7: Failed only when that was the last placeholder and no real allocation is held -/
theorem replSt1_failing (p : CItem) (a : CApp) (hF : a.state = "Failing") :
    replSt1 p a =
      if (isZero (some (prune (subX a.allocatedPh p.res))) && isZero (some a.allocated)) = true then "Failed" else "Failing" := by
  unfold replSt1
  simp only [hF]
  cases isZero (some (prune (subX a.allocatedPh p.res))) <;> cases isZero (some a.allocated) <;> simp [fail_failing]

theorem replApp_failing_stays (p r : CItem) (a : CApp) (hF : a.state = "Failing") (hreal : isZero (some a.allocated) = false) :
    replSt1 p a = "Failing" ∧ (replApp p r a).live = true := by
  have hs := replSt1_failing p a hF
  rw [hreal, Bool.and_false] at hs
  simp only [Bool.false_eq_true, if_false] at hs
  refine ⟨hs, ?_⟩
  rw [replApp_live, hs]; simp [terminated]

theorem replSt1_completed (p : CItem) (a : CApp) (h : replSt1 p a = "Completed") : a.state = "Completed" := by
  unfold replSt1 at h
  split at h
  · rename_i hc
    simp only [Bool.and_eq_true, Bool.or_eq_true, beq_iff_eq] at hc
    rcases hc.2 with ⟨e, _⟩ | e
    · simp [e, fail_failing] at h
    · simp [e, fireState_run] at h
  · exact h

theorem replApp_completed (p r : CItem) (a : CApp) (h : (replApp p r a).state = "Completed") : a.state = "Completed" := by
  rw [replApp_state] at h
  split at h
  · exact replSt1_completed p a (run_completed _ h)
  · exact replSt1_completed p a h

theorem mem_replItems' {p r : CItem} {a : CApp} {y : CItem} (hy : y ∈ (replApp p r a).items) :
    (∃ x ∈ a.items, y.res = x.res) ∨ y.res = r.res := by
  rw [replApp_items] at hy
  rcases mem_replItems hy with ⟨x, hx, _, hr, _⟩ | ⟨h, _⟩
  · exact Or.inl ⟨x, hx, hr⟩
  · exact Or.inr (by rw [h])

/-- RunApplication, fired in the second half of `replApp`, does not move a terminated state -/
theorem replApp_leaves (p r : CItem) (a : CApp) : (replApp p r a).live = !(terminated (replApp p r a).state) := by
  rw [replApp_live]
  cases h : terminated (replSt1 p a) with
  | true =>
    have : (replApp p r a).state = replSt1 p a := by
      rw [replApp_state]
      split
      · rw [fireState_run]
        simp only [terminated, Bool.or_eq_true, beq_iff_eq] at h
        rcases h with h | h <;> simp [h]
      · rfl
    rw [this, h]
  | false =>
    cases h' : terminated (replApp p r a).state with
    | false => rfl
    | true => rw [replApp_terminated p r a h'] at h; cases h

theorem not_terminated_of_ph {a : CApp} {p r : CItem} (hok : ReplOK a p r) (hca : AppCore a) : terminated a.state = false := by
  cases ht : terminated a.state with
  | false => rfl
  | true =>
    have := hca.noPhOrphan (Or.inr ht) p hok.pIn hok.pBound
    rw [hok.pPh] at this; cases this

/-- never Completing afterwards; terminated only as Failed, with the last placeholder gone -/
theorem replApp_step (p r : CItem) (a : CApp) (hba : AppBooks a) (hwa : AppWF a) (hok : ReplOK a p r)
    (hpos : Pos (replApp p r a).items) (hnt : terminated a.state = false) : Life.Step a (replApp p r a) := by
  by_cases ht : terminated (replApp p r a).state = true
  · refine .failed ?_ (((appBooks_replApp a p r hba hwa hok).none_of_zero (appWF_replApp a p r hwa hok) hpos).2.1
      (replSt1_terminated p r a hnt (replApp_terminated p r a ht)))
    simp only [terminated, Bool.or_eq_true, beq_iff_eq] at ht
    rcases ht with h | h
    · simp [replApp_completed p r a h, terminated] at hnt
    · exact h
  · exact .safe (replApp_ne_completing p r a) (by simpa using ht)

theorem replApp_pos (p r : CItem) (a : CApp) (hpa : Pos a.items) (hrpos : PosRes r.res) : Pos (replApp p r a).items := by
  intro y hy
  rcases mem_replItems' hy with ⟨x, hx, hr⟩ | hr
  · rw [hr]; exact hpa x hx
  · rw [hr]; exact hrpos

/-- for `confirmApp` (the record kept listed as live) -/
theorem replApp_core (p r : CItem) (a : CApp) (hba : AppBooks a) (hwa : AppWF a) (hok : ReplOK a p r) (hca : AppCore a)
    (hlv : a.live = true) (hrpos : PosRes r.res) : AppCore { replApp p r a with live := true } :=
  ((replApp_step p r a hba hwa hok (replApp_pos p r a (hca.pos hlv) hrpos) (not_terminated_of_ph hok hca)).setLive true).core
    hca hlv (replApp_pos p r a (hca.pos hlv) hrpos) (fun h => by cases h)

theorem replApp_life (p r : CItem) (a : CApp) (hba : AppBooks a) (hwa : AppWF a) (hok : ReplOK a p r)
    (hla : AppLife a) (hlv : a.live = true) (hrpos : PosRes r.res) :
    AppLife (replApp p r a) ∧ (AppNoPend a → AppNoPend (replApp p r a)) :=
  (replApp_step p r a hba hwa hok (replApp_pos p r a (hla.pos hlv) hrpos) (hla.termGone hlv)).life hla hlv
    (replApp_pos p r a (hla.pos hlv) hrpos) (replApp_leaves p r a)

theorem findReal_pos (s : Core) (a : CApp) (rk : String) (r : CItem) (hl : LifeCore s) (ham : a ∈ s.apps) (hlv : a.live = true)
    (h : findReal s a rk = some r) : PosRes r.res := by
  unfold findReal at h
  split at h
  · rename_i r' hr'
    simp only [Option.some.injEq] at h
    subst h
    exact hl.pos a ham hlv r' (List.mem_of_find?_eq_some hr')
  · obtain ⟨n, hn, hx⟩ := List.exists_of_findSome?_eq_some h
    cases hf : n.allocs.find? (fun x => x.key == rk && x.app == a.id && !x.foreign) with
    | none => rw [hf] at hx; cases hx
    | some x =>
      rw [hf] at hx
      simp only [Option.map_some, Option.some.injEq] at hx
      subst hx
      have hp := List.find?_some hf
      simp only [Bool.and_eq_true, Bool.not_eq_true'] at hp
      exact hl.posNode n hn x (List.mem_of_find?_eq_some hf) hp.2

/-! ### the state after `relBoundT`, `askRemoveT`, `swapMain` -/

/-- the applications' books alone: they need no condition on the nodes -/
theorem appsBooks_relBoundT (s : Core) (tt : TermType) (app key : String) (a : CApp) (i : CItem) (hw : CoreWF s)
    (hba : ∀ b ∈ s.apps, b.live = true → AppBooks b)
    (hfind : s.findApp app = some a) (hitem : a.items.find? (·.key == key) = some i) :
    ∀ b ∈ (relBoundT s tt app key a i).apps, b.live = true → AppBooks b := by
  cases hbd : i.bound with
  | false => rw [relBoundT_unbound _ _ _ _ _ _ hbd]; exact hba
  | true =>
    have sh := shape_relBoundT s tt app key a i hfind hbd
    obtain ⟨ham, hlv, _⟩ := sh.mem
    obtain ⟨him, hkey⟩ := find_key_some hitem
    exact sh.all (P := fun b => b.live = true → AppBooks b) hw
      (fun _ => appBooks_relAppT tt key i a (hba a ham hlv) (hw.app ham hlv) him hkey hbd) hba

theorem life_nopend_relBoundT (s : Core) (tt : TermType) (app key : String) (a : CApp) (i : CItem) (hw : CoreWF s)
    (hba : ∀ b ∈ s.apps, b.live = true → AppBooks b) (hl : LifeInv s)
    (hfind : s.findApp app = some a) (hitem : a.items.find? (·.key == key) = some i) :
    LifeInv (relBoundT s tt app key a i) ∧ (NoPendInv s → NoPendInv (relBoundT s tt app key a i)) := by
  cases hbd : i.bound with
  | false => rw [relBoundT_unbound _ _ _ _ _ _ hbd]; exact ⟨hl, id⟩
  | true =>
    have sh := shape_relBoundT s tt app key a i hfind hbd
    obtain ⟨ham, hlv, _⟩ := sh.mem
    obtain ⟨him, hkey⟩ := find_key_some hitem
    exact sh.life hw hl (relAppT_life tt key i a (hba a ham hlv) (hw.app ham hlv) (appLife_of hl ham) hlv him hkey hbd)
      (addsPos_nodeRm key i.res).onNodeId

theorem life_nopend_askRemoveT (s1 : Core) (app key : String) (chain : List String) (hw : CoreWF s1)
    (hba : ∀ b ∈ s1.apps, b.live = true → AppBooks b) (hl : LifeInv s1) :
    LifeInv (askRemoveT s1 app key chain) ∧ (NoPendInv s1 → NoPendInv (askRemoveT s1 app key chain)) := by
  rcases shape_askRemoveT s1 app key chain hw with e | ⟨a1, x, hitem, sh⟩
  · rw [e]; exact ⟨hl, id⟩
  · obtain ⟨ham, hlv, _⟩ := sh.mem
    obtain ⟨hxm, hxk, hxreq⟩ := find_request hitem
    exact sh.life hw hl (askAppT_life key x a1 (hba a1 ham hlv) (hw.app ham hlv) (appLife_of hl ham) hlv hxm hxk hxreq)
      (.of_irrel (askResvN_irrel key a1))

theorem swapCase_pos {s : Core} {app phKey : String} {a : CApp} {p r : CItem} (hl : LifeInv s)
    (hc : SwapCase s app phKey a p r) : PosRes r.res := by
  obtain ⟨ham, hlv, _⟩ := findApp_some hc.app
  obtain ⟨rk, _, hrk⟩ := Option.bind_eq_some_iff.mp hc.real
  exact findReal_pos s a rk r hl.toLifeCore ham hlv hrk

theorem life_nopend_swapMain (s : Core) (app phKey : String) (a : CApp) (p r : CItem) (hw : CoreWF s) (hb : Books s) (hl : LifeInv s)
    (hok : SwapOK s app phKey) (hc : SwapCase s app phKey a p r) :
    LifeInv (swapMain s app phKey a p r) ∧ (NoPendInv s → NoPendInv (swapMain s app phKey a p r)) := by
  have sh := shape_swapMain s app phKey a p r hc.app
  obtain ⟨ham, hlv, _⟩ := sh.mem
  have hrpos := swapCase_pos hl hc
  refine sh.life hw hl
    (replApp_life p r a (hb.apps a ham hlv) (hw.app ham hlv) (hok.repl a p r hc) (appLife_of hl ham) hlv hrpos) (.onNodeId ?_)
  split
  · exact addsPos_nodeSwap app p r hrpos
  · exact addsPos_nodeRm phKey p.res

end LifeB

open LifeB

theorem life_relBoundT (s : Core) (tt : TermType) (app key : String) (a : CApp) (i : CItem) (hw : CoreWF s) (hb : Books s)
    (hl : LifeInv s) (hfind : s.findApp app = some a) (hitem : a.items.find? (·.key == key) = some i) :
    LifeInv (relBoundT s tt app key a i) :=
  (life_nopend_relBoundT s tt app key a i hw hb.apps hl hfind hitem).1

/-! ### `releaseKeyT` -/

/-- partition.removeAllocation(app, key, tt) keeps the life-cycle invariant (no side condition: the applications' books of
    the intermediate state do not depend on the node the allocation names) -/
theorem life_nopend_releaseKeyT (s : Core) (tt : TermType) (app key : String) (hw : CoreWF s) (hb : Books s) (hl : LifeInv s) :
    LifeInv (s.releaseKeyT tt app key) ∧ (NoPendInv s → NoPendInv (s.releaseKeyT tt app key)) := by
  rcases releaseKeyT_cases s tt app key with e | ⟨a, i, hfind, hitem, e⟩
  · rw [e]; exact ⟨hl, id⟩
  · obtain ⟨hl1, hp1⟩ := life_nopend_relBoundT s tt app key a i hw hb.apps hl hfind hitem
    obtain ⟨hl2, hp2⟩ := life_nopend_askRemoveT _ app key (pathChain s a.queue) (wf_relBoundT s tt app key a i hw hfind)
      (appsBooks_relBoundT s tt app key a i hw hb.apps hfind hitem) hl1
    rw [e]
    split
    · exact ⟨hl1, hp1⟩
    · exact ⟨hl2, fun hp => hp2 (hp1 hp)⟩

/-! ### `swapStart` -/

/-- tryPlaceholderAllocate decided a replacement: flags change, the state does not; the node the real half is parked on
    gains an entry of the size of the real ask.  The real ask stops being outstanding, nothing becomes outstanding. -/
theorem life_nopend_swapStart (s s' : Core) (app realKey phKey node : String) (hw : CoreWF s) (hl : LifeInv s)
    (h : s.swapStart app realKey phKey node = some s') : LifeInv s' ∧ (NoPendInv s → NoPendInv s') := by
  obtain ⟨a, r, p, hr, _, sh⟩ := shape_swapStart s s' app realKey phKey node hw h
  obtain ⟨ham, hlv, _⟩ := sh.mem
  obtain ⟨hrm, _, _, _⟩ := find_outstanding hr
  have hn : AddsPos (addAllocNode { key := realKey, app := app, res := r.res, foreign := false, ph := false }) :=
    addsPos_addAllocNode (hl.pos a ham hlv r hrm)
  refine sh.life hw hl ((swapStartApp_step realKey phKey node r a).life_kept (appLife_of hl ham) hlv
    ((swapStartApp_loses realKey phKey node r a).pos (hl.pos a ham hlv)) hlv (hl.termGone a ham hlv)) ?_
  split
  · exact hn.onNodeId
  · exact .self

/-! ### `swapConfirm` -/

theorem life_nopend_swapConfirm (s : Core) (app phKey : String) (hw : CoreWF s) (hb : Books s) (hl : LifeInv s)
    (hok : SwapOK s app phKey) :
    LifeInv (s.swapConfirm app phKey) ∧ (NoPendInv s → NoPendInv (s.swapConfirm app phKey)) := by
  rcases swapConfirm_cases s app phKey with e | e | ⟨a, p, r, hc⟩
  · rw [e]; exact ⟨hl, id⟩
  · rw [e]; exact life_nopend_releaseKeyT s .replaced app phKey hw hb hl
  · rw [swapConfirm_main s app phKey a p r hc]
    obtain ⟨hl1, hp1⟩ := life_nopend_swapMain s app phKey a p r hw hb hl hok hc
    obtain ⟨hl2, hp2⟩ := life_nopend_askRemoveT _ app phKey (pathChain s a.queue) (wf_swapMain s app phKey a p r hw hok hc)
      (books_swapMain s app phKey a p r hw hb hok hc).apps hl1
    exact ⟨hl2, fun hp => hp2 (hp1 hp)⟩

end Yk
