/- tools/okstat.lean: for every line of a full-stack trace (harness `-c core`), which operations of the stepped model the
   line corresponds to (YkDrv/CoreStep.stepOps) and whether the side condition of `books_reachable` (`Op.ok`, checked by
   the executable sufficient test `Op.okb` of YkProofs/Core2Check.lean) holds in the implementation's own state; also
   whether that state is `Linked` (`linkedb`) and meets the reduced condition `Op.ok2` (`Op.okb2`, Core2LinkCheck.lean).
   Usage (from lean/):  lake env lean --run ../tools/okstat.lean < trace.jsonl | sort | uniq -c -/
import YkDrv.CoreDrv
import YkProofs.Core2Check
import YkProofs.Core2LinkCheck
open Lean Yk Yk.Core YkDrv

def opName : Op → String
  | .nodeCreate .. => "nodeCreate" | .nodeUpdate .. => "nodeUpdate" | .nodeSchedulable .. => "nodeSchedulable"
  | .nodeRemove .. => "nodeRemove" | .foreignAdd .. => "foreignAdd" | .foreignRemove .. => "foreignRemove"
  | .appAdd .. => "appAdd" | .appRemove .. => "appRemove" | .ask .. => "ask" | .schedAlloc .. => "schedAlloc"
  | .swapStart .. => "swapStart" | .swapConfirm .. => "swapConfirm" | .releaseKey .. => "releaseKey"
  | .release .. => "release" | .releaseApp .. => "releaseApp" | .markReleased .. => "markReleased"
  | .phTimeout .. => "phTimeout" | .stateTimeout .. => "stateTimeout" | .cleanup => "cleanup"
  | .reserve .. => "reserve" | .unreserve .. => "unreserve"

partial def loop (h : IO.FS.Stream) (out : IO.FS.Stream) (prev : Option Core) : IO Unit := do
  let line ← h.getLine
  if line.isEmpty then return ()
  match Json.parse line with
  | .error _ => loop h out prev
  | .ok j =>
    let op := (jStr (fldD j "op" (.str ""))).toOption.getD ""
    let post := ((fld j "st") >>= jCore).toOption
    if op == "reset" then loop h out post else
    match prev, post with
    | some pre, some pst =>
      let msgs := ((jArr (fldD j "msgs" (.arr #[]))).toOption.getD #[]).toList
      match stepOps pre pst op j msgs with
      | none => out.putStrLn "unmodelled"
      | some ops =>
        -- the side condition of every operation of the line, in the state it is applied to
        let (_, bad, bad2) := ops.foldl (fun (acc : Core × List String × List String) o =>
          (o.apply acc.1, (if o.okb acc.1 then acc.2.1 else acc.2.1 ++ [opName o]),
                          (if o.okb2 acc.1 then acc.2.2 else acc.2.2 ++ [opName o]))) (pre, [], [])
        let lk := if linkedb pre then "linked" else "NOT-linked"
        out.putStrLn ((if bad.isEmpty then "ok-holds" else "ok-fails(" ++ " ".intercalate bad ++ ")") ++ " " ++
                      (if bad2.isEmpty then "ok2-holds" else "ok2-fails(" ++ " ".intercalate bad2 ++ ")") ++ " " ++ lk)
      loop h out post
    | _, _ => loop h out post

def main : IO Unit := do
  loop (← IO.getStdin) (← IO.getStdout) none
