/-
  C01 — The scheduler never over-commits a node (node ledger clauses).
  Property theorems only.  `Node` (YkModel/Node.lean) mirrors objects.Node: `available` is a cached field
  updated exactly where the code updates it.  The bind-guard clauses (registered / schedulable / reserved /
  required node / predicate) are decided on the full-stack model (Core) — see DESIGN.md C01.
-/
import YkProofs.Node
namespace Yk.C01
open Yk Yk.Res

/-- the caller contract of each node operation (what partition.go / application.go guarantee) -/
def Pre (n : Node) : NodeOp → Prop
  | .setCapacity c => wf c = true
  | .setOccupied o => wf o = true
  | .updateAllocated k r => wf r = true ∧ (∀ a, n.findAlloc k = some a → a.foreign = false)
  | .tryAdd a => wf a.res = true ∧ n.findAlloc a.key = none
  | .forceAdd a => wf a.res = true ∧ n.findAlloc a.key = none
  | .remove _ => True
  | .updateForeign a => wf a.res = true ∧ a.foreign = true ∧ (∀ e, n.findAlloc a.key = some e → e.foreign = true)
  | .replace old a delta =>
      wf a.res = true ∧ wf delta = true ∧ a.foreign = false ∧
      (∃ e, n.findAlloc old = some e ∧ e.foreign = false ∧ ∀ k, delta.getD k = a.res.getD k - e.res.getD k) ∧
      (a.key = old ∨ n.findAlloc a.key = none)
  | .setSchedulable _ => True

/-- every operation of a history meets its contract in the state it is applied to -/
def PreAll : Node → List NodeOp → Prop
  | _, [] => True
  | n, op :: ops => Pre n op ∧ PreAll (n.step op).1 ops

def run (n : Node) (ops : List NodeOp) : Node := ops.foldl (fun s op => (s.step op).1) n

/-- One step: the ledger (allocated = Σ allocations bound to the node, available = capacity − allocated −
    occupied, as sparse vectors: a missing type is 0) is preserved by every node operation — all ten,
    including forced adds, foreign allocations, capacity/occupied changes, in-place updates and placeholder
    replacement. -/
theorem ledger_step (n : Node) (op : NodeOp) (hw : NodeWF n) (hl : Ledger n) (hp : Pre n op) :
    NodeWF (n.step op).1 ∧ Ledger (n.step op).1 :=
  node_ledger_step n op hw hl hp

/-- Every reachable state: for every history of node operations from a fresh node. -/
theorem ledger_run (total : Res) (ht : wf total = true) (ops : List NodeOp) (hp : PreAll (Node.new total) ops) :
    Ledger (run (Node.new total) ops) :=
  (node_run_ok PreAll (fun _ _ _ h => h) _ ops (node_new_ok total ht).1 (node_new_ok total ht).2 hp).2

/-- The executable clauses the driver evaluates on states dumped from the implementation are exactly `Ledger`. -/
theorem ledger_exec_iff (n : Node) (hw : NodeWF n) :
    (n.ledgerAllocated = true ∧ n.ledgerAvailable = true) ↔ Ledger n := by
  constructor
  · intro ⟨h1, h2⟩ k
    by_cases hk : k ∈ Node.allKeys n
    · have e1 := List.all_eq_true.mp h1 k hk
      have e2 := List.all_eq_true.mp h2 k hk
      rw [sumAllocs_getD n hw.allocRes] at e1
      exact ⟨by simpa using e1, by simpa using e2⟩
    · unfold Node.allKeys at hk
      simp only [List.mem_append, not_or, List.mem_flatten, List.mem_map, not_exists, not_and] at hk
      obtain ⟨⟨⟨⟨ht, ho⟩, ha⟩, hv⟩, hr⟩ := hk
      rw [getD_of_not_mem_keys ht, getD_of_not_mem_keys ho, getD_of_not_mem_keys ha, getD_of_not_mem_keys hv]
      refine ⟨?_, by omega⟩
      rw [nfSum_zero]
      intro a ham
      exact getD_of_not_mem_keys (fun hc => hr _ ⟨a, ham, rfl⟩ hc)
  · intro hl
    constructor
    · unfold Node.ledgerAllocated
      rw [List.all_eq_true]
      intro k _
      rw [sumAllocs_getD n hw.allocRes, (hl k).1]
      simp
    · unfold Node.ledgerAvailable
      rw [List.all_eq_true]
      intro k _
      rw [(hl k).2]
      simp

/-- A scheduler-path add (TryAddAllocation) succeeds only if the ask fits in what is available:
    every requested quantity is at most the available quantity (a missing or negative available type is 0). -/
theorem tryAdd_fits (n : Node) (a : NAlloc) (h : (n.step (.tryAdd a)).2 = true) :
    ∀ p ∈ a.res, p.2 ≤ max 0 (n.available.getD p.1) := by
  simp only [Node.step, Node.addInternal, Bool.false_or] at h
  split at h
  · exact fitInStd_le _ _ ‹_›
  · cases h

/-- …and a refused add changes nothing. -/
theorem tryAdd_refused_unchanged (n : Node) (a : NAlloc) (h : (n.step (.tryAdd a)).2 = false) :
    (n.step (.tryAdd a)).1 = n := by
  simp only [Node.step, Node.addInternal, Bool.false_or] at h ⊢
  split at h
  · cases h
  · rw [if_neg ‹_›]

/-- available can only become negative through an externally forced change: the scheduler's own operations
    (a successful TryAddAllocation, RemoveAllocation of an allocation with non-negative resources, and a
    placeholder replacement whose delta is ≤ 0) keep every available quantity non-negative. -/
theorem sched_ops_keep_available_nonneg (n : Node) (hw : NodeWF n) (h0 : ∀ k, 0 ≤ n.available.getD k) :
    (∀ a, Pre n (.tryAdd a) → ∀ k, 0 ≤ (n.step (.tryAdd a)).1.available.getD k) ∧
    (∀ key, (∀ a, n.findAlloc key = some a → ∀ k, 0 ≤ a.res.getD k) → ∀ k, 0 ≤ (n.step (.remove key)).1.available.getD k) ∧
    (∀ old a delta, Pre n (.replace old a delta) → (∀ k, delta.getD k ≤ 0) →
        ∀ k, 0 ≤ (n.step (.replace old a delta)).1.available.getD k) := by
  refine ⟨?_, ?_, ?_⟩
  · intro a hp k
    have ha : wf a.res = true := hp.1
    show 0 ≤ (n.addInternal a false).1.available.getD k
    by_cases hfit : fitInStd (some n.available) (some a.res) = true
    · rw [addInternal_available n a false (by simp [hfit]), prune_subX_getD _ _ hw.available ha]
      have hk := h0 k
      cases hg : get? a.res k with
      | none => rw [getD_eq_get? a.res, hg]; simpa using hk
      | some v =>
        have := fitInStd_le _ _ hfit (k, v) (mem_of_get? hg)
        rw [getD_eq_get? a.res, hg]
        simp only [Option.getD_some] at this ⊢
        omega
    · have : (n.addInternal a false).1 = n := by
        unfold Node.addInternal
        rw [if_neg (by simpa using hfit)]
      rw [this]; exact h0 k
  · intro key hnn k
    simp only [Node.step]
    split
    · exact h0 k
    · rename_i a hf
      have ham := List.mem_of_find?_eq_some hf
      have ha := hw.allocRes a ham
      have h1 := hnn a hf k
      have h2 := h0 k
      have : ∀ (m : Node), m.available = n.available → 0 ≤ (addX m.available a.res).getD k := by
        intro m hm; rw [hm, addX_getD _ _ ha]; omega
      cases a.foreign
      · exact this _ rfl
      · exact this _ rfl
  · intro old a delta hp hd k
    have hdw : wf delta = true := hp.2.1
    show 0 ≤ (prune (subX n.available delta)).getD k
    rw [prune_subX_getD _ _ hw.available hdw]
    have := hd k; have := h0 k; omega

/-- non-vacuity: a concrete history meeting every contract, and the forced operations that do drive
    `available` negative (each an externally forced change the property allows). -/
example : PreAll (Node.new [("cpu", 10)])
    [.tryAdd ⟨"a1", [("cpu", 4)], false⟩, .forceAdd ⟨"f1", [("cpu", 3)], true⟩, .remove "a1", .setCapacity [("cpu", 2)]] := by
  simp only [PreAll, Pre]; decide
example : (run (Node.new [("cpu", 10)]) [.forceAdd ⟨"a1", [("cpu", 14)], false⟩]).available = [("cpu", -4)] := by decide +kernel
example : (run (Node.new [("cpu", 10)]) [.tryAdd ⟨"a1", [("cpu", 6)], false⟩, .setCapacity [("cpu", 2)]]).available = [("cpu", -4)] := by decide +kernel
example : (run (Node.new [("cpu", 10)]) [.tryAdd ⟨"a1", [("cpu", 6)], false⟩, .setOccupied [("cpu", 7)]]).available = [("cpu", -3)] := by decide +kernel

end Yk.C01
