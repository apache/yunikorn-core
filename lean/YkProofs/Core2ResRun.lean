/-
  The reservation invariant `ResInv` (C09) along histories of the stepped Core model; the removed node is gone
  (`nodeRemove_findNode`).
-/
import YkProofs.Core2LifeRun
import YkProofs.Core2ResOps
import YkProofs.Core2ResRel
import YkProofs.Core2ResApp
import YkProofs.Core2ResNode
import YkProofs.Core2ResCheck
namespace Yk
open Res Core

theorem step_res (s : Core) (op : Op) (hi : CoreInv s) (hr : ResInv s) (hok : op.ok2 s) (hor : op.okRes s) :
    ResInv (op.apply s) := by
  have hfull := ok_of_ok2 s op hi.linked hok
  cases op with
  | nodeCreate id cap b => exact res_nodeCreate s id cap b hr
  | nodeUpdate id cap => exact res_nodeUpdate s id cap hr
  | nodeSchedulable id b => exact res_nodeSchedulable s id b hr
  | nodeRemove id order => exact res_nodeRemove s id order hi hr hfull
  | foreignAdd key node res => exact res_foreignAdd s key node res hr
  | foreignRemove key => exact res_foreignRemove s key hr
  | appAdd a nq => exact res_appAdd s a nq hr hor
  | appRemove app => exact res_appRemove s app hi.wf hr
  | ask app key res ph tg reqNode => exact res_ask s app key res ph tg reqNode hi.wf hr
  | schedAlloc app key node =>
    exact getD_keeps (P := ResInv) hr (fun s' h => res_schedAlloc s s' app key node hi.wf hr hor h)
  | swapStart app realKey phKey node =>
    exact getD_keeps (P := ResInv) hr (fun s' h => res_swapStart s s' app realKey phKey node hi.wf hr hor h)
  | swapConfirm app phKey => exact res_swapConfirm s app phKey hi hr hfull
  | releaseKey app key => exact res_releaseKey s app key hi hr hor
  | release tt app key => exact res_releaseKeyT s tt app key hi hr
  | releaseApp tt app => exact res_releaseApp s tt app hi hr
  | markReleased app key p => exact res_markReleased s app key p hi.wf hr
  | phTimeout app ev => exact res_phTimeout s app ev hi.wf hr
  | stateTimeout app => exact res_stateTimeout s app hi.wf hr
  | cleanup => exact res_cleanup s hr
  | reserve app key node => exact res_reserve s app key node hi.wf hi.life hr hor
  | unreserve app key node => exact res_unreserve s app key node hi.wf hr

/-- Whole histories, from a state satisfying `CoreInv` (well-formed, balanced, linked, life-cycle invariant) and `ResInv`,
    every step meeting `Op.ok2`, `Op.okLife` (`RunLifeOK`) and `Op.okRes` (`RunResOK`). -/
theorem reachable_resinv (s : Core) (ops : List Op) (hi : CoreInv s) (hr : ResInv s) (hok : RunLifeOK s ops)
    (hres : RunResOK s ops) : CoreInv (run s ops) ∧ ResInv (run s ops) := by
  induction ops generalizing s with
  | nil => exact ⟨hi, hr⟩
  | cons op t ih =>
    obtain ⟨⟨h1, h1'⟩, h2⟩ := hok
    obtain ⟨r1, r2⟩ := hres
    obtain ⟨hb', hw'⟩ := step_props s op hi.wf hi.books (ok_of_ok2 s op hi.linked h1)
    exact ih (op.apply s)
      ⟨hw', hb', step_linked s op hi.wf hi.books hi.linked h1, step_life s op hi.wf hi.books hi.linked hi.life h1 h1'⟩
      (step_res s op hi hr h1 r1) h2 r2

theorem nodeRemove_findNode (s : Core) (id : String) (order : List (String × String)) :
    (s.nodeRemove id order).findNode id = none := by
  unfold nodeRemove
  split
  · rename_i h; exact h
  · unfold findNode
    show (List.filter (fun (n : CNode) => n.id != id) _).find? (fun (n : CNode) => n.id == id) = none
    rw [List.find?_eq_none]
    intro n hn
    have := (List.mem_filter.mp hn).2
    simpa using this

end Yk
