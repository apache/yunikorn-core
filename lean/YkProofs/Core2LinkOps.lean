/-
  `Linked` (I8 of C03) is preserved by the operations of YkModel/CoreOps.lean (`nodeCreate`, `nodeUpdate`,
  `nodeSchedulable`, `foreignAdd`, `foreignRemove`, `ask`, `schedAlloc`, `releaseKey`) and by the bookkeeping operations
  that leave the allocation lists of the nodes alone (`appAdd`, `cleanup`, `markReleased`, `reserve`, `unreserve`), with
  no side condition beyond `CoreWF s` and `Linked s`.  The operations that rewrite one application go through the `Shape`
  of their pieces.  For the others — the list of applications or of nodes grows or shrinks, only nodes change, a
  reservation is booked — no node entry is dropped (`NodesKeep`) and an application is left with at most the bound
  items it had (`BoundSub`).
-/
import YkProofs.Core2Link
namespace Yk
open Res Core

namespace LinkA

/-! ### operations that leave every node entry in place -/

def NodesKeep (s t : Core) : Prop :=
  ∀ id n, s.findNode id = some n → ∃ m, t.findNode id = some m ∧ ∀ x ∈ n.allocs, x ∈ m.allocs

theorem NodesKeep.of_eq {s t : Core} (h : t.nodes = s.nodes) : NodesKeep s t := by
  intro id n hn
  exact ⟨n, by unfold findNode at hn ⊢; rw [h]; exact hn, fun _ hx => hx⟩

theorem NodesKeep.trans {s t u : Core} (h1 : NodesKeep s t) (h2 : NodesKeep t u) : NodesKeep s u := by
  intro id n hn
  obtain ⟨m, hm, hsub⟩ := h1 id n hn
  obtain ⟨m', hm', hsub'⟩ := h2 id m hm
  exact ⟨m', hm', fun x hx => hsub' x (hsub x hx)⟩

theorem onNode_keep {s t : Core} {app : String} {i : CItem} (hk : NodesKeep s t) (h : OnNode s app i) : OnNode t app i := by
  obtain ⟨n, hn, x, hx, rest⟩ := h
  obtain ⟨m, hm, hsub⟩ := hk i.node n hn
  exact ⟨m, hm, x, hsub x hx, rest⟩

theorem NodesKeep.of_map {s t : Core} (g : CNode → CNode) (hg : ∀ n, (g n).id = n.id) (hga : ∀ n, ∀ x ∈ n.allocs, x ∈ (g n).allocs)
    (h : t.nodes = s.nodes.map g) : NodesKeep s t := by
  intro id n hn
  exact ⟨g n, by rw [findNode_of_map g hg h, hn]; rfl, hga n⟩

theorem NodesKeep.of_updNs {s t : Core} (id : String) (f : CNode → CNode) (h : t.nodes = updNs s.nodes id f)
    (hf : ∀ n, (f n).id = n.id) (hfa : ∀ n, ∀ x ∈ n.allocs, x ∈ (f n).allocs) : NodesKeep s t := by
  exact NodesKeep.of_map (onNodeId id f) (onNodeId_id hf)
    (fun n x hx => mem_onNodeId hx (fun _ => hfa n x hx)) h

theorem linked_of_sub {s t : Core} (hk : NodesKeep s t)
    (hsub : ∀ b ∈ t.apps, b.live = true → ∃ a ∈ s.apps, a.live = true ∧ a.id = b.id ∧ BoundSub b.items a.items)
    (h : Linked s) : Linked t := by
  intro b hb hbl j hj hjb
  obtain ⟨a, ha, hal, haid, hitems⟩ := hsub b hb hbl
  rw [← haid]
  exact onNode_keep hk (h.of_boundSub ha hal hitems hj hjb)

theorem linked_of_nodesKeep {s t : Core} (ha : t.apps = s.apps) (hk : NodesKeep s t) (h : Linked s) : Linked t :=
  linked_of_sub hk (fun b hb hbl => ⟨b, ha ▸ hb, hbl, rfl, BoundSub.refl _⟩) h

theorem linked_upds {s t : Core} (h : Linked s) {app : String} {f : CApp → CApp} (hk : NodesKeep s t)
    (hta : t.apps = updApps s.apps app f) (hf : ∀ a, (f a).live = true → (f a).id = a.id ∧ BoundSub (f a).items a.items) :
    Linked t :=
  h.of_updApps hta (fun _ _ _ _ _ _ _ hon => onNode_keep hk hon) (fun a ha hal _ hlive =>
    ⟨(hf a hlive).1, fun _ hj hjb => onNode_keep hk (h.of_boundSub ha hal (hf a hlive).2 hj hjb)⟩)

theorem _root_.Yk.linked_cleanup {s : Core} (h : Linked s) : Linked s.cleanup :=
  linked_of_sub (s := s) (NodesKeep.of_eq rfl) (fun b hb hbl => ⟨b, (List.mem_filter.mp hb).1, hbl, rfl, BoundSub.refl _⟩) h

theorem _root_.Yk.linked_appAdd {s : Core} (h : Linked s) (a : Option CApp) (nq : List CQueue) : Linked (s.appAdd a nq) := by
  have h1 : Linked (s.queuesAdd nq) := Linked.of_lists rfl rfl h
  unfold appAdd
  cases a with
  | none => exact h1
  | some a =>
    dsimp only
    cases (s.findApp a.id).isSome || !((s.queuesAdd nq).queues.any (·.path == a.queue)) with
    | true => exact h1
    | false =>
      -- the new application has no items
      intro b hb hbl j hj hjb
      rcases List.mem_append.mp hb with hb' | hb'
      · exact (h b hb' hbl j hj hjb).of_nodes rfl
      · rw [List.mem_singleton] at hb'
        subst hb'
        cases hj

theorem _root_.Yk.linked_markReleased {c : Core} (hw : CoreWF c) (h : Linked c) (app key : String) (preempted : Bool) :
    Linked (c.markReleased app key preempted) := by
  rcases shape_markReleased c app key preempted hw with e | ⟨a, i, _, _, sh⟩
  · rw [e]; exact h
  · exact sh.linked_keep hw h (fun _ _ _ hx => hx) (fun _ => BoundSub.map
      (KeepsSig.ite _ (fun x => by cases preempted <;> exact ⟨rfl, rfl, rfl, rfl⟩)))

theorem _root_.Yk.linked_ask {s : Core} (hw : CoreWF s) (h : Linked s) (app key : String) (res : Res) (ph : Bool) (tg reqNode : String) :
    Linked (s.ask app key res ph tg reqNode).1 := by
  rcases shape_ask s app key res ph tg reqNode hw with e | ⟨a, t, e, sh⟩
  · rw [e]; exact h
  · rw [e]
    refine sh.linked_keep hw h (fun _ _ _ hx => hx) (fun _ => ?_)
    show BoundSub (a.items ++ [newAsk key res ph tg reqNode]) a.items
    -- the new ask is not bound
    refine BoundSub.of_mem fun j hj hjb => ?_
    rcases List.mem_append.mp hj with hj' | hj'
    · exact hj'
    · rw [List.mem_singleton.mp hj'] at hjb
      cases hjb

theorem _root_.Yk.linked_schedAlloc {s s' : Core} (hw : CoreWF s) (h : Linked s) (app key node : String)
    (hs : s.schedAlloc app key node = some s') : Linked s' := by
  obtain ⟨a, n, i, hfind, hnode, hitem, _, rfl⟩ := schedAlloc_some hs
  have sh := shape_bindAsk s app key node a i hw hfind
  obtain ⟨ham, hl, hid⟩ := sh.mem
  obtain ⟨him, hikey, _, _⟩ := find_outstanding hitem
  refine sh.linked hw h (fun _ => False) (fun m _ x hx => Or.inl ?_) (fun _ j hj hjb => ?_)
  · exact mem_onNodeId hx (fun _ => List.mem_append_left _ hx)
  rw [bindApp_items] at hj
  obtain ⟨x, hx, ⟨hxk, hjx⟩ | ⟨_, hjx⟩⟩ := mem_updItem hj
  · -- the allocation that has just been bound: `addAllocNode` appends its entry
    have hxi : x = i := itemKeys_eq (hw.itemKeys a ham hl) hx him (hxk.trans hikey.symm)
    subst hxi hjx
    exact Or.inr ⟨addAllocNode { key := key, app := app, res := x.res, foreign := false, ph := x.ph } n,
      findNode_onNodeId sh.nodes (fun _ => rfl) hnode,
      { key := key, app := app, res := x.res, foreign := false, ph := x.ph },
      List.mem_append_right _ (List.mem_singleton.mpr rfl), hxk.symm, hid.symm, rfl, fun _ => rfl⟩
  · subst hjx
    exact Or.inl ⟨j, hx, hjb, fun e => e, rfl, rfl, rfl⟩

theorem setRootMax_nodes (s : Core) (t : Res) : (setRootMax s t).nodes = s.nodes := rfl
theorem setRootMax_apps (s : Core) (t : Res) : (setRootMax s t).apps = s.apps := rfl

theorem find_append_new (l : List CNode) (m : CNode) (id : String) {n : CNode} (h : l.find? (·.id == id) = some n) :
    (l ++ [m]).find? (·.id == id) = some n := by
  rw [List.find?_append, h]; rfl

theorem _root_.Yk.linked_nodeCreate {s : Core} (h : Linked s) (id : String) (cap : Res) (b : Bool) :
    Linked (s.nodeCreate id cap b) := by
  unfold nodeCreate
  split
  · exact h
  · refine linked_of_nodesKeep (s := s) rfl ?_ h
    intro id' n hn
    exact ⟨n, by unfold findNode at hn ⊢; exact find_append_new _ _ _ hn, fun _ hx => hx⟩

theorem _root_.Yk.linked_nodeUpdate {s : Core} (h : Linked s) (id : String) (cap : Res) : Linked (s.nodeUpdate id cap) := by
  unfold nodeUpdate
  split
  · exact h
  · split
    · exact h
    · exact linked_of_nodesKeep (s := s) rfl (NodesKeep.of_updNs (s := s) id _ rfl (fun _ => rfl) (fun _ _ hx => hx)) h

theorem _root_.Yk.linked_nodeSchedulable {s : Core} (h : Linked s) (id : String) (b : Bool) :
    Linked (s.nodeSchedulable id b) :=
  linked_of_nodesKeep (s := s) rfl (NodesKeep.of_updNs (s := s) id _ rfl (fun _ => rfl) (fun _ _ hx => hx)) h

theorem _root_.Yk.linked_foreignAdd {s : Core} (h : Linked s) (key node : String) (res : Res) :
    Linked (s.foreignAdd key node res) := by
  unfold foreignAdd
  split
  · exact h
  · split
    · exact h
    · exact linked_of_nodesKeep (s := s) rfl
        (NodesKeep.of_updNs (s := s) node _ rfl (fun _ => rfl) (fun _ x hx => List.mem_append.mpr (Or.inl hx))) h

/-- a foreign entry leaves its node: a bound allocation with the same key on the same node would be a second entry with
    that key (`CoreWF.allocKeys`) -/
theorem _root_.Yk.linked_foreignRemove {s : Core} (hw : CoreWF s) (h : Linked s) (key : String) : Linked (s.foreignRemove key) := by
  unfold foreignRemove
  split
  · exact h
  · have h0 : Linked { s with foreign := s.foreign.filter (· != key) } := Linked.of_lists rfl rfl h
    split
    · exact h0
    · rename_i n hn
      split
      · exact h0
      · have hnm : n ∈ s.nodes := List.mem_of_find?_eq_some hn
        have hany := List.find?_some hn
        obtain ⟨y, hy, hyk⟩ := List.any_eq_true.mp hany
        simp only [Bool.and_eq_true, beq_iff_eq] at hyk
        intro b hb hbl j hj hjb
        have hon : OnNode s b.id j := h b hb hbl j hj hjb
        refine hon.of_map (g := onNodeId n.id _) rfl (onNodeId_id fun _ => rfl) (fun m _ hmj x hx hxk => ?_)
        refine mem_onNodeId hx (fun hmn => List.mem_filter.mpr ⟨hx, ?_⟩)
        -- the entry of `j` on `n` is not the foreign one
        obtain ⟨m', hm', x', hx', hxk', _, hxf', _⟩ := hon
        have hmn : m' = n := nodeIds_eq hw hnm (findNode_some hm').1 ((findNode_some hm').2.trans (hmj.symm.trans hmn))
        subst hmn
        have e : x' = y → False := fun e => by rw [e, hyk.2] at hxf'; cases hxf'
        have hne : x.key ≠ key := fun hxkey =>
          e (allocKeys_eq (hw.allocKeys m' hnm) hx' hy (hxk'.trans (hxk.symm.trans (hxkey.trans hyk.1.symm))))
        simpa using hne

theorem _root_.Yk.linked_reserve {s : Core} (hl : Linked s) (app key node : String) : Linked (s.reserve app key node) := by
  unfold reserve
  cases s.findApp app with
  | none => exact hl
  | some a =>
    dsimp only
    cases a.reservations.any (·.1 == key) with
    | true => exact hl
    | false =>
      exact linked_upds hl (NodesKeep.of_updNs node _ rfl (fun _ => rfl) (fun _ _ hx => hx)) rfl
        (fun _ _ => ⟨rfl, BoundSub.refl _⟩)

theorem _root_.Yk.linked_unreserve {s : Core} (hl : Linked s) (app key node : String) : Linked (s.unreserve app key node) := by
  unfold unreserve
  cases s.findApp app with
  | none => exact hl
  | some a =>
    dsimp only
    cases !(a.reservations.contains (key, node)) with
    | true => exact hl
    | false =>
      exact linked_upds hl (NodesKeep.of_updNs node _ rfl (fun _ => rfl) (fun _ _ hx => hx)) rfl
        (fun _ _ => ⟨rfl, BoundSub.refl _⟩)

/-! ### `releaseKey` (`rel1` then `rel2`, YkProofs/Core2Ops.lean) -/

theorem linked_rel1 {s : Core} (hw : CoreWF s) (h : Linked s) (app key : String) (a : CApp) (i : CItem)
    (hfind : s.findApp app = some a) (hitem : a.items.find? (·.key == key) = some i) : Linked (rel1 s app key a i) := by
  obtain ⟨him, hikey⟩ := find_key_some hitem
  cases hbd : i.bound with
  | false => rw [rel1_unbound s app key a i hbd]; exact h
  | true =>
    refine (shape_rel1 s app key a i hfind hbd).linked_release hw h him hbd ?_ (fun _ j hj hjb => ?_)
    · intro m x hx hxk
      have : x.key ≠ key := by rw [← hikey]; exact hxk
      exact List.mem_filter.mpr ⟨hx, by simpa using this⟩
    · rw [relApp_items] at hj
      obtain ⟨x, hx, rfl⟩ := List.mem_map.mp hj
      by_cases hxk : (x.key == key) = true
      · rw [if_pos hxk] at hjb; cases hjb
      · rw [if_neg hxk] at hjb ⊢
        exact Or.inl ⟨hx, by rw [hikey]; simpa using hxk⟩

theorem linked_rel2 {s1 : Core} (hw : CoreWF s1) (h : Linked s1) (app key : String) (chain : List String) :
    Linked (rel2 s1 app key chain) := by
  rcases shape_rel2 s1 app key chain hw with e | ⟨a1, x, _, sh⟩
  · rw [e]; exact h
  · exact sh.linked_keep hw h (fun _ _ _ hx => hx) (fun _ => BoundSub.filter _ _)

theorem _root_.Yk.linked_releaseKey {s : Core} (hw : CoreWF s) (h : Linked s) (app key : String) : Linked (s.releaseKey app key) := by
  rcases releaseKey_cases s app key with e | ⟨a, i, hfind, hitem, e⟩
  · rw [e]; exact h
  · rw [e]; exact linked_rel2 (wf_rel1 s app key a i hw hfind) (linked_rel1 hw h app key a i hfind hitem) app key _

end LinkA
end Yk
