/- The ring buffer model `Ring` (YkModel/Ring.lean) refines the abstract history `Hist` (`RingRel`); behind YkProps/C20. -/
import YkModel.Ring
namespace Yk

/-! ### positions modulo the capacity -/

theorem mod_add_cases {p d c : Nat} (hp : p < c) (hd : d ≤ c) :
    ((p + d) % c = p + d ∧ p + d < c) ∨ ((p + d) % c = p + d - c ∧ c ≤ p + d) := by
  by_cases h : p + d < c
  · exact Or.inl ⟨Nat.mod_eq_of_lt h, h⟩
  · refine Or.inr ⟨?_, by omega⟩
    rw [Nat.mod_eq_sub_mod (by omega)]
    exact Nat.mod_eq_of_lt (by omega)

theorem mod_ne_of_window {a b c : Nat} (h1 : a < b) (h2 : b - a < c) : a % c ≠ b % c := by
  intro h
  have := Nat.sub_mod_eq_zero_of_mod_eq h.symm
  rw [Nat.mod_eq_of_lt h2] at this
  omega

theorem sub_mod_shift {a n c : Nat} (hn : n ≤ a) (hnc : n ≤ c) :
    (a % c + c - n) % c = (a - n) % c := by
  have h1 : a % c + c - n + c * (a / c) = (a - n) + c := by
    have := Nat.mod_add_div a c; omega
  calc (a % c + c - n) % c = (a % c + c - n + c * (a / c)) % c := (Nat.add_mul_mod_self_left _ _ _).symm
    _ = (a - n + c) % c := by rw [h1]
    _ = (a - n) % c := Nat.add_mod_right _ _

theorem pos_shift {s off c j : Nat} (ho : off ≤ s) :
    (s + j - off) % c = ((s - off) % c + j) % c := by
  rw [Nat.mod_add_mod]; congr 1; omega

/-- the position `resize` copies the event with id `i` from is where `id2pos` finds it -/
theorem resize_pos {id off nl i c : Nat} (h1 : off ≤ nl) (h2 : nl ≤ i) (h3 : i < id) (hc : id - nl ≤ c) :
    (((id - off) % c + c - (id - nl)) % c + (i - nl)) % c = (i - off) % c := by
  rw [sub_mod_shift (by omega) hc, Nat.mod_add_mod]
  congr 1; omega

/-- what is left of a window `[lo, len)` cut down to its last `n` ids -/
theorem sub_max_sub (len lo n : Nat) : len - max lo (len - n) = min (len - lo) n := by
  by_cases h : len - lo ≤ n
  · rw [Nat.max_eq_left (by omega), Nat.min_eq_left h]
  · rw [Nat.max_eq_right (by omega), Nat.min_eq_right (by omega), Nat.sub_sub_self (by omega)]

/-! ### `Hist.get` outside and inside the available range, and on the start `getRecentEvents` computes -/

theorem Hist.get_out {h : Hist} {s : Nat} (hs : s < h.lowest ∨ h.all.length ≤ s) (count : Nat) :
    h.get s count = ([], h.lowest, h.last) := by
  simp only [Hist.get]; rw [if_pos]; simpa using hs

theorem Hist.get_in {h : Hist} {s : Nat} (h1 : h.lowest ≤ s) (h2 : s < h.all.length) (count : Nat) :
    h.get s count = ((h.all.drop s).take (min count h.cap), h.lowest, h.last) := by
  simp only [Hist.get]; rw [if_neg]; simp; omega

theorem recent_start_zero (n count : Nat) :
    min (if n - 1 < count then 0 else n - 1 - count + 1) n = n - count := by
  by_cases h : n - 1 < count
  · rw [if_pos h, Nat.zero_min]; omega
  · rw [if_neg h]; omega

/-- The start id `getRecentEvents` computes is the first of the last `min count available` ids; only when nothing
    was ever added (`n = 0`) and `count = 0` does it lie past the end, whence the `min … n`. -/
theorem recent_start (n lo count : Nat) (hlo : lo ≤ n) :
    min (max (if n - 1 < count then 0 else n - 1 - count + 1) lo) n = n - min count (n - lo) := by
  rw [← Nat.sub_max_sub_left, Nat.sub_sub_self hlo, ← recent_start_zero n count, Nat.max_min_distrib_right,
    Nat.max_eq_left hlo]

theorem Hist.get_recent (h : Hist) (hlo : h.lowest ≤ h.all.length) (hwin : h.all.length - h.lowest ≤ h.cap)
    (count : Nat) :
    (h.get (max (if h.last < count then 0 else h.last - count + 1) h.lowest) count).1 =
      h.all.drop (h.all.length - min count (h.all.length - h.lowest)) := by
  have h2 : min (max (if h.last < count then 0 else h.last - count + 1) h.lowest) h.all.length = _ :=
    recent_start h.all.length h.lowest count hlo
  rw [← h2]
  generalize hs : max (if h.last < count then 0 else h.last - count + 1) h.lowest = s at h2
  have h1 : h.lowest ≤ s := by rw [← hs]; exact Nat.le_max_right _ _
  by_cases hlt : s < h.all.length
  · rw [Hist.get_in h1 hlt, Nat.min_eq_left (Nat.le_of_lt hlt)]
    apply List.take_of_length_le
    rw [List.length_drop]; omega
  · rw [Hist.get_out (Or.inr (Nat.le_of_not_lt hlt)), Nat.min_eq_right (Nat.le_of_not_lt hlt), List.drop_length]

/-! ### reading a window out of a circular buffer -/

theorem slice_eq_take {l m : List (Option Ev)} {a b : Nat}
    (h : ∀ j, a + j < b → l[a + j]? = m[j]?) : Ring.slice l a b = m.take (b - a) := by
  apply List.ext_getElem?
  intro j
  simp only [Ring.slice, List.getElem?_take, List.getElem?_drop]
  split
  · exact h j (by omega)
  · rfl

/-- The list `m` (at most `c` long, not empty) is stored in `l` from position `p` on, wrapping around at `c`;
    `(p + m.length) % c` is the position after its last element.  The two branches of `getEventsFromID` both
    copy its first `cnt` elements; the first branch is taken only when the buffer is full. -/
theorem read_window {l m : List (Option Ev)} {p c : Nat} (full : Bool) (cnt : Nat)
    (hp : p < c) (hm0 : 0 < m.length) (hm : m.length ≤ c)
    (hfull : full = false → p + m.length < c)
    (hev : ∀ j, j < m.length → l[(p + j) % c]? = m[j]?) :
    (if (full && decide (p ≥ (p + m.length) % c)) = true then
        Ring.slice l p (min (p + cnt) c) ++
          (if p + cnt > c then Ring.slice l 0 (min (p + cnt - c) ((p + m.length) % c)) else [])
      else Ring.slice l p (min (p + cnt) ((p + m.length) % c))) = m.take cnt := by
  rcases mod_add_cases hp hm with ⟨hd, hlt⟩ | ⟨hd, hge⟩
  · -- no wrap: the end position is above `p`
    rw [hd, if_neg (by simp; omega), slice_eq_take (m := m), Nat.add_min_add_left, Nat.add_sub_cancel_left,
      ← List.take_eq_take_min]
    intro j hj
    have hj' := (Nat.lt_min.mp hj).2
    clear hj
    rw [← hev j (by omega), Nat.mod_eq_of_lt (by omega)]
  · -- wrap: `m` is `l[p:c]` followed by `l[0:p + m.length - c]`
    have hf : full = true := by
      cases full
      · have := hfull rfl; omega
      · rfl
    have h1 : ∀ j, p + j < c → l[p + j]? = m[j]? := fun j hj => by
      rw [← hev j (by omega), Nat.mod_eq_of_lt hj]
    rw [hd, hf, if_pos (by simp; omega), slice_eq_take (m := m) (fun j hj => h1 j (Nat.lt_min.mp hj).2)]
    by_cases hw : p + cnt > c
    · have h2 : ∀ j, 0 + j < min (p + cnt - c) (p + m.length - c) → l[0 + j]? = (m.drop (c - p))[j]? := by
        intro j hj
        have hj' := (Nat.lt_min.mp hj).2
        clear hj
        rw [List.getElem?_drop, ← hev (c - p + j) (by omega), show p + (c - p + j) = c + j by omega,
          Nat.add_mod_left, Nat.mod_eq_of_lt (by omega), Nat.zero_add]
      have e1 : p + cnt - c = cnt - (c - p) := by omega
      have e2 : p + m.length - c = m.length - (c - p) := by omega
      have e3 : m.take (c - p) = (m.take cnt).take (c - p) := by
        rw [List.take_take, Nat.min_eq_left (by omega)]
      rw [if_pos hw, slice_eq_take h2, Nat.min_eq_right (Nat.le_of_lt hw), Nat.sub_zero, e1, e2,
        ← List.length_drop, ← List.take_eq_take_min, ← List.drop_take, e3, List.take_append_drop]
    · rw [if_neg hw, List.append_nil, Nat.min_eq_left (by omega), Nat.add_sub_cancel_left]

/-! ### the refinement invariant -/

structure RingRel (e : Ring) (h : Hist) : Prop where
  id_eq : e.id = h.all.length
  lowest_eq : e.lowestId = h.lowest
  cap_eq : e.capacity = h.cap
  cap_pos : 0 < e.capacity
  len_eq : e.events.length = e.capacity
  lo_le : e.lowestId ≤ e.id
  win : e.id - e.lowestId ≤ e.capacity
  off_le : e.resizeOffset ≤ e.lowestId
  head_eq : e.head = (e.id - e.resizeOffset) % e.capacity
  full_iff : e.full = true ↔ e.id - e.lowestId = e.capacity
  off_eq : e.full = false → e.resizeOffset = e.lowestId
  ev : ∀ i, e.lowestId ≤ i → i < e.id →
    e.events[(i - e.resizeOffset) % e.capacity]? = (h.all[i]?).map some

theorem RingRel.not_full {e : Ring} {h : Hist} (r : RingRel e h) (hf : e.full = false) :
    e.id - e.lowestId < e.capacity := by
  have hne : e.id - e.lowestId ≠ e.capacity := fun h' => by simp [r.full_iff.mpr h'] at hf
  have := r.win
  omega

theorem rel_new (cap : Nat) (hc : 0 < cap) : RingRel (Ring.new cap) (Hist.new cap) := by
  constructor <;> simp [Ring.new, Hist.new, hc]
  omega

/-- `add` re-establishes the invariant whatever lowest id `lo'` and full flag it leaves, provided these describe
    the new window -/
theorem rel_add_of {e : Ring} {h : Hist} (r : RingRel e h) (ev : Ev) {lo' : Nat} {full' : Bool}
    (hlo : e.lowestId ≤ lo') (hlo' : lo' ≤ e.id + 1) (hw : e.id + 1 - lo' ≤ e.capacity)
    (hfull : full' = true ↔ e.id + 1 - lo' = e.capacity) (hoff : full' = false → e.resizeOffset = lo') :
    RingRel
      { e with events := e.events.set e.head (some ev), full := full', lowestId := lo',
               head := (e.head + 1) % e.capacity, id := e.id + 1 }
      { h with all := h.all ++ [ev], lowest := lo' } where
  id_eq := by rw [List.length_append, ← r.id_eq]; rfl
  lowest_eq := rfl
  cap_eq := r.cap_eq
  cap_pos := r.cap_pos
  len_eq := by rw [List.length_set]; exact r.len_eq
  lo_le := hlo'
  win := hw
  off_le := Nat.le_trans r.off_le hlo
  head_eq := by
    have := r.off_le
    have := r.lo_le
    show (e.head + 1) % e.capacity = (e.id + 1 - e.resizeOffset) % e.capacity
    rw [r.head_eq, Nat.mod_add_mod]
    congr 1; omega
  full_iff := hfull
  off_eq := hoff
  ev := by
    intro i (h1 : lo' ≤ i) (h2 : i < e.id + 1)
    have hoff := r.off_le
    have hpos := r.cap_pos
    have hhead : e.head < e.events.length := by
      rw [r.len_eq, r.head_eq]; exact Nat.mod_lt _ hpos
    show (e.events.set e.head (some ev))[(i - e.resizeOffset) % e.capacity]? = ((h.all ++ [ev])[i]?).map some
    by_cases hi : i = e.id
    · subst hi
      rw [← r.head_eq, List.getElem?_set_self hhead, r.id_eq]
      simp
    · -- an older id of the new window lies less than the capacity below `id`, so at another position
      have hlt : i < e.id := Nat.lt_of_le_of_ne (Nat.le_of_lt_succ h2) hi
      have hne : e.head ≠ (i - e.resizeOffset) % e.capacity := by
        rw [r.head_eq]
        exact Ne.symm (mod_ne_of_window (by omega) (by omega))
      rw [List.getElem?_set_ne hne, List.getElem?_append_left (by rw [← r.id_eq]; exact hlt)]
      exact r.ev i (by omega) hlt

theorem rel_add {e : Ring} {h : Hist} (r : RingRel e h) (ev : Ev) : RingRel (e.add ev) (h.add ev) := by
  have hle := r.lo_le
  have hwin := r.win
  have hH : h.add ev = { h with all := h.all ++ [ev], lowest := if !e.full then e.lowestId else e.lowestId + 1 } := by
    simp only [Hist.add, ← r.id_eq, ← r.lowest_eq, ← r.cap_eq]
    cases hf : e.full with
    | false => have := r.not_full hf; rw [if_neg (by omega)]; rfl
    | true => have := r.full_iff.mp hf; rw [if_pos (by omega)]; rfl
  rw [hH]
  cases hf : e.full with
  | false =>
    have hlt := r.not_full hf
    have hh : e.head = e.id - e.lowestId := by
      rw [r.head_eq, r.off_eq hf]; exact Nat.mod_eq_of_lt hlt
    simp only [Ring.add, hf, Bool.not_false, if_true]
    exact rel_add_of r ev (Nat.le_refl _) (by omega) (by omega) (by rw [beq_iff_eq, hh]; omega)
      (fun _ => r.off_eq hf)
  | true =>
    have heq := r.full_iff.mp hf
    simp only [Ring.add, hf, Bool.not_true, Bool.false_eq_true, if_false]
    exact rel_add_of r ev (by omega) (by omega) (by omega) (by simp; omega) (fun hc => by cases hc)

theorem resize_eq {e : Ring} {n : Nat} (hne : n ≠ e.capacity) (hwin : e.id - e.lowestId ≤ e.capacity) :
    e.resize n =
      let nl := max e.lowestId (e.id - n)
      { events := (List.range (e.id - nl)).map
            (fun i => e.events.getD (((e.head + e.capacity - (e.id - nl)) % e.capacity + i) % e.capacity) none)
          ++ List.replicate (n - (e.id - nl)) none
        capacity := n
        head := (e.id - nl) % n
        full := (e.id - nl) == n
        id := e.id
        lowestId := nl
        resizeOffset := nl } := by
  by_cases hfit : e.id - e.lowestId ≤ n
  · -- everything available fits
    simp only [Ring.resize, beq_iff_eq, if_neg hne, Nat.min_eq_left hfit, if_pos hfit, ite_self,
      Nat.max_eq_left (show e.id - n ≤ e.lowestId by omega)]
  · -- the oldest available events are dropped
    simp only [Ring.resize, beq_iff_eq, if_neg hne, Nat.min_eq_right (Nat.le_of_not_le hfit), if_neg hfit,
      if_neg (show ¬ e.capacity < n by omega), Nat.max_eq_right (show e.lowestId ≤ e.id - n by omega),
      Nat.sub_sub_self (show n ≤ e.id by omega)]

theorem rel_resize {e : Ring} {h : Hist} (r : RingRel e h) (n : Nat) (hn : 0 < n) :
    RingRel (e.resize n) (h.resize n) := by
  have hwin := r.win
  have hle := r.lo_le
  by_cases hne : n = e.capacity
  · have h1 : e.resize n = e := by simp [Ring.resize, hne]
    have h2 : h.resize n = h := by
      rw [r.id_eq, r.lowest_eq, r.cap_eq] at hwin
      simp only [Hist.resize, hne, r.cap_eq, Nat.max_eq_left (show h.all.length - h.cap ≤ h.lowest by omega)]
    rw [h1, h2]; exact r
  · have hh : h.resize n = { h with cap := n, lowest := max e.lowestId (e.id - n) } := by
      rw [r.id_eq, r.lowest_eq]; rfl
    rw [resize_eq hne hwin, hh]
    have hl1 := Nat.le_max_left e.lowestId (e.id - n)
    have hl2 : max e.lowestId (e.id - n) ≤ e.id := Nat.max_le.mpr ⟨hle, Nat.sub_le _ _⟩
    have hmn : e.id - max e.lowestId (e.id - n) ≤ n := by
      rw [sub_max_sub]; exact Nat.min_le_right _ _
    have hmc : e.id - max e.lowestId (e.id - n) ≤ e.capacity := by
      rw [sub_max_sub]; exact Nat.le_trans (Nat.min_le_left _ _) hwin
    generalize max e.lowestId (e.id - n) = nl at hl1 hl2 hmn hmc ⊢
    clear hwin hle
    exact {
      id_eq := r.id_eq
      lowest_eq := rfl
      cap_eq := rfl
      cap_pos := hn
      len_eq := by simp; omega
      lo_le := hl2
      win := hmn
      off_le := Nat.le_refl _
      head_eq := rfl
      full_iff := beq_iff_eq
      off_eq := fun _ => rfl
      ev := by
        intro i hi1 hi2
        have hoff := r.off_le
        dsimp only at hi1 hi2 ⊢
        rw [Nat.mod_eq_of_lt (show i - nl < n by omega), List.getElem?_append_left (by simp; omega), List.getElem?_map,
          List.getElem?_range (by omega), r.head_eq, Option.map_some, resize_pos (by omega) hi1 hi2 hmc,
          List.getD_eq_getElem?_getD, r.ev i (by omega) hi2, List.getElem?_eq_getElem (r.id_eq ▸ hi2)]
        rfl }

theorem ring_rel_fold (ops : List RingOp) (hv : ∀ n, RingOp.resize n ∈ ops → 0 < n) :
    ∀ (e : Ring) (h : Hist), RingRel e h → RingRel (ops.foldl Ring.step e) (ops.foldl Hist.step h) := by
  induction ops with
  | nil => intro e h r; exact r
  | cons op ops ih =>
    intro e h r
    simp only [List.foldl_cons]
    apply ih (fun n hn => hv n (List.mem_cons_of_mem _ hn))
    cases op with
    | add ev => exact rel_add r ev
    | resize n => exact rel_resize r n (hv n (List.mem_cons_self ..))

theorem ring_rel_run (cap : Nat) (hc : 0 < cap) (ops : List RingOp)
    (hv : ∀ n, RingOp.resize n ∈ ops → 0 < n) :
    RingRel (ops.foldl Ring.step (Ring.new cap)) (ops.foldl Hist.step (Hist.new cap)) :=
  ring_rel_fold ops hv _ _ (rel_new cap hc)

/-! ### queries -/

theorem lastId_eq {e : Ring} {h : Hist} (r : RingRel e h) : e.lastId = h.last := by
  simp only [Ring.lastId, Hist.last, r.id_eq]
  split
  · rename_i h0; have : h.all.length = 0 := by simpa using h0
    omega
  · rfl

theorem ring_get_refines {e : Ring} {h : Hist} (r : RingRel e h) (start count : Nat) :
    e.getEventsFromID start count = ((h.get start count).1.map some, (h.get start count).2) := by
  by_cases hr : start < e.lowestId ∨ e.id ≤ start
  · have hp : e.id2pos start = none := by
      simp only [Ring.id2pos]; rw [if_pos]; simpa using hr
    simp only [Ring.getEventsFromID, hp]
    rw [Hist.get_out (r.lowest_eq ▸ r.id_eq ▸ hr), lastId_eq r, r.lowest_eq]
    rfl
  · have h1 : e.lowestId ≤ start := by omega
    have h2 : start < e.id := by omega
    have hoff := r.off_le
    have hwin := r.win
    have hp : e.id2pos start = some ((start - e.resizeOffset) % e.capacity) := by
      simp only [Ring.id2pos]; rw [if_neg]; simp; omega
    have hlen : ((h.all.drop start).map some).length = e.id - start := by
      rw [List.length_map, List.length_drop, r.id_eq]
    have hhead : e.head = ((start - e.resizeOffset) % e.capacity +
        ((h.all.drop start).map some).length) % e.capacity := by
      rw [hlen, r.head_eq, ← pos_shift (by omega)]; congr 2; omega
    simp only [Ring.getEventsFromID, hp, ← apply_ite (Prod.mk · (e.lowestId, e.lastId))]
    rw [Hist.get_in (r.lowest_eq ▸ h1) (r.id_eq ▸ h2), lastId_eq r, r.lowest_eq,
      ← r.cap_eq, List.map_take]
    dsimp only
    rw [hhead, read_window e.full _ (Nat.mod_lt _ r.cap_pos) (by omega) (by omega)]
    · intro hf
      have := r.not_full hf
      rw [hlen, r.off_eq hf, Nat.mod_eq_of_lt (by omega)]
      omega
    · intro j hj
      rw [← pos_shift (by omega), r.ev (start + j) (by omega) (by omega), List.getElem?_map, List.getElem?_drop]

theorem ring_recent_refines {e : Ring} {h : Hist} (r : RingRel e h) (count : Nat) :
    e.getRecentEvents count =
      (h.all.drop (h.all.length - min count (h.all.length - h.lowest))).map some := by
  have hle := r.lo_le
  have hwin := r.win
  rw [r.id_eq, r.lowest_eq] at hle hwin
  rw [r.cap_eq] at hwin
  simp only [Ring.getRecentEvents]
  rw [ring_get_refines r, lastId_eq r, r.lowest_eq, h.get_recent hle hwin]

end Yk
