/- Accounting lemmas for the queue-tracker tree (YkModel/Ugm.lean): tracked usage = sum of the live allocations,
   for every history of increases, releases, walks that create trackers, limit changes and unlinks. -/
import YkProofs.Ugm
import YkProofs.ListSum
namespace Yk.Ugm
open Yk Yk.Res

/-! ### keys of the flat tree -/

def keys (t : Tree) : List Path := t.map Prod.fst
def KeysNodup (t : Tree) : Prop := (keys t).Nodup
def UsageWf (t : Tree) : Prop := ∀ p n, aget t p = some n → oresWf n.usage = true

theorem keys_amod (t : Tree) (k : Path) (f : Node → Node) : keys (amod t k f) = keys t := by
  induction t with
  | nil => rfl
  | cons e t ih =>
    obtain ⟨a, b⟩ := e
    by_cases h : a = k
    · simp [amod, keys, h]
    · simp only [amod, h, if_false, keys, List.map_cons] at *; rw [ih]

theorem keys_foldl_amod (f : Node → Node) : ∀ (ps : List Path) (t : Tree), keys (ps.foldl (fun t p => amod t p f) t) = keys t := by
  intro ps
  induction ps with
  | nil => intro t; rfl
  | cons a ps ih => intro t; rw [List.foldl_cons, ih, keys_amod]

theorem aget_none_not_mem_keys {t : Tree} {p : Path} (h : aget t p = none) : p ∉ keys t := by
  induction t with
  | nil => simp [keys]
  | cons e t ih =>
    obtain ⟨a, b⟩ := e
    by_cases hk : a = p
    · subst hk; simp [aget] at h
    · simp only [aget, hk, if_false] at h
      simp only [keys, List.map_cons, List.mem_cons, not_or]
      exact ⟨fun e => hk e.symm, ih h⟩

theorem keysNodup_ensureL (w : List (Path × Limit)) (isUser : Bool) : ∀ (ps : List Path) (t : Tree), KeysNodup t →
    KeysNodup (ensureL w isUser t ps) := by
  intro ps
  induction ps with
  | nil => intro t h; exact h
  | cons a ps ih =>
    intro t h
    simp only [ensureL, List.foldl_cons]
    apply ih
    by_cases ha : ahas t a = true
    · rw [if_pos ha]; exact h
    · rw [if_neg ha]
      have hn : aget t a = none := by
        rw [ahas_eq] at ha; cases hh : aget t a with
        | none => rfl
        | some _ => rw [hh] at ha; simp at ha
      unfold KeysNodup keys at *
      rw [List.map_append, List.nodup_append]
      refine ⟨h, by simp, ?_⟩
      intro x hx y hy
      simp at hy; subst hy
      intro e; subst e
      exact aget_none_not_mem_keys hn hx

theorem keysNodup_ensurePath (w : List (Path × Limit)) (isUser : Bool) (t : Tree) (h : Path) (hn : KeysNodup t) :
    KeysNodup (ensurePath w isUser t h) := keysNodup_ensureL w isUser _ t hn

theorem keys_adel_sublist (t : Tree) (k : Path) : (keys (adel t k)).Sublist (keys t) := by
  induction t with
  | nil => exact List.Sublist.slnil
  | cons e t ih =>
    obtain ⟨a, b⟩ := e
    by_cases h : a = k
    · simp only [adel, h, if_true, keys, List.map_cons]; exact List.Sublist.cons _ ih
    · simp only [adel, h, if_false, keys, List.map_cons]; exact List.Sublist.cons_cons _ ih

theorem keysNodup_adel {t : Tree} (h : KeysNodup t) (k : Path) : KeysNodup (adel t k) :=
  List.Nodup.sublist (keys_adel_sublist t k) h

theorem keysNodup_filter {t : Tree} (h : KeysNodup t) (f : Path × Node → Bool) : KeysNodup (t.filter f) :=
  List.Nodup.sublist (List.Sublist.map _ List.filter_sublist) h

theorem aget_filter {t : Tree} (h : KeysNodup t) (f : Path × Node → Bool) (p : Path) :
    aget (t.filter f) p = match aget t p with | some n => if f (p, n) then some n else none | none => none := by
  induction t with
  | nil => rfl
  | cons e t ih =>
    obtain ⟨a, b⟩ := e
    have hnd : a ∉ keys t ∧ KeysNodup t := by
      unfold KeysNodup keys at h; rw [List.map_cons, List.nodup_cons] at h; exact h
    by_cases hk : a = p
    · subst hk
      have hnone : aget t a = none := by
        cases hh : aget t a with
        | none => rfl
        | some n => exact absurd (List.mem_map_of_mem (f := Prod.fst) (aget_mem hh)) hnd.1
      by_cases hf : f (a, b) = true
      · simp [List.filter, hf, aget]
      · simp only [List.filter, hf, aget, if_true]
        rw [ih hnd.2, hnone]; simp
    · by_cases hf : f (a, b) = true
      · simp only [List.filter, hf, aget, hk, if_false]; exact ih hnd.2
      · simp only [List.filter, hf, aget, hk, if_false]; exact ih hnd.2

/-! ### sums over the ledger -/

theorem onPath_iff (p q : Path) : onPath p q = true ↔ p ∈ prefixes q := by
  unfold onPath; exact List.contains_iff_mem

theorem onPath_false {p q : Path} (h : p ∉ prefixes q) : onPath p q = false := by
  cases hh : onPath p q with
  | false => rfl
  | true => exact absurd ((onPath_iff _ _).mp hh) h

theorem sumLive_nil (p : Path) (k : String) : sumLive [] p k = 0 := rfl

theorem sumLive_cons (a : Alloc) (L : List Alloc) (p : Path) (k : String) :
    sumLive (a :: L) p k = (if onPath p a.q then a.r.getD k else 0) + sumLive L p k := by
  simp [sumLive]

theorem sumLive_perm {L L' : List Alloc} (h : L.Perm L') (p : Path) (k : String) : sumLive L p k = sumLive L' p k :=
  perm_sum_int (h.map _)

theorem sumLive_append (L : List Alloc) (a : Alloc) (p : Path) (k : String) :
    sumLive (L ++ [a]) p k = sumLive L p k + (if onPath p a.q then a.r.getD k else 0) := by
  rw [sumLive_perm List.perm_append_comm, List.singleton_append, sumLive_cons]; omega

theorem sumLive_erase {L : List Alloc} {a : Alloc} (h : a ∈ L) (p : Path) (k : String) :
    sumLive (L.erase a) p k = sumLive L p k - (if onPath p a.q then a.r.getD k else 0) := by
  rw [sumLive_perm (List.perm_cons_erase h) p k, sumLive_cons]; omega

theorem sumLive_zero {L : List Alloc} {p : Path} (h : ∀ a ∈ L, p ∉ prefixes a.q) (k : String) : sumLive L p k = 0 := by
  induction L with
  | nil => rfl
  | cons b L ih =>
    rw [sumLive_cons, ih (fun a ha => h a (List.mem_cons_of_mem _ ha))]
    simp [onPath_false (h b List.mem_cons_self)]

/-! ### usage lookups through the tree operations -/

theorem usageAt_of_aget_eq {t t' : Tree} {p : Path} (h : aget t' p = aget t p) (k : String) : usageAt t' p k = usageAt t p k := by
  unfold usageAt; rw [h]

theorem newNode_usage (w : List (Path × Limit)) (isUser : Bool) (p : Path) :
    (newNode w isUser p).usage = none ∧ (newNode w isUser p).apps = [] := by
  unfold newNode
  cases isUser with
  | false => exact ⟨rfl, rfl⟩
  | true => simp only [if_true]; cases aget w p <;> exact ⟨rfl, rfl⟩

theorem usageAt_ensurePath (w : List (Path × Limit)) (isUser : Bool) (t : Tree) (h p : Path) (k : String) :
    usageAt (ensurePath w isUser t h) p k = usageAt t p k := by
  unfold usageAt
  rw [aget_ensurePath]
  cases aget t p with
  | some n => rfl
  | none =>
    by_cases hp : p ∈ prefixes h
    · simp [hp, (newNode_usage w isUser p).1]
    · simp [hp]

theorem usageWf_ensurePath (w : List (Path × Limit)) (isUser : Bool) {t : Tree} (ht : UsageWf t) (h : Path) :
    UsageWf (ensurePath w isUser t h) :=
  forall_ensurePath ht (fun p _ => by rw [(newNode_usage w isUser p).1]; rfl)

theorem incNode_usage_wf {n : Node} (hn : oresWf n.usage = true) (r : Res) (app : String) :
    oresWf (incNode app r n).usage = true := by
  show wf (prune (addX (n.usage.getD []) r)) = true
  exact prune_wf _ (zipFold_wf _ _ _ (usage_getD_wf hn))

theorem mem_incNode_apps (app : String) (r : Res) (n : Node) : app ∈ (incNode app r n).apps := by
  show app ∈ (if n.apps.contains app then n.apps else n.apps ++ [app])
  by_cases h : n.apps.contains app = true
  · rw [if_pos h]; exact List.contains_iff_mem.mp h
  · rw [if_neg h]; simp

theorem incNode_apps_mono (app : String) (r : Res) (n : Node) {x : String} (h : x ∈ n.apps) : x ∈ (incNode app r n).apps := by
  show x ∈ (if n.apps.contains app then n.apps else n.apps ++ [app])
  by_cases hc : n.apps.contains app = true
  · rw [if_pos hc]; exact h
  · rw [if_neg hc]; exact List.mem_append_left _ h

/-! ### decreaseTrackedResource -/

/-- the trackers a decrease starting at `cur` with `rest` below it visits -/
def walk (cur : Path) (rest : List String) : List Path := cur :: prefixesFrom cur rest

theorem walk_cons (cur : Path) (c : String) (rest : List String) : walk cur (c :: rest) = cur :: walk (cur ++ [c]) rest := rfl

theorem mem_walk_length {cur p : Path} {rest : List String} (h : p ∈ walk cur rest) : cur.length ≤ p.length := by
  rcases List.mem_cons.mp h with h | h
  · subst h; exact Nat.le_refl _
  · exact Nat.le_of_lt (mem_prefixesFrom_length _ _ _ h)

theorem not_mem_walk_child (cur : Path) (c : String) (rest : List String) : cur ∉ walk (cur ++ [c]) rest := by
  intro h
  have := mem_walk_length h
  simp at this
  omega

theorem prefixes_eq_walk (r0 : String) (rest : List String) : prefixes (r0 :: rest) = walk [r0] rest := rfl

theorem isZero_usage_getD {n : Node} (h : isZero n.usage = true) (k : String) : (n.usage.getD []).getD k = 0 := by
  cases hu : n.usage with
  | none => rfl
  | some u => rw [hu] at h; exact isZero_getD h k

theorem decNode_usage {n : Node} (hn : oresWf n.usage = true) (hs : n.usage.isSome = true) {r : Res} (hr : wf r = true)
    (app : String) (rm : Bool) (k : String) :
    ((decNode app r rm n).usage.getD []).getD k = (n.usage.getD []).getD k - r.getD k := by
  cases hu : n.usage with
  | none => rw [hu] at hs; cases hs
  | some u =>
    rw [hu] at hn
    show ((n.usage.map (fun u => prune (subX u r))).getD []).getD k = _
    rw [hu]
    show (prune (subX u r)).getD k = u.getD k - r.getD k
    have hw2 : wf (subX u r) = true := zipFold_wf _ _ _ hn
    rw [prune_getD _ hw2, subX_getD _ _ hr]

theorem decNode_usage_wf {n : Node} (hn : oresWf n.usage = true) (r : Res) (app : String) (rm : Bool) :
    oresWf (decNode app r rm n).usage = true := by
  show oresWf (n.usage.map (fun u => prune (subX u r))) = true
  cases hu : n.usage with
  | none => rfl
  | some u => rw [hu] at hn; exact prune_wf _ (zipFold_wf _ _ _ hn)

theorem decNode_usage_isSome (n : Node) (r : Res) (app : String) (rm : Bool) :
    (decNode app r rm n).usage.isSome = n.usage.isSome := by
  show (n.usage.map _).isSome = _
  cases n.usage <;> rfl

theorem decGo_frame (app : String) (r : Res) (rm : Bool) : ∀ (rest : List String) (cur : Path) (t : Tree) (q : Path),
    q ∉ walk cur rest → aget (decGo app r rm cur rest t).1 q = aget t q := by
  intro rest
  induction rest with
  | nil =>
    intro cur t q hq
    have : cur ≠ q := by intro e; subst e; exact hq List.mem_cons_self
    simp only [decGo, decFinish, aget_amod, this, if_false]
  | cons c rest ih =>
    intro cur t q hq
    rw [walk_cons] at hq
    simp only [List.mem_cons, not_or] at hq
    have hcur : cur ≠ q := fun e => hq.1 e.symm
    simp only [decGo]
    split
    · simp only [decFinish, aget_amod, hcur, if_false]
      have hch : cur ++ [c] ≠ q := by intro e; apply hq.2; rw [← e]; exact List.mem_cons_self
      split
      · rw [aget_adel]; simp only [hch, if_false]; exact ih _ _ _ hq.2
      · exact ih _ _ _ hq.2
    · rfl

theorem removable_apps {t : Tree} {p : Path} {n : Node} (h : removable t p n = true) : n.apps = [] ∧ isZero n.usage = true := by
  simp only [removable, Bool.and_eq_true, List.isEmpty_iff] at h
  exact ⟨h.1.1.1.2, h.1.1.2⟩

/-- "remove me" is only answered by a tracker that lists no application afterwards -/
theorem decGo_flag (app : String) (r : Res) (rm : Bool) (rest : List String) (cur : Path) (t : Tree)
    (h : (decGo app r rm cur rest t).2 = true) : ∃ n, aget t cur = some n ∧ (decNode app r rm n).apps = [] := by
  have key : ∀ t2 : Tree, aget t2 cur = aget t cur → (decFinish app r rm cur t2).2 = true →
      ∃ n, aget t cur = some n ∧ (decNode app r rm n).apps = [] := by
    intro t2 h2 hf
    simp only [decFinish, aget_amod, if_true, h2] at hf
    cases hn : aget t cur with
    | none => rw [hn] at hf; simp at hf
    | some n =>
      rw [hn] at hf
      exact ⟨n, rfl, (removable_apps hf).1⟩
  cases rest with
  | nil => exact key t rfl h
  | cons c rest =>
    simp only [decGo] at h
    split at h
    · apply key _ _ h
      have hne : cur ++ [c] ≠ cur := by intro e; have := congrArg List.length e; simp at this
      split
      · rw [aget_adel]; simp only [hne, if_false]; exact decGo_frame _ _ _ _ _ _ _ (not_mem_walk_child cur c rest)
      · exact decGo_frame _ _ _ _ _ _ _ (not_mem_walk_child cur c rest)
    · cases h

theorem decGo_removable (app : String) (r : Res) (rm : Bool) (rest : List String) (cur : Path) (t : Tree)
    (h : (decGo app r rm cur rest t).2 = true) :
    ∃ n, aget (decGo app r rm cur rest t).1 cur = some n ∧ removable (decGo app r rm cur rest t).1 cur n = true := by
  have key : ∀ t2, (decFinish app r rm cur t2).2 = true →
      ∃ n, aget (decFinish app r rm cur t2).1 cur = some n ∧ removable (decFinish app r rm cur t2).1 cur n = true := by
    intro t2 hf
    simp only [decFinish] at hf ⊢
    cases hn : aget (amod t2 cur (decNode app r rm)) cur with
    | none => rw [hn] at hf; cases hf
    | some n => rw [hn] at hf; exact ⟨n, rfl, hf⟩
  cases rest with
  | nil => exact key t h
  | cons c rest =>
    by_cases hc : ahas t (cur ++ [c]) = true
    · simp only [decGo, hc, if_true] at h ⊢; exact key _ h
    · simp [decGo, hc] at h

theorem decGo_keysNodup (app : String) (r : Res) (rm : Bool) : ∀ (rest : List String) (cur : Path) (t : Tree),
    KeysNodup t → KeysNodup (decGo app r rm cur rest t).1 := by
  intro rest
  induction rest with
  | nil => intro cur t h; unfold KeysNodup; rw [decGo, decFinish, keys_amod]; exact h
  | cons c rest ih =>
    intro cur t h
    simp only [decGo]
    split
    · unfold KeysNodup; rw [decFinish, keys_amod]
      split
      · exact keysNodup_adel (ih _ t h) _
      · exact ih _ t h
    · exact h

theorem decGo_walk (app : String) (r : Res) (rm : Bool) : ∀ (rest : List String) (cur : Path) (t : Tree),
    (∀ p ∈ walk cur rest, ahas t p = true) → ∀ q ∈ walk cur rest, ∀ n, aget t q = some n →
    aget (decGo app r rm cur rest t).1 q = some (decNode app r rm n) ∨
    (q ≠ cur ∧ aget (decGo app r rm cur rest t).1 q = none ∧
      (decNode app r rm n).apps = [] ∧ isZero (decNode app r rm n).usage = true) := by
  intro rest
  induction rest with
  | nil =>
    intro cur t _ q hq n hn
    have : q = cur := by simpa [walk, prefixesFrom] using hq
    subst this
    left; simp only [decGo, decFinish, aget_amod, if_true, hn, Option.map_some]
  | cons c rest ih =>
    intro cur t hpre q hq n hn
    have hpre' : ∀ p ∈ walk (cur ++ [c]) rest, ahas t p = true :=
      fun p hp => hpre p (by rw [walk_cons]; exact List.mem_cons_of_mem _ hp)
    have hhas : ahas t (cur ++ [c]) = true := hpre' _ List.mem_cons_self
    have hne : cur ++ [c] ≠ cur := by intro e; have := congrArg List.length e; simp at this
    have hcur := not_mem_walk_child cur c rest
    simp only [decGo, hhas, if_true, decFinish, aget_amod]
    generalize hres : decGo app r rm (cur ++ [c]) rest t = res
    have ih' := ih (cur ++ [c]) t hpre'
    have hrem := decGo_removable app r rm rest (cur ++ [c]) t
    have hfr := decGo_frame app r rm rest (cur ++ [c]) t
    rw [hres] at ih' hrem hfr
    rw [walk_cons] at hq
    rcases List.mem_cons.mp hq with e | hq'
    · subst e
      left
      have : aget (if res.2 = true then adel res.1 (q ++ [c]) else res.1) q = some n := by
        split
        · rw [aget_adel, if_neg hne, hfr q hcur, hn]
        · rw [hfr q hcur, hn]
      rw [if_pos rfl, this]; rfl
    · have e : cur ≠ q := by intro x; subst x; exact hcur hq'
      rw [if_neg e]
      by_cases hb : res.2 = true ∧ q = cur ++ [c]
      · obtain ⟨hb1, hb2⟩ := hb
        subst hb2
        right
        obtain ⟨n', hn', hr'⟩ := hrem hb1
        rcases ih' _ List.mem_cons_self n hn with h1 | ⟨h1, _⟩
        · rw [h1] at hn'; cases hn'
          exact ⟨Ne.symm e, by rw [if_pos hb1, aget_adel, if_pos rfl], removable_apps hr'⟩
        · exact absurd rfl h1
      · have : aget (if res.2 = true then adel res.1 (cur ++ [c]) else res.1) q = aget res.1 q := by
          split
          · rw [aget_adel, if_neg]; intro x; exact hb ⟨‹_›, x.symm⟩
          · rfl
        rw [this]
        rcases ih' q hq' n hn with h1 | ⟨_, h1, h2, h3⟩
        · exact Or.inl h1
        · exact Or.inr ⟨Ne.symm e, h1, h2, h3⟩

theorem decrease_of_root {q : Path} (hq : q.take 1 = rootPath) (t : Tree) (app : String) (r : Res) (rm : Bool) :
    ∃ rest, decrease t q app r rm = decGo app r rm rootPath rest t := by
  cases q with
  | nil => cases hq
  | cons r0 rest =>
    have : [r0] = rootPath := by simpa using hq
    exact ⟨rest, by rw [← this]; rfl⟩

theorem rootPath_mem_prefixes {q : Path} (h : q.take 1 = rootPath) : rootPath ∈ prefixes q := by
  cases q with
  | nil => cases h
  | cons r0 rest =>
    have : [r0] = rootPath := by simpa using h
    rw [← this]
    exact List.mem_cons_self

/-! ### the accounting invariant -/

/-- tracked usage = sum of the live allocations; the trackers on the path of a live allocation exist, count, and list
    its application -/
structure Inv (t : Tree) (L : List Alloc) : Prop where
  sum : ∀ p k, usageAt t p k = sumLive L p k
  live : ∀ a ∈ L, ∀ p ∈ prefixes a.q, ∃ n, aget t p = some n ∧ n.usage.isSome = true ∧ a.app ∈ n.apps
  uwf : UsageWf t
  rwf : ∀ a ∈ L, wf a.r = true
  nodup : KeysNodup t

def Neutral (t t' : Tree) : Prop := ∀ L, Inv t L → Inv t' L

theorem Neutral.refl (t : Tree) : Neutral t t := fun _ h => h
theorem Neutral.trans {a b c : Tree} (h1 : Neutral a b) (h2 : Neutral b c) : Neutral a c := fun L h => h2 L (h1 L h)

theorem keysNodup_newTree (w : List (Path × Limit)) (b : Bool) : KeysNodup (newTree w b) := by
  unfold KeysNodup keys newTree; simp

theorem aget_newTree (w : List (Path × Limit)) (b : Bool) (p : Path) :
    aget (newTree w b) p = if rootPath = p then some (newNode w b rootPath) else none := by
  unfold newTree; rw [aget_cons, aget_nil]

theorem inv_new (w : List (Path × Limit)) (isUser : Bool) : Inv (newTree w isUser) [] := by
  refine ⟨?_, fun a ha => (by cases ha), ?_, fun a ha => (by cases ha), keysNodup_newTree w isUser⟩
  · intro p k
    unfold usageAt
    rw [aget_newTree, sumLive_nil]
    by_cases e : rootPath = p <;> simp [e, (newNode_usage w isUser p).1]
  · intro p n hn
    rw [aget_newTree] at hn
    split at hn
    · cases hn; rw [(newNode_usage w isUser _).1]; rfl
    · cases hn

theorem inv_inc {t : Tree} {L : List Alloc} (h : Inv t L) (w : List (Path × Limit)) (isUser : Bool) (a : Alloc)
    (hr : wf a.r = true) : Inv (increase w isUser t a.q a.app a.r) (L ++ [a]) := by
  have huw := usageWf_ensurePath w isUser h.uwf a.q
  refine ⟨?_, ?_, ?_, ?_, ?_⟩
  · intro p k
    rw [sumLive_append, ← h.sum, ← usageAt_ensurePath w isUser t a.q p k]
    unfold usageAt
    rw [aget_increase]
    by_cases hp : p ∈ prefixes a.q
    · obtain ⟨n, hn⟩ := ensurePath_has w isUser t a.q p hp
      have : onPath p a.q = true := (onPath_iff _ _).mpr hp
      simp only [hp, if_true, hn, Option.map_some, this]
      exact incNode_usage (huw p n hn) hr a.app k
    · simp [hp, onPath_false hp]
  · intro b hb p hp
    rw [aget_increase]
    rcases List.mem_append.mp hb with hb | hb
    · obtain ⟨n, hn, hs, hm⟩ := h.live b hb p hp
      have hn' : aget (ensurePath w isUser t a.q) p = some n := by rw [aget_ensurePath, hn]
      by_cases hpa : p ∈ prefixes a.q
      · simp only [hpa, if_true, hn', Option.map_some]
        exact ⟨_, rfl, rfl, incNode_apps_mono _ _ _ hm⟩
      · simp only [hpa, if_false, hn']
        exact ⟨_, rfl, hs, hm⟩
    · simp at hb; subst hb
      obtain ⟨n, hn⟩ := ensurePath_has w isUser t b.q p hp
      simp only [hp, if_true, hn, Option.map_some]
      exact ⟨_, rfl, rfl, mem_incNode_apps _ _ _⟩
  · intro p n hn
    rw [aget_increase] at hn
    by_cases hpa : p ∈ prefixes a.q
    · simp only [hpa, if_true] at hn
      cases hq : aget (ensurePath w isUser t a.q) p with
      | none => rw [hq] at hn; cases hn
      | some n0 => rw [hq] at hn; simp at hn; subst hn; exact incNode_usage_wf (huw p n0 hq) _ _
    · simp only [hpa, if_false] at hn; exact huw p n hn
  · intro b hb
    rcases List.mem_append.mp hb with hb | hb
    · exact h.rwf b hb
    · simp at hb; subst hb; exact hr
  · unfold KeysNodup increase
    rw [keys_foldl_amod]
    exact keysNodup_ensurePath w isUser t a.q h.nodup

theorem mem_decNode_apps {n : Node} {app app0 : String} (h : app ∈ n.apps) (r : Res) {rm : Bool}
    (hne : rm = true → app ≠ app0) : app ∈ (decNode app0 r rm n).apps := by
  show app ∈ (if rm then n.apps.filter (· != app0) else n.apps)
  cases rm with
  | false => exact h
  | true => exact List.mem_filter.mpr ⟨h, by simpa using hne rfl⟩

theorem inv_dec {t : Tree} {L : List Alloc} (h : Inv t L) (a : Alloc) (rm : Bool) (ha : a ∈ L)
    (hrm : rm = true → ∀ b ∈ L.erase a, b.app ≠ a.app) : Inv (decrease t a.q a.app a.r rm).1 (L.erase a) := by
  have hr := h.rwf a ha
  cases hq : a.q with
  | nil =>
    simp only [decrease]
    refine ⟨?_, ?_, h.uwf, fun b hb => h.rwf b (List.mem_of_mem_erase hb), h.nodup⟩
    · intro p k
      rw [sumLive_erase ha, h.sum, hq]
      have : onPath p [] = false := rfl
      simp [this]
    · intro b hb; exact h.live b (List.mem_of_mem_erase hb)
  | cons r0 rest =>
    simp only [decrease]
    have hlive : ∀ p ∈ walk [r0] rest, ∃ n, aget t p = some n ∧ n.usage.isSome = true := by
      intro p hp
      rw [← prefixes_eq_walk, ← hq] at hp
      obtain ⟨n, hn, hs, _⟩ := h.live a ha p hp
      exact ⟨n, hn, hs⟩
    have hwalk := decGo_walk a.app a.r rm rest [r0] t
      (fun p hp => by obtain ⟨n, hn, _⟩ := hlive p hp; rw [ahas_eq, hn]; rfl)
    have hframe := decGo_frame a.app a.r rm rest [r0] t
    refine ⟨?_, ?_, ?_, fun b hb => h.rwf b (List.mem_of_mem_erase hb), decGo_keysNodup _ _ _ _ _ _ h.nodup⟩
    · intro p k
      rw [sumLive_erase ha, ← h.sum, hq]
      by_cases hp : p ∈ walk [r0] rest
      · obtain ⟨n, hn, hs⟩ := hlive p hp
        rw [(onPath_iff p (r0 :: rest)).mpr hp, if_pos rfl]
        have hu := decNode_usage (h.uwf p n hn) hs hr a.app rm k
        unfold usageAt
        rw [hn]
        rcases hwalk p hp n hn with hc | ⟨_, hc, _, hz⟩
        · rw [hc]; exact hu
        · rw [hc, ← hu]; exact (isZero_usage_getD hz k).symm
      · rw [usageAt_of_aget_eq (hframe p hp), onPath_false hp]; simp
    · intro b hb p hp
      obtain ⟨n, hn, hs, hm⟩ := h.live b (List.mem_of_mem_erase hb) p hp
      by_cases hw : p ∈ walk [r0] rest
      · have happ : b.app ∈ (decNode a.app a.r rm n).apps := mem_decNode_apps hm a.r (fun hrmv => hrm hrmv b hb)
        rcases hwalk p hw n hn with hc | ⟨_, _, hc, _⟩
        · exact ⟨_, hc, by rw [decNode_usage_isSome]; exact hs, happ⟩
        · rw [hc] at happ; cases happ
      · exact ⟨n, by rw [hframe p hw]; exact hn, hs, hm⟩
    · intro p n' hn'
      by_cases hw : p ∈ walk [r0] rest
      · obtain ⟨n, hn, _⟩ := hlive p hw
        rcases hwalk p hw n hn with hc | ⟨_, hc, _⟩
        · rw [hc] at hn'; cases hn'; exact decNode_usage_wf (h.uwf p n hn) a.r a.app rm
        · rw [hc] at hn'; cases hn'
      · rw [hframe p hw] at hn'; exact h.uwf p n' hn'

theorem neutral_ensurePath (w : List (Path × Limit)) (isUser : Bool) (t : Tree) (q : Path) : Neutral t (ensurePath w isUser t q) := by
  intro L h
  refine ⟨?_, ?_, usageWf_ensurePath w isUser h.uwf q, h.rwf, keysNodup_ensurePath w isUser t q h.nodup⟩
  · intro p k; rw [usageAt_ensurePath]; exact h.sum p k
  · intro a ha p hp
    obtain ⟨n, hn, hs, hm⟩ := h.live a ha p hp
    exact ⟨n, by rw [aget_ensurePath, hn], hs, hm⟩

theorem inv_amod_limits {t : Tree} {L : List Alloc} (h : Inv t L) (q : Path) (f : Node → Node)
    (hf : ∀ n, (f n).usage = n.usage ∧ (f n).apps = n.apps) : Inv (amod t q f) L := by
  refine ⟨?_, ?_, ?_, h.rwf, by unfold KeysNodup; rw [keys_amod]; exact h.nodup⟩
  · intro p k
    rw [← h.sum]; unfold usageAt; rw [aget_amod]
    by_cases e : q = p
    · subst e; cases hh : aget t q with
      | none => simp
      | some n => simp [(hf n).1]
    · simp [e]
  · intro a ha p hp
    obtain ⟨n, hn, hs, hm⟩ := h.live a ha p hp
    rw [aget_amod]
    by_cases e : q = p
    · subst e; rw [hn]; simp only [if_true, Option.map_some]
      exact ⟨_, rfl, by rw [(hf n).1]; exact hs, by rw [(hf n).2]; exact hm⟩
    · simp only [e, if_false]; exact ⟨n, hn, hs, hm⟩
  · intro p n hn
    rw [aget_amod] at hn
    by_cases e : q = p
    · subst e
      cases hh : aget t q with
      | none => rw [hh] at hn; simp at hn
      | some n0 => rw [hh] at hn; simp at hn; subst hn; rw [(hf n0).1]; exact h.uwf _ _ hh
    · simp only [e, if_false] at hn; exact h.uwf _ _ hn

theorem neutral_setLimit (w : List (Path × Limit)) (isUser : Bool) (t : Tree) (q : Path) (mr : ORes) (ma : Nat) (uw ck : Bool) :
    Neutral t (setLimit w isUser t q mr ma uw ck) := by
  intro L h
  unfold setLimit
  apply inv_amod_limits (neutral_ensurePath w isUser t q L h)
  intro n
  by_cases c : (ck && !n.wild) = true
  · simp [c]
  · simp [c]

theorem inv_drop {t t' : Tree} {L : List Alloc} (h : Inv t L) (hk : KeysNodup t')
    (hd : ∀ p, aget t' p = aget t p ∨ (aget t' p = none ∧ ∃ n, aget t p = some n ∧ n.apps = [])) : Inv t' L := by
  refine ⟨?_, ?_, ?_, h.rwf, hk⟩
  · intro p k
    rcases hd p with e | ⟨e, n, hn, hna⟩
    · rw [usageAt_of_aget_eq e]; exact h.sum p k
    · have hz : sumLive L p k = 0 := by
        apply sumLive_zero
        intro a ha hp
        obtain ⟨n', hn', _, hm⟩ := h.live a ha p hp
        rw [hn] at hn'; cases hn'; rw [hna] at hm; cases hm
      rw [hz]; unfold usageAt; rw [e]
  · intro a ha p hp
    obtain ⟨n, hn, hs, hm⟩ := h.live a ha p hp
    rcases hd p with e | ⟨_, n', hn', hna⟩
    · exact ⟨n, by rw [e]; exact hn, hs, hm⟩
    · rw [hn] at hn'; cases hn'; rw [hna] at hm; cases hm
  · intro p n hn
    rcases hd p with e | ⟨e, _⟩
    · rw [e] at hn; exact h.uwf p n hn
    · rw [e] at hn; cases hn

theorem isPrefixOf_self (p : Path) : p.isPrefixOf p = true := by
  induction p with
  | nil => rfl
  | cons a p ih => simp [List.isPrefixOf, ih]

theorem subtreeNoApps_self {t : Tree} {p : Path} {n : Node} (hn : aget t p = some n) (h : subtreeNoApps t p = true) : n.apps = [] := by
  have := List.all_eq_true.mp h (p, n) (aget_mem hn)
  simp only [isPrefixOf_self, Bool.not_true, Bool.false_or, List.isEmpty_iff] at this
  exact this

/-! ### unlink as lookups -/

def unlinkKeeps (t : Tree) (q : Path) (e : Path × Node) : Bool :=
  !(q.isPrefixOf e.1 && decide (q.length < e.1.length) && subtreeNoApps t e.1)

theorem ite_cases {α : Type} (c : Prop) [Decidable c] (a b : α) : (if c then a else b) = b ∨ ((if c then a else b) = a ∧ c) := by
  split
  · exact Or.inr ⟨rfl, ‹c›⟩
  · exact Or.inl rfl

theorem unlink_cases (t : Tree) (q : Path) :
    unlink t q = t.filter (unlinkKeeps t q) ∨
    (unlink t q = adel (t.filter (unlinkKeeps t q)) q ∧ ∀ n, aget (t.filter (unlinkKeeps t q)) q = some n → n.apps = []) := by
  refine (ite_cases _ (adel (t.filter (unlinkKeeps t q)) q) (t.filter (unlinkKeeps t q))).imp_right (fun ⟨e, hc⟩ => ⟨e, fun n hn => ?_⟩)
  unfold unlinkKeeps at hn
  rw [hn] at hc
  simp only [Bool.and_eq_true, List.isEmpty_iff] at hc
  exact hc.2.1

theorem keysNodup_unlink {t : Tree} (h : KeysNodup t) (q : Path) : KeysNodup (unlink t q) := by
  rcases unlink_cases t q with hc | ⟨hc, _⟩ <;> rw [hc]
  · exact keysNodup_filter h _
  · exact keysNodup_adel (keysNodup_filter h _) _

theorem aget_unlink {t : Tree} (hk : KeysNodup t) (q p : Path) :
    aget (unlink t q) p = aget t p ∨
    (q.isPrefixOf p = true ∧ aget (unlink t q) p = none ∧ ∃ n, aget t p = some n ∧ n.apps = []) := by
  have hf : aget (t.filter (unlinkKeeps t q)) p = aget t p ∨
      (q.isPrefixOf p = true ∧ aget (t.filter (unlinkKeeps t q)) p = none ∧ ∃ n, aget t p = some n ∧ n.apps = []) := by
    rw [aget_filter hk]
    cases hn : aget t p with
    | none => exact Or.inl rfl
    | some n =>
      cases c : unlinkKeeps t q (p, n) with
      | true => exact Or.inl (by simp [c])
      | false =>
        simp only [unlinkKeeps, Bool.not_eq_false', Bool.and_eq_true] at c
        exact Or.inr ⟨c.1.1, by simp [unlinkKeeps, c], n, rfl, subtreeNoApps_self hn c.2⟩
  rcases unlink_cases t q with hc | ⟨hc, hq⟩ <;> rw [hc]
  · exact hf
  · rw [aget_adel]
    by_cases e : q = p
    · subst e
      rw [if_pos rfl]
      rcases hf with e1 | ⟨_, _, h2⟩
      · cases hn : aget t q with
        | none => exact Or.inl rfl
        | some n => exact Or.inr ⟨isPrefixOf_self q, rfl, n, rfl, hq n (e1.trans hn)⟩
      · exact Or.inr ⟨isPrefixOf_self q, rfl, h2⟩
    · rw [if_neg e]; exact hf

theorem neutral_unlink (t : Tree) (q : Path) : Neutral t (unlink t q) := fun _ h =>
  inv_drop h (keysNodup_unlink h.nodup q) (fun p => (aget_unlink h.nodup q p).imp_right And.right)

/-- `opOk`: the callers' contract -/
theorem inv_step (isUser : Bool) {s : Tree × List Alloc} (h : Inv s.1 s.2) (op : TOp) (hok : opOk s.2 op) :
    Inv (tstep isUser s op).1 (tstep isUser s op).2 := by
  cases op with
  | inc w a => exact inv_inc h w isUser a hok
  | dec a rm => exact inv_dec h a rm hok.1 hok.2
  | touch w q => exact neutral_ensurePath w isUser _ q _ h
  | setLimit w q mr ma uw ck => exact neutral_setLimit w isUser _ q mr ma uw ck _ h
  | unlink q => exact neutral_unlink _ q _ h

theorem inv_run (isUser : Bool) : ∀ (ops : List TOp) (s : Tree × List Alloc), Inv s.1 s.2 → histOk isUser s ops →
    Inv (ops.foldl (tstep isUser) s).1 (ops.foldl (tstep isUser) s).2 :=
  foldl_hist (fun _ _ _ h => h) (fun _ op h hok => inv_step isUser h op hok)

theorem inv_perm {t : Tree} {L L' : List Alloc} (h : Inv t L) (hp : L.Perm L') : Inv t L' :=
  ⟨fun p k => by rw [h.sum, sumLive_perm hp], fun a ha => h.live a (hp.mem_iff.mpr ha), h.uwf,
   fun a ha => h.rwf a (hp.mem_iff.mpr ha), h.nodup⟩

theorem usage_unique {t t' : Tree} {L L' : List Alloc} (h : Inv t L) (h' : Inv t' L') (hp : L.Perm L') (p : Path) (k : String) :
    usageAt t p k = usageAt t' p k := by
  rw [h.sum, h'.sum, sumLive_perm hp]

theorem mem_erase_append_self {L : List Alloc} {a b : Alloc} (h : b ∈ (L ++ [a]).erase a) : b ∈ L := by
  have := ((List.perm_append_comm (l₁ := L) (l₂ := [a])).erase a).mem_iff.mp h
  rwa [List.singleton_append, List.erase_cons_head] at this

end Yk.Ugm
